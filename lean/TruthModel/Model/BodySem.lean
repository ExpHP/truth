import TruthModel.Model.LowerJumps
/-
Whole flat bodies (C02, composition): the two machines `lowerBody_sound` (Props/C02.lean) relates.

* SOURCE: `AstVm::_run` (`src/vm.rs`) on a flat statement list as `desugar_blocks` leaves it (assignments,
  declarations, calls, labels, `goto`, `if|unless (c) goto`, counting jumps, relative time labels, scope ends):
  a program counter over the statement list; before every statement the VM "waits" until the statement's time
  (`stmt_data[..].time` from `time_and_difficulty`: relative time labels add up and already carry the new time);
  `time` and `real_time` grow together while waiting; a jump goes to the FIRST definition of the label
  (`try_goto`) and sets `time` (never `real_time`) to the time of the jump or of the label; every logged call
  carries the `real_time` at which it was made; the iteration limit is the fuel.
  `runJS` is structurally the same function as `execJ` (Model/LowerJumps.lean).
  This semantics is compared with the real `AstVm` by the `srcvm` cases of the C02 check.

* TARGET: the output of `lowerBodyJ` (every emitted statement stamped with the time of its source statement) run
  the way the VM runs the raised compiled script: the same program-counter machine as `execJ` (`stepJ` per
  statement) plus the waiting rule in front of every instruction (`RegAlloc` / `RegFree` markers and labels are
  not instructions and do not wait) and the `real_time` stamps of the log.  Compared with the real VM on
  `raise(lower(source))` by the `tgtvm` cases.
-/
namespace TruthModel.Lower
open TruthModel TruthModel.Regs

/-! ## the VM state both machines share -/

/-- `AstVm`: store / `instr_log` (opcode, argument values) / `time` in `m`, plus `real_time` and the `real_time`
recorded with every logged call -/
structure VM where
  m : Machine
  real : Int
  stamps : List Int

/-- "wait until this statement's time": `time` and `real_time` advance together, never backwards -/
def VM.waitTo (s : VM) (t : Int) : VM :=
  if s.m.time < t then ⟨{ s.m with time := t }, s.real + (t - s.m.time), s.stamps⟩ else s

/-- the state after a step that took the machine to `m'`: calls logged by the step carry the current `real_time` -/
def VM.after (s : VM) (m' : Machine) : VM :=
  ⟨m', s.real, s.stamps ++ List.replicate (m'.log.length - s.m.log.length) s.real⟩

/-- a jump sets `time` only -/
def VM.setTime (s : VM) (t : Int) : VM := { s with m := { s.m with time := t } }

/-! ## source -/

/-- `AstVm::_run`, arms without control flow (`Lemmas/LowerStmtSound.lean` calls the same function `runStmt`) -/
def runStmtS (F : FloatOps) (diff : Nat) (m : Machine) : SStmt → Outcome Machine
  | .decl _ _ none => .ok m
  | .decl d ty (some e) => runAssign F diff m ⟨.loc d, none, ty⟩ .set e
  | .assign op v e => runAssign F diff m v op e
  | .call opcode args => runCall F diff m opcode args
  | .scopeEnd _ => .ok m
  | .other => .err errUnmodelled

/-- one statement of a flat body: the machine after it and, if it jumps, where to -/
def runStmtJ (F : FloatOps) (diff : Nat) (m : Machine) : JSStmt → Outcome (Machine × Option Goto)
  | .base s => match runStmtS F diff m s with
    | .ok m' => .ok (m', none)
    | .err c => .err c
    | .panic p => .panic p
  | .label _ => .ok (m, none)
  | .goto g => .ok (m, some g)
  | .condGoto kw c g => match evalCond F diff m.store c with
    | .ok (b, σ') => .ok ({ m with store := σ' }, if kw.takes b then some g else none)
    | .err c => .err c
    | .panic p => .panic p
  | .wait _ => .ok (m, none)

/-- `stmt_data[..].time`: a relative time label changes the time of itself and of what follows -/
def stmtTime (t : Int) : JSStmt → Int
  | .wait n => t + n
  | _ => t

/-- the body with the time of every statement (`time_and_difficulty::run`) -/
def stampBody : Int → List JSStmt → List (Int × JSStmt)
  | _, [] => []
  | t, s :: rest => (stmtTime t s, s) :: stampBody (stmtTime t s) rest

/-- the time at the end of the body -/
def endTime : Int → List JSStmt → Int
  | t, [] => t
  | t, s :: rest => endTime (stmtTime t s) rest

/-- index and time of the first definition of label `l` (`AstVm::try_goto`) -/
def findLabelS : List (Int × JSStmt) → Nat → Nat → Option (Nat × Int)
  | [], _, _ => none
  | (t, .label l') :: rest, l, k => if l' = l then some (k, t) else findLabelS rest l (k + 1)
  | _ :: rest, l, k => findLabelS rest l (k + 1)

/-- one iteration of the loop of `_run` -/
def stepS (F : FloatOps) (diff : Nat) (B : List (Int × JSStmt)) (pc : Nat) (s : VM) : Outcome (Option (Nat × VM)) :=
  match B[pc]? with
  | none => .ok none
  | some (t, st) =>
    let s1 := s.waitTo t
    match runStmtJ F diff s1.m st with
    | .ok (m', none) => .ok (some (pc + 1, s1.after m'))
    | .ok (m', some g) => match findLabelS B g.l 0 with
      | none => .panic "jump to undefined label"
      | some (i, tl) => .ok (some (i, (s1.after m').setTime (g.time.getD tl)))
    | .err c => .err c
    | .panic p => .panic p

/-- **runJS**: the source machine from statement `pc`, until it runs off the end of the body -/
def runJS (F : FloatOps) (diff : Nat) (B : List (Int × JSStmt)) : Nat → Nat → VM → Outcome VM
  | 0, _, _ => .panic "out of fuel"
  | fuel + 1, pc, s => match stepS F diff B pc s with
    | .ok none => .ok s
    | .ok (some (pc', s')) => runJS F diff B fuel pc' s'
    | .err c => .err c
    | .panic p => .panic p

/-! ## target -/

/-- the VM state plus the hidden compare register of two-part conditional jumps -/
structure TVM where
  vm : VM
  cmp : Option (Value × Value)

/-- `RegAlloc` / `RegFree` markers and labels are positions in the lowered stream, not instructions: the script
never waits for them (a label at the very end of a script has no instruction whose time could be waited for) -/
def JStmt.isMarker : JStmt → Bool
  | .base (.alloc _ _) => true
  | .base (.free _) => true
  | .label _ _ => true
  | _ => false

/-- one step of the compiled script: wait until the time of the instruction, then `stepJ` -/
def stepT (F : FloatOps) (diff : Nat) (P : List (Int × JStmt)) (pc : Nat) (s : TVM) : Outcome (Option (Nat × TVM)) :=
  match P[pc]? with
  | none => .ok none
  | some (t, st) =>
    let v1 := if st.isMarker then s.vm else s.vm.waitTo t
    match stepJ F diff ⟨v1.m, s.cmp⟩ st with
    | .ok (j', .next) => .ok (some (pc + 1, ⟨v1.after j'.m, j'.cmp⟩))
    | .ok (j', .jump l time) => match findLabelJ (P.map (·.2)) l 0 with
      | none => .panic "jump to undefined label"
      | some (i, tl) => .ok (some (i, ⟨(v1.after j'.m).setTime (time.getD tl), j'.cmp⟩))
    | .err c => .err c
    | .panic p => .panic p

/-- **execT**: the compiled script from program counter `pc`, until it runs off the end -/
def execT (F : FloatOps) (diff : Nat) (P : List (Int × JStmt)) : Nat → Nat → TVM → Outcome TVM
  | 0, _, _ => .panic "out of fuel"
  | fuel + 1, pc, s => match stepT F diff P pc s with
    | .ok none => .ok s
    | .ok (some (pc', s')) => execT F diff P fuel pc' s'
    | .err c => .err c
    | .panic p => .panic p

end TruthModel.Lower
