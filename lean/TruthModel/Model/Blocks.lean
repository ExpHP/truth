import TruthModel.Model.Basic
/-
C06 — model of block desugaring (`src/passes/desugar_blocks.rs`), of the time assignment pass
(`src/passes/semantics/time_and_difficulty.rs`) and of the reference interpreter `AstVm::_run`
(`src/vm.rs`) on both the structured and the flat statement language.

* `Stmt`/`Chain`: structured statements.  Blocks are `List Stmt`; the two `NoInstruction`
  "bookend" statements the parser puts at the start and end of every block are implicit in the
  syntax and explicit in every function below (`nop` in the flat code, one iteration tick and one
  wait in the interpreters).
* lexical time (`endS/endL/endC`): `time_and_difficulty::run` is one running counter over the
  statements in textual order; a statement's time is the counter after its own label.
* `desugarS/desugarL/desugarB/desugarC`: the `Desugarer`, producing the flat code already paired
  with the time the time pass assigns to it (`desugar_times` in `Props/C06.lean` proves that
  re-running the time pass on the stripped flat list gives these times back).
* `runL ..`: executable structured interpreter with the VM's iteration limit;  `Big`: the same
  semantics as a continuation-style big-step relation.
* `stepF/runF`: flat machine (program counter, `goto` = first label of that name in the list,
  time := the label's time), `Exec` its reflexive-transitive closure.
Core Lean only.
-/
namespace TruthModel.Blocks

/-! ## expressions (pure, over `Int32` registers) -/

inductive IOp where
  | add | sub | mul | eq | ne | lt | le | gt | ge
deriving Repr, DecidableEq, Inhabited

def b2i (b : Bool) : Int32 := if b then 1 else 0

def IOp.eval : IOp → Int32 → Int32 → Int32
  | .add, a, b => a + b
  | .sub, a, b => a - b
  | .mul, a, b => a * b
  | .eq, a, b => b2i (a == b)
  | .ne, a, b => b2i (a != b)
  | .lt, a, b => b2i (decide (a < b))
  | .le, a, b => b2i (decide (a ≤ b))
  | .gt, a, b => b2i (decide (b < a))
  | .ge, a, b => b2i (decide (b ≤ a))

inductive Expr where
  | lit (v : Int32)
  | reg (r : Nat)
  | bin (op : IOp) (a b : Expr)
deriving Repr, Inhabited

def Expr.eval (σ : Nat → Int32) : Expr → Int32
  | .lit v => v
  | .reg r => σ r
  | .bin op a b => op.eval (a.eval σ) (b.eval σ)

/-- `AstVm::eval_cond` -/
def Expr.evalB (σ : Nat → Int32) (e : Expr) : Bool := e.eval σ != 0

/-- `Expr::as_const_int`: integer literals only -/
def Expr.asConst : Expr → Option Int32
  | .lit v => some v
  | _ => none

/-! ## structured statements -/

mutual
inductive Stmt where
  | call (op : Nat) (args : List Expr)
  | assign (r : Nat) (e : Expr)
  | tabs (t : Int)                 -- `30:`
  | trel (d : Int)                 -- `+30:`
  | brk                            -- `break;`
  | cbrk (isIf : Bool) (c : Expr)  -- `if (c) break;` / `unless (c) break;`
  | block (b : List Stmt)
  | cond (ch : Chain)
  | loop (b : List Stmt)
  | while_ (c : Expr) (b : List Stmt)
  | doWhile (c : Expr) (b : List Stmt)
  | times (clob : Option Nat) (count : Expr) (b : List Stmt)
inductive Chain where
  | none
  | els (b : List Stmt)
  | elif (isIf : Bool) (c : Expr) (thn : List Stmt) (rest : Chain)
end

instance : Inhabited Stmt := ⟨.brk⟩
instance : Inhabited Chain := ⟨.none⟩

/-- `i32::wrapping_add` on times -/
def wrap32 (x : Int) : Int := Int.bmod x 4294967296

/-- body of a loop statement -/
def Stmt.body : Stmt → List Stmt
  | .loop b => b
  | .while_ _ b => b
  | .doWhile _ b => b
  | .times _ _ b => b
  | _ => []

/-! ## lexical time (`time_and_difficulty::run`) -/

mutual
def endS (lt : Int) : Stmt → Int
  | .tabs t => t
  | .trel d => wrap32 (lt + d)
  | .block b => endL lt b
  | .cond ch => endC lt ch
  | .loop b => endL lt b
  | .while_ _ b => endL lt b
  | .doWhile _ b => endL lt b
  | .times _ _ b => endL lt b
  | _ => lt
def endL (lt : Int) : List Stmt → Int
  | [] => lt
  | s :: ss => endL (endS lt s) ss
def endC (lt : Int) : Chain → Int
  | .none => lt
  | .els b => endL lt b
  | .elif _ _ thn rest => endC (endL lt thn) rest
end

/-! Time labels never make the lexical time go backwards (hypothesis of `desugar_sound`). -/
mutual
def MonoS (lt : Int) : Stmt → Prop
  | .tabs t => lt ≤ t
  | .trel d => lt ≤ wrap32 (lt + d)
  | .block b => MonoL lt b
  | .cond ch => MonoC lt ch
  | .loop b => MonoL lt b
  | .while_ _ b => MonoL lt b
  | .doWhile _ b => MonoL lt b
  | .times _ _ b => MonoL lt b
  | _ => True
def MonoL (lt : Int) : List Stmt → Prop
  | [] => True
  | s :: ss => MonoS lt s ∧ MonoL (endS lt s) ss
def MonoC (lt : Int) : Chain → Prop
  | .none => True
  | .els b => MonoL lt b
  | .elif _ _ thn rest => MonoL lt thn ∧ MonoC (endL lt thn) rest
end

/-- time of a statement itself: labels carry their new time -/
def stmtTime (lt : Int) : Stmt → Int
  | .tabs t => t
  | .trel d => wrap32 (lt + d)
  | _ => lt

/-! ## flat statements -/

inductive CJ where
  | ne   -- `if (--C) goto`        (`CountJmpKind::PredecNeZero`)
  | gt   -- `if (--C > 0) goto`    (`CountJmpKind::PredecGtZero`)
deriving Repr, DecidableEq, Inhabited

inductive Var where
  | reg (r : Nat)
  | tmp (k : Nat)   -- gensym'd local `count<k>` of a `times` without counter
deriving Repr, DecidableEq, Inhabited

inductive FStmt where
  | nop                                  -- block bookend (`NoInstruction`)
  | decl (k : Nat)                       -- `int count<k>;`
  | scopeEnd (k : Nat)
  | call (op : Nat) (args : List Expr)
  | assign (v : Var) (e : Expr)
  | tabs (t : Int)
  | trel (d : Int)
  | label (l : Nat)
  | goto (l : Nat)
  | cjmp (isIf : Bool) (c : Expr) (l : Nat)   -- `if (c) goto l` / `unless (c) goto l`
  | jz (v : Var) (l : Nat)                    -- `if (v == 0) goto l`
  | cntjmp (k : CJ) (v : Var) (l : Nat)       -- `if (--v) goto l` / `if (--v > 0) goto l`
deriving Repr, Inhabited

/-- flat statement with the time assigned to it -/
abbrev AF := Int × FStmt

def FStmt.time (lt : Int) : FStmt → Int
  | .tabs t => t
  | .trel d => wrap32 (lt + d)
  | _ => lt

/-- the time pass on a flat list, starting from lexical time `lt` -/
def annot (lt : Int) : List FStmt → List AF
  | [] => []
  | f :: fs => (f.time lt, f) :: annot (f.time lt) fs

def strip (p : List AF) : List FStmt := p.map (·.2)

/-! ## the Desugarer

One counter `n` plays the role of `ctx.gensym` (labels `@cond#`, `@cond_veryend#`, `@loop#`,
`@times_zero#` and the local `count`); `@loop_end#<loop id>` labels, which the real code names
after the loop id, take their number from the same counter (first, before the loop's other
names).  The correspondence check renumbers generated names by first occurrence on both sides.
`brk` is the label a `break` jumps to. -/

/-- the zero test is omitted iff the count is a non-zero literal -/
def needZeroTest (count : Expr) : Bool :=
  match count.asConst with
  | none => true
  | some v => v == 0

/-- `if (v == 0) goto l`, unless the count is a non-zero literal -/
def zeroTest (lt : Int) (v : Var) (l : Nat) (count : Expr) : List AF :=
  if needZeroTest count then [(lt, .jz v l)] else []

/-- "an unconditional jump over the rest of the blocks, if necessary" -/
def gotoEnd (t : Int) (ve : Nat) : Chain → List AF
  | .none => []
  | _ => [(t, .goto ve)]

/-- a desugared block body with its bookends -/
def bookend (lt tEnd : Int) (r : List AF × Nat) : List AF × Nat :=
  ([(lt, .nop)] ++ r.1 ++ [(tEnd, .nop)], r.2)

mutual
def desugarS (k : CJ) (brk : Nat) (n : Nat) (lt : Int) : Stmt → List AF × Nat
  | .call op args => ([(lt, .call op args)], n)
  | .assign r e => ([(lt, .assign (.reg r) e)], n)
  | .tabs t => ([(t, .tabs t)], n)
  | .trel d => ([(wrap32 (lt + d), .trel d)], n)
  | .brk => ([(lt, .goto brk)], n)
  | .cbrk isIf c => ([(lt, .cjmp isIf c brk)], n)
  | .block b => bookend lt (endL lt b) (desugarL k brk n lt b)
  | .cond ch =>
    -- veryend := n
    let r := desugarC k brk n (n + 1) lt ch
    (r.1 ++ [(endC lt ch, .label n)], r.2)
  | .loop b =>
    -- loop_end := n, loop := n+1
    let r := bookend lt (endL lt b) (desugarL k n (n + 2) lt b)
    ([(lt, .label (n + 1))] ++ r.1 ++ [(endL lt b, .goto (n + 1)), (endL lt b, .label n)], r.2)
  | .doWhile c b =>
    let r := bookend lt (endL lt b) (desugarL k n (n + 2) lt b)
    ([(lt, .label (n + 1))] ++ r.1 ++ [(endL lt b, .cjmp true c (n + 1)), (endL lt b, .label n)], r.2)
  | .while_ c b =>
    -- loop_end := n, skip := n+1, loop := n+2
    let r := bookend lt (endL lt b) (desugarL k n (n + 3) lt b)
    ([(lt, .cjmp false c (n + 1)), (lt, .label (n + 2))] ++ r.1
      ++ [(endL lt b, .cjmp true c (n + 2)), (endL lt b, .label (n + 1)), (endL lt b, .label n)], r.2)
  | .times none count b =>
    -- loop_end := n, count := n+1, times_zero := n+2, loop := n+3
    let r := bookend lt (endL lt b) (desugarL k n (n + 4) lt b)
    ([(lt, .decl (n + 1)), (lt, .assign (.tmp (n + 1)) count)]
      ++ zeroTest lt (.tmp (n + 1)) (n + 2) count
      ++ [(lt, .label (n + 3))] ++ r.1
      ++ [(endL lt b, .cntjmp k (.tmp (n + 1)) (n + 3)), (endL lt b, .label (n + 2)),
          (endL lt b, .scopeEnd (n + 1)), (endL lt b, .label n)], r.2)
  | .times (some x) count b =>
    -- loop_end := n, times_zero := n+1, loop := n+2
    let r := bookend lt (endL lt b) (desugarL k n (n + 3) lt b)
    ([(lt, .assign (.reg x) count)]
      ++ zeroTest lt (.reg x) (n + 1) count
      ++ [(lt, .label (n + 2))] ++ r.1
      ++ [(endL lt b, .cntjmp k (.reg x) (n + 2)), (endL lt b, .label (n + 1)), (endL lt b, .label n)], r.2)
def desugarL (k : CJ) (brk : Nat) (n : Nat) (lt : Int) : List Stmt → List AF × Nat
  | [] => ([], n)
  | s :: ss =>
    let a := desugarS k brk n lt s
    let b := desugarL k brk a.2 (endS lt s) ss
    (a.1 ++ b.1, b.2)
/-- `ve`: the chain's `@cond_veryend#` label -/
def desugarC (k : CJ) (brk : Nat) (ve : Nat) (n : Nat) (lt : Int) : Chain → List AF × Nat
  | .none => ([], n)
  | .els b => bookend lt (endL lt b) (desugarL k brk n lt b)
  | .elif isIf c thn rest =>
    -- skip := n
    let t := bookend lt (endL lt thn) (desugarL k brk (n + 1) lt thn)
    let r := desugarC k brk ve t.2 (endL lt thn) rest
    ([(lt, .cjmp (!isIf) c n)] ++ t.1
      ++ gotoEnd (endL lt thn) ve rest
      ++ [(endL lt thn, .label n)] ++ r.1, r.2)
end

/-- a block with its bookends -/
def desugarB (k : CJ) (brk : Nat) (n : Nat) (lt : Int) (b : List Stmt) : List AF × Nat :=
  bookend lt (endL lt b) (desugarL k brk n lt b)

/-- the whole pass on a script body (a block, with bookends), starting at time 0 and gensym 0 -/
def desugarA (k : CJ) (prog : List Stmt) : List AF := (desugarB k 0 0 0 prog).1
def desugar (k : CJ) (prog : List Stmt) : List FStmt := strip (desugarA k prog)

/-! ## machine state -/

structure Call where
  op : Nat
  rtime : Int
  args : List Int32
deriving Repr, DecidableEq, Inhabited

structure St where
  time : Int
  rtime : Int
  log : List Call          -- most recent first
  regs : Nat → Int32

def i32max : Int := 2147483647

/-- "Wait" until a statement's time.  `none`: the `i32` subtraction or addition overflows, which
is a panic in the profile under test. -/
def wait (t : Int) (st : St) : Option St :=
  if st.time < t then
    if t - st.time > i32max then none
    else if st.rtime + (t - st.time) > i32max then none
    else some { st with time := t, rtime := st.rtime + (t - st.time) }
  else some st

def St.setTime (st : St) (t : Int) : St := { st with time := t }
def St.setReg (st : St) (r : Nat) (v : Int32) : St :=
  { st with regs := fun x => if x = r then v else st.regs x }
def St.doCall (st : St) (op : Nat) (args : List Expr) : St :=
  { st with log := { op := op, rtime := st.rtime, args := args.map (·.eval st.regs) } :: st.log }

/-! ## structured semantics as a relation

Continuation-style: `seq lt ss` runs the statement list `ss` whose first statement sits at
lexical time `lt`; `blk lt b` runs a block with its bookends; `chain lt ch ss` is in the middle
of a cond chain (the remaining chain starts at `lt`), then continues with `ss`;
`iter lt s k ss` is about to run the body of loop statement `s` (hidden counter `k` for `times`
without counter), `again lt s k ss` has just finished the body normally and decides whether to
iterate.  `Out.brk`: a `break` is propagating.

`Mode`: `none` = everything `AstVm` does; `some k` leaves out the runs in which the VM's
treatment of a count differs from count-jump flavour `k` *by design of the VM* (see the rules
`timesNeg` and `againTimesS`). -/

inductive Cfg where
  | seq (lt : Int) (ss : List Stmt)
  | blk (lt : Int) (b : List Stmt)
  | chain (lt : Int) (ch : Chain) (ss : List Stmt)
  | iter (lt : Int) (s : Stmt) (k : Int32) (ss : List Stmt)
  | again (lt : Int) (s : Stmt) (k : Int32) (ss : List Stmt)

inductive Out where
  | done (st : St)
  | brk (st : St)

abbrev Mode := Option CJ

/-- effect of a statement without control flow, at its own time (after the wait) -/
def simpleEff : Stmt → St → Option St
  | .call op args, st => some (st.doCall op args)
  | .assign r e, st => some (st.setReg r (e.eval st.regs))
  | .tabs _, st => some st
  | .trel _, st => some st
  | _, _ => none

inductive Big (m : Mode) : Cfg → St → Out → Prop
  -- statement lists
  | nil (lt st) : Big m (.seq lt []) st (.done st)
  | simple (lt s ss st st0 st1 r) : wait (stmtTime lt s) st = some st0 → simpleEff s st0 = some st1 →
      Big m (.seq (endS lt s) ss) st1 r → Big m (.seq lt (s :: ss)) st r
  | brk (lt ss st st0) : wait lt st = some st0 → Big m (.seq lt (.brk :: ss)) st (.brk st0)
  | cbrkT (lt isIf c ss st st0) : wait lt st = some st0 → c.evalB st0.regs = isIf →
      Big m (.seq lt (.cbrk isIf c :: ss)) st (.brk st0)
  | cbrkF (lt isIf c ss st st0 r) : wait lt st = some st0 → c.evalB st0.regs ≠ isIf →
      Big m (.seq lt ss) st0 r → Big m (.seq lt (.cbrk isIf c :: ss)) st r
  | block (lt b ss st st0 st1 r) : wait lt st = some st0 → Big m (.blk lt b) st0 (.done st1) →
      Big m (.seq (endL lt b) ss) st1 r → Big m (.seq lt (.block b :: ss)) st r
  | blockBrk (lt b ss st st0 st1) : wait lt st = some st0 → Big m (.blk lt b) st0 (.brk st1) →
      Big m (.seq lt (.block b :: ss)) st (.brk st1)
  | cond (lt ch ss st st0 r) : wait lt st = some st0 → Big m (.chain lt ch ss) st0 r →
      Big m (.seq lt (.cond ch :: ss)) st r
  -- blocks with bookends
  | blk (lt b st st0 st1 st2) : wait lt st = some st0 → Big m (.seq lt b) st0 (.done st1) →
      wait (endL lt b) st1 = some st2 → Big m (.blk lt b) st (.done st2)
  | blkBrk (lt b st st0 st1) : wait lt st = some st0 → Big m (.seq lt b) st0 (.brk st1) →
      Big m (.blk lt b) st (.brk st1)
  -- cond chains: `self.time = start_time(block)` on the taken branch, `end_time(last_block)` after
  | chainNone (lt ss st r) : Big m (.seq lt ss) (st.setTime lt) r → Big m (.chain lt .none ss) st r
  | chainEls (lt b ss st st1 r) : Big m (.blk lt b) (st.setTime lt) (.done st1) →
      Big m (.seq (endL lt b) ss) (st1.setTime (endL lt b)) r → Big m (.chain lt (.els b) ss) st r
  | chainElsBrk (lt b ss st st1) : Big m (.blk lt b) (st.setTime lt) (.brk st1) →
      Big m (.chain lt (.els b) ss) st (.brk st1)
  | chainT (lt isIf c thn rest ss st st1 r) : c.evalB st.regs = isIf →
      Big m (.blk lt thn) (st.setTime lt) (.done st1) →
      Big m (.seq (endC lt (.elif isIf c thn rest)) ss) (st1.setTime (endC lt (.elif isIf c thn rest))) r →
      Big m (.chain lt (.elif isIf c thn rest) ss) st r
  | chainTBrk (lt isIf c thn rest ss st st1) : c.evalB st.regs = isIf →
      Big m (.blk lt thn) (st.setTime lt) (.brk st1) →
      Big m (.chain lt (.elif isIf c thn rest) ss) st (.brk st1)
  | chainF (lt isIf c thn rest ss st r) : c.evalB st.regs ≠ isIf →
      Big m (.chain (endL lt thn) rest ss) st r → Big m (.chain lt (.elif isIf c thn rest) ss) st r
  -- one iteration of any loop (`handle_block_of_breakable_stmt!`)
  | iter (lt s k ss st st1 r) : Big m (.blk lt s.body) st (.done st1) → Big m (.again lt s k ss) st1 r →
      Big m (.iter lt s k ss) st r
  | iterBrk (lt s k ss st st1 r) : Big m (.blk lt s.body) st (.brk st1) →
      Big m (.seq (endL lt s.body) ss) (st1.setTime (endL lt s.body)) r → Big m (.iter lt s k ss) st r
  -- loop
  | loop (lt b ss st st0 r) : wait lt st = some st0 → Big m (.iter lt (.loop b) 0 ss) st0 r →
      Big m (.seq lt (.loop b :: ss)) st r
  | againLoop (lt b k ss st r) : Big m (.iter lt (.loop b) k ss) (st.setTime lt) r →
      Big m (.again lt (.loop b) k ss) st r
  -- do-while
  | doWhile (lt c b ss st st0 r) : wait lt st = some st0 → Big m (.iter lt (.doWhile c b) 0 ss) st0 r →
      Big m (.seq lt (.doWhile c b :: ss)) st r
  | againDoT (lt c b k ss st r) : c.evalB st.regs = true → Big m (.iter lt (.doWhile c b) k ss) (st.setTime lt) r →
      Big m (.again lt (.doWhile c b) k ss) st r
  | againDoF (lt c b k ss st r) : c.evalB st.regs = false → Big m (.seq (endL lt b) ss) st r →
      Big m (.again lt (.doWhile c b) k ss) st r
  -- while
  | whileT (lt c b ss st st0 r) : wait lt st = some st0 → c.evalB st0.regs = true →
      Big m (.iter lt (.while_ c b) 0 ss) st0 r → Big m (.seq lt (.while_ c b :: ss)) st r
  | whileF (lt c b ss st st0 r) : wait lt st = some st0 → c.evalB st0.regs = false →
      Big m (.seq (endL lt b) ss) (st0.setTime (endL lt b)) r → Big m (.seq lt (.while_ c b :: ss)) st r
  | againWhT (lt c b k ss st r) : c.evalB st.regs = true → Big m (.iter lt (.while_ c b) k ss) (st.setTime lt) r →
      Big m (.again lt (.while_ c b) k ss) st r
  | againWhF (lt c b k ss st r) : c.evalB st.regs = false → Big m (.seq (endL lt b) ss) st r →
      Big m (.again lt (.while_ c b) k ss) st r
  -- times without counter: `for _ in 0..count`
  | timesZ (lt count b ss st st0 r) : wait lt st = some st0 → count.eval st0.regs = 0 →
      Big m (.seq (endL lt b) ss) (st0.setTime (endL lt b)) r → Big m (.seq lt (.times none count b :: ss)) st r
  | timesNeg (lt count b ss st st0 r) : m = none → wait lt st = some st0 → count.eval st0.regs < 0 →
      Big m (.seq (endL lt b) ss) (st0.setTime (endL lt b)) r → Big m (.seq lt (.times none count b :: ss)) st r
  | timesP (lt count b ss st st0 r) : wait lt st = some st0 → 0 < count.eval st0.regs →
      Big m (.iter lt (.times none count b) (count.eval st0.regs) ss) (st0.setTime lt) r →
      Big m (.seq lt (.times none count b :: ss)) st r
  | againTimesN (lt count b k ss st r) : k - 1 ≠ 0 →
      Big m (.iter lt (.times none count b) (k - 1) ss) (st.setTime lt) r →
      Big m (.again lt (.times none count b) k ss) st r
  | againTimesNEnd (lt count b k ss st r) : k - 1 = 0 → Big m (.seq (endL lt b) ss) st r →
      Big m (.again lt (.times none count b) k ss) st r
  -- times with counter register
  | timesSZ (lt x count b ss st st0 r) : wait lt st = some st0 → count.eval st0.regs = 0 →
      Big m (.seq (endL lt b) ss) ((st0.setReg x 0).setTime (endL lt b)) r →
      Big m (.seq lt (.times (some x) count b :: ss)) st r
  | timesSP (lt x count b ss st st0 r) : wait lt st = some st0 → count.eval st0.regs ≠ 0 →
      Big m (.iter lt (.times (some x) count b) 0 ss) ((st0.setReg x (count.eval st0.regs)).setTime lt) r →
      Big m (.seq lt (.times (some x) count b :: ss)) st r
  | againTimesS (lt x count b k ss st r) : st.regs x ≠ Int32.minValue → st.regs x - 1 ≠ 0 →
      (m = some .gt → 0 < st.regs x - 1) →
      Big m (.iter lt (.times (some x) count b) k ss) ((st.setReg x (st.regs x - 1)).setTime lt) r →
      Big m (.again lt (.times (some x) count b) k ss) st r
  | againTimesSEnd (lt x count b k ss st r) : st.regs x ≠ Int32.minValue → st.regs x - 1 = 0 →
      Big m (.seq (endL lt b) ss) (st.setReg x 0) r →
      Big m (.again lt (.times (some x) count b) k ss) st r

/-! ## executable structured interpreter (`AstVm::_run` with `max_iterations`)

The `Mode` argument only adds two guards (see `runL`, `.times none`, and `runIter`,
`.times (some x)`); with `m = none` they are never taken and the functions are the VM. -/

inductive Res where
  | done (st : St) (it : Nat)
  | brk (st : St) (it : Nat)
  | limit                    -- "iteration limit exceeded!"
  | panic (msg : String)
  | fuel                     -- recursion fuel of the model exhausted (never with `defaultFuel`)

def waitMsg (t : Int) (st : St) : String :=
  if t - st.time > i32max then "attempt to subtract with overflow" else "attempt to add with overflow"

/-- `then`-combinator for a nested run: `done` continues, everything else propagates -/
@[inline] def Res.andThen (r : Res) (f : St → Nat → Res) : Res :=
  match r with
  | .done st it => f st it
  | r => r

/-- after the body of a breakable statement: `break` = `self.time = end_time(block)` and go on -/
@[inline] def Res.loopThen (r : Res) (tEnd : Int) (onDone : St → Nat → Res) (onBrk : St → Nat → Res) : Res :=
  match r with
  | .done st it => onDone st it
  | .brk st it => onBrk (st.setTime tEnd) it
  | r => r

mutual
/-- statements of a list, in order; `it` = iterations used so far -/
def runL (m : Mode) (max : Nat) : (fuel : Nat) → (lt : Int) → List Stmt → St → Nat → Res
  | 0, _, _, _, _ => .fuel
  | _ + 1, _, [], st, it => .done st it
  | fuel + 1, lt, s :: ss, st, it =>
    if it ≥ max then .limit else
    let it := it + 1
    match wait (stmtTime lt s) st with
    | none => .panic (waitMsg (stmtTime lt s) st)
    | some st0 =>
      match s with
      | .call op args => runL m max fuel lt ss (st0.doCall op args) it
      | .assign r e => runL m max fuel lt ss (st0.setReg r (e.eval st0.regs)) it
      | .tabs t => runL m max fuel t ss st0 it
      | .trel d => runL m max fuel (wrap32 (lt + d)) ss st0 it
      | .brk => .brk st0 it
      | .cbrk isIf c => if c.evalB st0.regs = isIf then .brk st0 it else runL m max fuel lt ss st0 it
      | .block b => (runB m max fuel lt b st0 it).andThen fun st1 it => runL m max fuel (endL lt b) ss st1 it
      | .cond ch => (runC m max fuel lt ch st0 it).andThen fun st1 it => runL m max fuel (endC lt ch) ss st1 it
      | .loop b => (runIter m max fuel lt (.loop b) 0 st0 it).andThen fun st1 it => runL m max fuel (endL lt b) ss st1 it
      | .doWhile c b => (runIter m max fuel lt (.doWhile c b) 0 st0 it).andThen fun st1 it => runL m max fuel (endL lt b) ss st1 it
      | .while_ c b =>
        if c.evalB st0.regs then
          (runIter m max fuel lt (.while_ c b) 0 st0 it).andThen fun st1 it => runL m max fuel (endL lt b) ss st1 it
        else runL m max fuel (endL lt b) ss (st0.setTime (endL lt b)) it
      | .times none count b =>
        let n := count.eval st0.regs
        if n < 0 ∧ m ≠ none then .panic "excluded by the mode: negative times count"
        else if n ≤ 0 then runL m max fuel (endL lt b) ss (st0.setTime (endL lt b)) it
        else (runIter m max fuel lt (.times none count b) n (st0.setTime lt) it).andThen fun st1 it =>
          runL m max fuel (endL lt b) ss st1 it
      | .times (some x) count b =>
        let n := count.eval st0.regs
        if n = 0 then runL m max fuel (endL lt b) ss ((st0.setReg x 0).setTime (endL lt b)) it
        else (runIter m max fuel lt (.times (some x) count b) 0 ((st0.setReg x n).setTime lt) it).andThen fun st1 it =>
          runL m max fuel (endL lt b) ss st1 it
/-- a block with its two bookend statements -/
def runB (m : Mode) (max : Nat) : (fuel : Nat) → (lt : Int) → List Stmt → St → Nat → Res
  | 0, _, _, _, _ => .fuel
  | fuel + 1, lt, b, st, it =>
    if it ≥ max then .limit else
    match wait lt st with
    | none => .panic (waitMsg lt st)
    | some st0 =>
      (runL m max fuel lt b st0 (it + 1)).andThen fun st1 it =>
        if it ≥ max then .limit else
        match wait (endL lt b) st1 with
        | none => .panic (waitMsg (endL lt b) st1)
        | some st2 => .done st2 (it + 1)
/-- the rest of a cond chain starting at lexical time `lt` -/
def runC (m : Mode) (max : Nat) : (fuel : Nat) → (lt : Int) → Chain → St → Nat → Res
  | 0, _, _, _, _ => .fuel
  | _ + 1, lt, .none, st, it => .done (st.setTime lt) it
  | fuel + 1, lt, .els b, st, it =>
    (runB m max fuel lt b (st.setTime lt) it).andThen fun st1 it => .done (st1.setTime (endL lt b)) it
  | fuel + 1, lt, .elif isIf c thn rest, st, it =>
    if c.evalB st.regs = isIf then
      (runB m max fuel lt thn (st.setTime lt) it).andThen fun st1 it =>
        .done (st1.setTime (endC lt (.elif isIf c thn rest))) it
    else runC m max fuel (endL lt thn) rest st it
/-- run the body of loop statement `s` once, then decide (`k`: hidden counter of `times(n)`);
returns after the whole loop, with the time the VM leaves behind -/
def runIter (m : Mode) (max : Nat) : (fuel : Nat) → (lt : Int) → Stmt → Int32 → St → Nat → Res
  | 0, _, _, _, _, _ => .fuel
  | fuel + 1, lt, s, k, st, it =>
    (runB m max fuel lt s.body st it).loopThen (endL lt s.body)
      (fun st1 it =>
        match s with
        | .loop _ => runIter m max fuel lt s k (st1.setTime lt) it
        | .doWhile c _ => if c.evalB st1.regs then runIter m max fuel lt s k (st1.setTime lt) it else .done st1 it
        | .while_ c _ => if c.evalB st1.regs then runIter m max fuel lt s k (st1.setTime lt) it else .done st1 it
        | .times none _ _ => if k - 1 = 0 then .done st1 it else runIter m max fuel lt s (k - 1) (st1.setTime lt) it
        | .times (some x) _ _ =>
          if st1.regs x = Int32.minValue then .panic "attempt to subtract with overflow"
          else if st1.regs x - 1 = 0 then .done (st1.setReg x 0) it
          else if m = some .gt ∧ ¬ 0 < st1.regs x - 1 then .panic "excluded by the mode: counter not positive"
          else runIter m max fuel lt s k ((st1.setReg x (st1.regs x - 1)).setTime lt) it
        | _ => .done st1 it)
      (fun st1 it => .done st1 it)
end

/- size of a program (bound on the nesting of the interpreter between two iteration ticks) -/
mutual
def sizeS : Stmt → Nat
  | .block b => sizeL b + 1
  | .cond ch => sizeC ch + 1
  | .loop b => sizeL b + 1
  | .while_ _ b => sizeL b + 1
  | .doWhile _ b => sizeL b + 1
  | .times _ _ b => sizeL b + 1
  | _ => 1
def sizeL : List Stmt → Nat
  | [] => 1
  | s :: ss => sizeS s + sizeL ss
def sizeC : Chain → Nat
  | .none => 1
  | .els b => sizeL b + 1
  | .elif _ _ thn rest => sizeL thn + sizeC rest + 1
end

def defaultFuel (max : Nat) (prog : List Stmt) : Nat := (max + 4) * (sizeL prog + 8)

def St.init (regs : Nat → Int32) : St := { time := 0, rtime := 0, log := [], regs := regs }

/-- `AstVm::new().with_max_iterations(max).run(prog)` from the given registers (`m = none`; with
`m = some k` the runs that `Big (some k)` leaves out end in `.panic "excluded .."`) -/
def runSM (m : Mode) (max : Nat) (prog : List Stmt) (regs : Nat → Int32) : Res :=
  runB m max (defaultFuel max prog) 0 prog (St.init regs) 0

def runS (max : Nat) (prog : List Stmt) (regs : Nat → Int32) : Res := runSM none max prog regs

/-! ## flat machine -/

structure FS where
  st : St
  tmps : Nat → Int32

def FS.get (fs : FS) : Var → Int32
  | .reg r => fs.st.regs r
  | .tmp k => fs.tmps k

def FS.set (fs : FS) (v : Var) (x : Int32) : FS :=
  match v with
  | .reg r => { fs with st := fs.st.setReg r x }
  | .tmp k => { fs with tmps := fun j => if j = k then x else fs.tmps j }

def CJ.test : CJ → Int32 → Bool
  | .ne, x => x != 0
  | .gt, x => decide (0 < x)

/-- effect of one flat statement at its time: new state and the label jumped to, if any -/
def effect (a : AF) (fs : FS) : Option (FS × Option Nat) :=
  match wait a.1 fs.st with
  | none => none
  | some st0 =>
    let fs0 : FS := { fs with st := st0 }
    match a.2 with
    | .nop => some (fs0, none)
    | .decl _ => some (fs0, none)
    | .scopeEnd _ => some (fs0, none)
    | .tabs _ => some (fs0, none)
    | .trel _ => some (fs0, none)
    | .label _ => some (fs0, none)
    | .call op args => some ({ fs0 with st := st0.doCall op args }, none)
    | .assign v e => some (fs0.set v (e.eval st0.regs), none)
    | .goto l => some (fs0, some l)
    | .cjmp isIf c l => some (fs0, if c.evalB st0.regs = isIf then some l else none)
    | .jz v l => some (fs0, if fs0.get v = 0 then some l else none)
    | .cntjmp k v l =>
      let x := fs0.get v - 1     -- `i32::wrapping_add(old, -1)`
      some (fs0.set v x, if k.test x then some l else none)

def FStmt.isLabel (l : Nat) : FStmt → Bool
  | .label l' => l' == l
  | _ => false

/-- `AstVm::try_goto`: index of the first label of that name -/
def findLabel (P : List AF) (l : Nat) : Option Nat := P.findIdx? (fun a => a.2.isLabel l)

def FS.setTime (fs : FS) (t : Int) : FS := { fs with st := fs.st.setTime t }

/-- one step of the flat machine at program counter `pc` -/
def stepF (P : List AF) (pc : Nat) (fs : FS) : Option (Nat × FS) :=
  match P[pc]? with
  | none => none
  | some a =>
    match effect a fs with
    | none => none
    | some (fs1, none) => some (pc + 1, fs1)
    | some (fs1, some l) =>
      match findLabel P l with
      | none => none
      | some i =>
        match P[i]? with
        | none => none
        | some b => some (i, fs1.setTime b.1)

inductive Exec (P : List AF) : Nat → FS → Nat → FS → Prop
  | refl (pc fs) : Exec P pc fs pc fs
  | step (pc fs pc1 fs1 pc2 fs2) : stepF P pc fs = some (pc1, fs1) → Exec P pc1 fs1 pc2 fs2 → Exec P pc fs pc2 fs2

inductive FRes where
  | done (fs : FS) (it : Nat)
  | limit
  | panic (msg : String)
  | stuck (msg : String)   -- jump to a label that does not exist (the VM panics)
  | fuel

def effectMsg (a : AF) (fs : FS) : String := waitMsg a.1 fs.st

/-- executable flat run with the VM's iteration limit -/
def runF (max : Nat) (P : List AF) : (fuel : Nat) → (pc : Nat) → FS → Nat → FRes
  | 0, _, _, _ => .fuel
  | fuel + 1, pc, fs, it =>
    match P[pc]? with
    | none => .done fs it
    | some a =>
      if it ≥ max then .limit else
      match effect a fs with
      | none => .panic (effectMsg a fs)
      | some (fs1, none) => runF max P fuel (pc + 1) fs1 (it + 1)
      | some (fs1, some l) =>
        match findLabel P l with
        | none => .stuck "AST VM tried to jump"
        | some i =>
          match P[i]? with
          | none => .stuck "AST VM tried to jump"
          | some b => runF max P fuel i (fs1.setTime b.1) (it + 1)

def FS.init (regs : Nat → Int32) : FS := { st := St.init regs, tmps := fun _ => 0 }

/-- `AstVm` on the desugared program -/
def runFlat (k : CJ) (max : Nat) (prog : List Stmt) (regs : Nat → Int32) : FRes :=
  runF max (annot 0 (desugar k prog)) (max + 2) 0 (FS.init regs) 0

end TruthModel.Blocks
