import TruthModel.Model.LowerSem
/-
The expression compiler of `src/llir/lower/stackless.rs` WITH labels and jumps: everything of
`Model/Lower.lean` (which stays the straight-line restriction; `Lemmas/LowerStmtSound.lean` proves that the two agree
on integer expressions, `lowerSetJ_eq`) plus

* `lower_uncond_jump`                       `goto L` / `goto L @ t`
* `lower_cond_jump` / `lower_count_jump_or_bust` / `lower_count_jump_intrinsic`
                                            `if (--x) goto L`, `if (--x > 0) goto L`, `unless (--x) ...`
* `lower_cond_jump_non_count`               dispatch on the shape of the condition
* `lower_cond_jump_comparison` / `lower_cond_jump_intrinsic`
                                            temporaries for complex operands, `unless` by `negate_comparison`,
                                            one `CondJmp` or the pair `CondJmp2A` + `CondJmp2B`
* `lower_cond_jump_logic_binop`             `&&` `||` through a skip label
* `lower_assign_direct_ternary`             `v = c ? a : b` through two labels
* the alternatives of `src/llir/intrinsic.rs::discover_alternatives` for jumps (`cond_jmps`, `count_jmps`)
* `IntrinsicBuilder::into_vec` / `populate_time_args` (argument order of jump instructions),
  `gather_label_info` / `encode_labels` (labels become positions in the final instruction list).

The Rust code re-enters `lower_cond_jump_comparison` with an operand replaced by its temporary; here it is
"operand A, operand B, the primitive" (same emitted code, which is what the correspondence check compares).
All recursion takes fuel (at most five calls lead from an expression to a proper subexpression).

Semantics: `stepJ` gives every jump instruction the meaning of the statement it is raised to
(`src/llir/raise/late.rs`): `CondJmp(op)` is `if (a op b) goto L @ t`, `CountJmp()` is `if (--x) goto`,
`CountJmp(op=">")` is `if (--x > 0) goto`; the pair `CondJmp2A` / `CondJmp2B` communicates through a hidden
compare register.  `execJ` runs a whole lowered stream with a program counter and fuel; `execFrag` is the
structural (fuel-free) execution of a code fragment whose jumps go forward or out of the fragment, which is
all the compiler emits for one statement.
-/
namespace TruthModel.Lower
open TruthModel TruthModel.Regs

/-! ## source: conditions and jump statements -/

/-- `ast::CondKeyword` -/
inductive Kw where
  | kif | kunless
deriving Repr, DecidableEq, Inhabited

/-- `CondKeyword::negate` -/
def Kw.negate : Kw → Kw
  | .kif => .kunless
  | .kunless => .kif

/-- `alternatives::CountJmpKind`: `PredecNeZero`, `PredecGtZero` -/
inductive CountKind where
  | ne | gt
deriving Repr, DecidableEq, Inhabited

/-- `BinOpKind::negate_comparison` -/
def negateCmp : BinOp → Option BinOp
  | .eq => some .ne | .ne => some .eq
  | .le => some .gt | .ge => some .lt
  | .lt => some .ge | .gt => some .le
  | _ => none

/-- `ast::StmtGoto` -/
structure Goto where
  l : Nat
  time : Option Int
deriving Repr, Inhabited

/-- the condition of a conditional jump as `CountJmpKind::of_cond` sees it: `--x` / `--x != 0` / `--x > 0`
at the top, or any other expression -/
inductive JCond where
  | expr (e : SExpr)
  | predec (v : VarRef) (k : CountKind)
deriving Repr, Inhabited

inductive JSStmt where
  /-- declaration, assignment, call, scope end (ternaries allowed in their expressions) -/
  | base (s : SStmt)
  | label (l : Nat)
  | goto (g : Goto)
  | condGoto (kw : Kw) (c : JCond) (g : Goto)
  /-- relative time label `+n:` -/
  | wait (n : Int)
deriving Repr, Inhabited

/-! ## lowered form -/

inductive JStmt where
  | base (s : LStmt)
  /-- `LowerStmt::Label { time, label }` -/
  | label (time : Int) (l : Nat)
  /-- `Jmp` -/
  | jmp (mask : Nat) (l : Nat) (time : Option Int)
  /-- `CondJmp(op, ty)` -/
  | condJmp (mask : Nat) (op : BinOp) (ty : RTy) (a b : Arg) (l : Nat) (time : Option Int)
  /-- `CondJmp2A(ty)` -/
  | cmp (mask : Nat) (ty : RTy) (a b : Arg)
  /-- `CondJmp2B(op)` -/
  | cmpJmp (mask : Nat) (op : BinOp) (l : Nat) (time : Option Int)
  /-- `CountJmp(op)` -/
  | countJmp (mask : Nat) (k : CountKind) (x : Arg) (l : Nat) (time : Option Int)
deriving Repr, Inhabited

def liftCode (c : List LStmt) : List JStmt := c.map .base

/-- the jump intrinsics a language has, next to the arithmetic ones -/
structure JIntrinsics where
  base : Intrinsics
  jmp : Option Nat
  condJmp : BinOp → RTy → Option Nat
  cmp : RTy → Option Nat
  cmpJmp : BinOp → Option Nat
  countJmp : CountKind → Option Nat

/-- `alternatives::CondJmp` -/
inductive CondAlt where
  | intrinsic | twoPart
deriving Repr, DecidableEq

/-- `discover_alternatives`, conditional jumps: the single instruction is preferred; otherwise the pair
needs both halves -/
def JIntrinsics.condAlt (I : JIntrinsics) (op : BinOp) (ty : RTy) : Option CondAlt :=
  match I.condJmp op ty with
  | some _ => some .intrinsic
  | none => match I.cmp ty, I.cmpJmp op with
    | some _, some _ => some .twoPart
    | _, _ => none

/-- `lower_uncond_jump` -/
def lowerJmp (I : JIntrinsics) (mask : Nat) (tgt : Goto) : Outcome (List JStmt) :=
  match I.jmp with
  | none => .err errUnsupported
  | some _ => .ok [.jmp mask tgt.l tgt.time]

/-- `lower_cond_jump_intrinsic` after the `if`/`unless` adjustment of `lower_cond_jump_comparison` -/
def condJmpAtom (I : JIntrinsics) (mask : Nat) (kw : Kw) (op : BinOp) (tyA tyB : RTy) (a b : Arg) (tgt : Goto) :
    Outcome (List JStmt) :=
  let op' : Option BinOp := match kw with
    | .kif => some op
    | .kunless => negateCmp op
  match op' with
  | none => .panic "lower_cond_jump_comparison called with non-comparison operator"
  | some op' =>
    if tyA ≠ tyB then .panic "assertion failed: should've been type-checked" else
    match I.condAlt op' tyA with
    | none => .err errUnsupported
    | some .intrinsic => .ok [.condJmp mask op' tyA a b tgt.l tgt.time]
    | some .twoPart => .ok [.cmp mask tyA a b, .cmpJmp mask op' tgt.l tgt.time]

/-- `lower_count_jump_or_bust` / `lower_count_jump_intrinsic`; `lg` is the next fresh label -/
def lowerCountJmp (I : JIntrinsics) (lg : Nat) (t : Int) (mask : Nat) (kw : Kw) (v : VarRef) (k : CountKind) (tgt : Goto) :
    Outcome (List JStmt × Nat) :=
  match I.countJmp k with
  | none => .err errUnsupported
  | some _ =>
    if v.readTy ≠ .int then .panic "assertion failed: shoulda been type-checked!" else
    match kw with
    | .kif => .ok ([.countJmp mask k v.lowered tgt.l tgt.time], lg)
    | .kunless =>
      -- `if (--var) goto skip; goto label; skip:`
      let skip := lg
      match lowerJmp I mask tgt with
      | .ok j => .ok (.countJmp mask k v.lowered skip none :: j ++ [.label t skip], lg + 1)
      | .err x => .err x
      | .panic x => .panic x

/-- result of lowering an operand, with both counters -/
structure OperandJ where
  code : List JStmt
  atom : Arg
  ty : RTy
  gen : Gen
  lgen : Nat
  free : Option Def

def freeOfJ (o : Option Def) : List JStmt := liftCode (freeOf o)

def liftAtom (r : Outcome (List LStmt)) (g lg : Nat) : Outcome (List JStmt × Gen × Nat) :=
  match r with
  | .ok c => .ok (liftCode c, g, lg)
  | .err x => .err x
  | .panic x => .panic x

mutual
/-- `lower_assign_op` for `v = e` -/
def lowerSetJ (I : JIntrinsics) (db ab : Nat) : Nat → Gen → Nat → Int → Nat → VarRef → SExpr → Outcome (List JStmt × Gen × Nat)
  | 0, _, _, _, _, _, _ => .panic "out of fuel"
  | fuel + 1, g, lg, t, mask, v, e =>
    match e.simple? with
    | some a => liftAtom (lowerAssignAtom I.base mask v .set a) g lg
    | none =>
      let tm := e.temp
      if tm.readTy ≠ tm.tmpTy then
        let d := g
        match lowerSetJ I db ab fuel (g + 1) lg t mask (tmpVar d tm.tmpTy) tm.tmpExpr with
        | .ok (c1, g1, lg1) =>
          match lowerAssignAtom I.base mask v .set (.loc d tm.readTy) with
          | .ok c2 => .ok (.base (.alloc d tm.tmpTy) :: c1 ++ liftCode c2 ++ [.base (.free d)], g1, lg1)
          | .err x => .err x
          | .panic x => .panic x
        | .err x => .err x
        | .panic x => .panic x
      else
        match tm.tmpExpr with
        | .binop op a b => lowerBinopJ I db ab fuel g lg t mask v op a b
        | .unop op b => lowerUnopJ I db ab fuel g lg t mask v op b
        | .switch cs => lowerSwitchJ I db ab fuel g lg t mask v (explicitCases cs 0 none)
        | .ternary c l r => lowerTernaryJ I db ab fuel g lg t mask v c l r
        | _ => .err errUnsupported

/-- one operand of a binary / unary operation (see `lowerOperand`) -/
def lowerOperandJ (I : JIntrinsics) (db ab : Nat) : Nat → Gen → Nat → Int → Nat → VarRef → RTy → Bool → SExpr → Outcome OperandJ
  | 0, _, _, _, _, _, _, _, _ => .panic "out of fuel"
  | fuel + 1, g, lg, t, mask, v, tyRhs, guard, e =>
    match e.simple? with
    | some a => .ok ⟨[], a, e.simpleTy, g, lg, none⟩
    | none =>
      let tm := e.temp
      if tm.tmpTy = tyRhs ∧ tm.tmpTy = tm.readTy ∧ guard then
        match lowerSetJ I db ab fuel g lg t mask v tm.tmpExpr with
        | .ok (c, g1, lg1) => .ok ⟨c, v.toArg tm.readTy, tm.readTy, g1, lg1, none⟩
        | .err x => .err x
        | .panic x => .panic x
      else
        let d := g
        match lowerSetJ I db ab fuel (g + 1) lg t mask (tmpVar d tm.tmpTy) tm.tmpExpr with
        | .ok (c, g1, lg1) => .ok ⟨.base (.alloc d tm.tmpTy) :: c, .loc d tm.readTy, tm.readTy, g1, lg1, some d⟩
        | .err x => .err x
        | .panic x => .panic x

/-- `lower_assign_direct_binop` -/
def lowerBinopJ (I : JIntrinsics) (db ab : Nat) : Nat → Gen → Nat → Int → Nat → VarRef → BinOp → SExpr → SExpr → Outcome (List JStmt × Gen × Nat)
  | 0, _, _, _, _, _, _, _, _ => .panic "out of fuel"
  | fuel + 1, g, lg, t, mask, v, op, a, b =>
    let tyRhs := binopTy op a.ty
    match lowerOperandJ I db ab fuel g lg t mask v tyRhs (!b.uses v.name) a with
    | .ok A =>
      let aUsesV := operandUses a v.name A.free
      match lowerOperandJ I db ab fuel A.gen A.lgen t mask v tyRhs (!aUsesV) b with
      | .ok B =>
        match lowerBinopAtom I.base mask v op A.ty A.atom B.atom with
        | .ok c => .ok (A.code ++ (B.code ++ (liftCode c ++ (freeOfJ B.free ++ freeOfJ A.free))), B.gen, B.lgen)
        | .err x => .err x
        | .panic x => .panic x
      | .err x => .err x
      | .panic x => .panic x
    | .err x => .err x
    | .panic x => .panic x

/-- `lower_assign_direct_unop` -/
def lowerUnopJ (I : JIntrinsics) (db ab : Nat) : Nat → Gen → Nat → Int → Nat → VarRef → UnOp → SExpr → Outcome (List JStmt × Gen × Nat)
  | 0, _, _, _, _, _, _, _ => .panic "out of fuel"
  | fuel + 1, g, lg, t, mask, v, op, b =>
    let tyRhs := unopTy op b.ty
    match lowerOperandJ I db ab fuel g lg t mask v tyRhs true b with
    | .ok B =>
      match lowerUnopAtom I.base mask v op B.ty B.atom with
      | .ok c => .ok (B.code ++ (liftCode c ++ freeOfJ B.free), B.gen, B.lgen)
      | .err x => .err x
      | .panic x => .panic x
    | .err x => .err x
    | .panic x => .panic x

/-- `lower_assign_diff_switch` -/
def lowerSwitchJ (I : JIntrinsics) (db ab : Nat) : Nat → Gen → Nat → Int → Nat → VarRef → List (Nat × SExpr) → Outcome (List JStmt × Gen × Nat)
  | 0, _, _, _, _, _, _ => .panic "out of fuel"
  | _ + 1, g, lg, _, _, _, [] => .ok ([], g, lg)
  | fuel + 1, g, lg, t, mask, v, (caseMask, c) :: rest =>
    let newMask := ((mask &&& db) &&& caseMask) ||| (mask &&& ab)
    let first : Outcome (List JStmt × Gen × Nat) :=
      if newMask = 0 then .ok ([], g, lg) else lowerSetJ I db ab fuel g lg t newMask v c
    match first with
    | .ok (c1, g1, lg1) =>
      match lowerSwitchJ I db ab fuel g1 lg1 t mask v rest with
      | .ok (c2, g2, lg2) => .ok (c1 ++ c2, g2, lg2)
      | .err x => .err x
      | .panic x => .panic x
    | .err x => .err x
    | .panic x => .panic x

/-- `lower_assign_direct_ternary`:
`unless (c) goto false; v = l; goto end; false: v = r; end:` -/
def lowerTernaryJ (I : JIntrinsics) (db ab : Nat) : Nat → Gen → Nat → Int → Nat → VarRef → SExpr → SExpr → SExpr → Outcome (List JStmt × Gen × Nat)
  | 0, _, _, _, _, _, _, _, _ => .panic "out of fuel"
  | fuel + 1, g, lg, t, mask, v, c, l, r =>
    let falseL := lg
    let endL := lg + 1
    match lowerCondJ I db ab fuel g (lg + 2) t mask .kunless c ⟨falseL, none⟩ with
    | .ok (c1, g1, lg1) =>
      match lowerSetJ I db ab fuel g1 lg1 t mask v l with
      | .ok (c2, g2, lg2) =>
        match lowerJmp I mask ⟨endL, none⟩ with
        | .ok j =>
          match lowerSetJ I db ab fuel g2 lg2 t mask v r with
          | .ok (c3, g3, lg3) => .ok (c1 ++ (c2 ++ (j ++ (.label t falseL :: (c3 ++ [.label t endL])))), g3, lg3)
          | .err x => .err x
          | .panic x => .panic x
        | .err x => .err x
        | .panic x => .panic x
      | .err x => .err x
      | .panic x => .panic x
    | .err x => .err x
    | .panic x => .panic x

/-- `lower_cond_jump_non_count` -/
def lowerCondJ (I : JIntrinsics) (db ab : Nat) : Nat → Gen → Nat → Int → Nat → Kw → SExpr → Goto → Outcome (List JStmt × Gen × Nat)
  | 0, _, _, _, _, _, _, _ => .panic "out of fuel"
  | fuel + 1, g, lg, t, mask, kw, e, tgt =>
    match e with
    | .binop op a b =>
      if isComparison op then lowerCmpJ I db ab fuel g lg t mask kw a op b tgt
      else if op = .land ∨ op = .lor then lowerLogicJ I db ab fuel g lg t mask kw a op b tgt
      else if e.ty ≠ .int then .panic "assertion failed: ty == ScalarType::Int"
      else lowerCmpJ I db ab fuel g lg t mask kw e .ne (.litI 0) tgt
    | .unop .not b => lowerCondJ I db ab fuel g lg t mask kw.negate b tgt
    | _ =>
      -- other arbitrary expressions: `<if|unless> (<expr> != 0)`
      if e.ty ≠ .int then .panic "assertion failed: ty == ScalarType::Int"
      else lowerCmpJ I db ab fuel g lg t mask kw e .ne (.litI 0) tgt

/-- an operand of a comparison: as it is if simple, else `define_temporary` -/
def lowerTempJ (I : JIntrinsics) (db ab : Nat) : Nat → Gen → Nat → Int → Nat → SExpr → Outcome OperandJ
  | 0, _, _, _, _, _ => .panic "out of fuel"
  | fuel + 1, g, lg, t, mask, e =>
    match e.simple? with
    | some a => .ok ⟨[], a, e.simpleTy, g, lg, none⟩
    | none =>
      let tm := e.temp
      let d := g
      match lowerSetJ I db ab fuel (g + 1) lg t mask (tmpVar d tm.tmpTy) tm.tmpExpr with
      | .ok (c, g1, lg1) => .ok ⟨.base (.alloc d tm.tmpTy) :: c, .loc d tm.readTy, tm.readTy, g1, lg1, some d⟩
      | .err x => .err x
      | .panic x => .panic x

/-- `lower_cond_jump_comparison` -/
def lowerCmpJ (I : JIntrinsics) (db ab : Nat) : Nat → Gen → Nat → Int → Nat → Kw → SExpr → BinOp → SExpr → Goto → Outcome (List JStmt × Gen × Nat)
  | 0, _, _, _, _, _, _, _, _, _ => .panic "out of fuel"
  | fuel + 1, g, lg, t, mask, kw, a, op, b, tgt =>
    match lowerTempJ I db ab fuel g lg t mask a with
    | .ok A =>
      match lowerTempJ I db ab fuel A.gen A.lgen t mask b with
      | .ok B =>
        match condJmpAtom I mask kw op A.ty B.ty A.atom B.atom tgt with
        | .ok c => .ok (A.code ++ (B.code ++ (c ++ (freeOfJ B.free ++ freeOfJ A.free))), B.gen, B.lgen)
        | .err x => .err x
        | .panic x => .panic x
      | .err x => .err x
      | .panic x => .panic x
    | .err x => .err x
    | .panic x => .panic x

/-- `lower_cond_jump_logic_binop` -/
def lowerLogicJ (I : JIntrinsics) (db ab : Nat) : Nat → Gen → Nat → Int → Nat → Kw → SExpr → BinOp → SExpr → Goto → Outcome (List JStmt × Gen × Nat)
  | 0, _, _, _, _, _, _, _, _, _ => .panic "out of fuel"
  | fuel + 1, g, lg, t, mask, kw, a, op, b, tgt =>
    let easy := (kw = .kif ∧ op = .lor) ∨ (kw = .kunless ∧ op = .land)
    if easy then
      -- `if (a || b) ...` splits into `if (a) ...` and `if (b) ...`; likewise `unless (a && b) ...`
      match lowerCondJ I db ab fuel g lg t mask kw a tgt with
      | .ok (c1, g1, lg1) =>
        match lowerCondJ I db ab fuel g1 lg1 t mask kw b tgt with
        | .ok (c2, g2, lg2) => .ok (c1 ++ c2, g2, lg2)
        | .err x => .err x
        | .panic x => .panic x
      | .err x => .err x
      | .panic x => .panic x
    else
      -- `unless (a) goto skip; unless (b) goto skip; goto label; skip:`
      let skip := lg
      match lowerCondJ I db ab fuel g (lg + 1) t mask kw.negate a ⟨skip, none⟩ with
      | .ok (c1, g1, lg1) =>
        match lowerCondJ I db ab fuel g1 lg1 t mask kw.negate b ⟨skip, none⟩ with
        | .ok (c2, g2, lg2) =>
          match lowerJmp I mask tgt with
          | .ok j => .ok (c1 ++ (c2 ++ (j ++ [.label t skip])), g2, lg2)
          | .err x => .err x
          | .panic x => .panic x
        | .err x => .err x
        | .panic x => .panic x
      | .err x => .err x
      | .panic x => .panic x
end

def jumpFuel (e : SExpr) : Nat := 6 * e.size + 6

/-- `lower_cond_jump`: count jumps are recognised at the top of the condition only -/
def lowerCondGoto (I : JIntrinsics) (db ab : Nat) (g lg : Nat) (t : Int) (mask : Nat) (kw : Kw) (c : JCond) (tgt : Goto) :
    Outcome (List JStmt × Gen × Nat) :=
  match c with
  | .predec v k => match lowerCountJmp I lg t mask kw v k tgt with
    | .ok (code, lg') => .ok (code, g, lg')
    | .err x => .err x
    | .panic x => .panic x
  | .expr e => lowerCondJ I db ab (jumpFuel e) g lg t mask kw e tgt

/-- `lower_assign_op`: `v op e` for every assignment operator -/
def lowerAssignJ (I : JIntrinsics) (db ab : Nat) (g lg : Nat) (t : Int) (mask : Nat) (v : VarRef) (op : AssignOp) (e : SExpr) :
    Outcome (List JStmt × Gen × Nat) :=
  let fuel := jumpFuel e
  match op with
  | .set => lowerSetJ I db ab fuel g lg t mask v e
  | _ =>
    match e.simple? with
    | some a => liftAtom (lowerAssignAtom I.base mask v op a) g lg
    | none =>
      let tm := e.temp
      let d := g
      match lowerSetJ I db ab fuel (g + 1) lg t mask (tmpVar d tm.tmpTy) tm.tmpExpr with
      | .ok (c1, g1, lg1) =>
        match lowerAssignAtom I.base mask v op (.loc d tm.readTy) with
        | .ok c2 => .ok (.base (.alloc d tm.tmpTy) :: c1 ++ liftCode c2 ++ [.base (.free d)], g1, lg1)
        | .err x => .err x
        | .panic x => .panic x
      | .err x => .err x
      | .panic x => .panic x

/-- arguments of `lower_instruction` -/
def lowerArgsJ (I : JIntrinsics) (db ab : Nat) (t : Int) (mask : Nat) : Gen → Nat → List SExpr → Outcome (List JStmt × List Arg × List Def × Gen × Nat)
  | g, lg, [] => .ok ([], [], [], g, lg)
  | g, lg, e :: es =>
    match e.simple? with
    | some a => match lowerArgsJ I db ab t mask g lg es with
      | .ok (c, as, ds, g', lg') => .ok (c, a :: as, ds, g', lg')
      | .err x => .err x
      | .panic x => .panic x
    | none =>
      let tm := e.temp
      let d := g
      match lowerSetJ I db ab (jumpFuel e) (g + 1) lg t mask (tmpVar d tm.tmpTy) tm.tmpExpr with
      | .ok (c1, g1, lg1) => match lowerArgsJ I db ab t mask g1 lg1 es with
        | .ok (c, as, ds, g', lg') => .ok (.base (.alloc d tm.tmpTy) :: c1 ++ c, .loc d tm.readTy :: as, d :: ds, g', lg')
        | .err x => .err x
        | .panic x => .panic x
      | .err x => .err x
      | .panic x => .panic x

/-- `lower_instruction` -/
def lowerCallJ (I : JIntrinsics) (db ab : Nat) (g lg : Nat) (t : Int) (mask : Nat) (opcode : Nat) (args : List SExpr) :
    Outcome (List JStmt × Gen × Nat) :=
  match lowerArgsJ I db ab t mask g lg args with
  | .ok (c, as, ds, g', lg') =>
    .ok (c ++ [.base (.instr ⟨mask, .plain opcode, as⟩)] ++ liftCode (ds.reverse.map .free), g', lg')
  | .err x => .err x
  | .panic x => .panic x

def lowerStmtJ (I : JIntrinsics) (db ab : Nat) (g lg : Nat) (t : Int) (mask : Nat) : JSStmt → Outcome (List JStmt × Gen × Nat)
  | .base (.decl d ty none) => .ok ([.base (.alloc d ty)], g, lg)
  | .base (.decl d ty (some e)) =>
    match lowerAssignJ I db ab g lg t mask ⟨.loc d, none, ty⟩ .set e with
    | .ok (c, g', lg') => .ok (.base (.alloc d ty) :: c, g', lg')
    | .err x => .err x
    | .panic x => .panic x
  | .base (.assign op v e) => lowerAssignJ I db ab g lg t mask v op e
  | .base (.call opcode args) => lowerCallJ I db ab g lg t mask opcode args
  | .base (.scopeEnd d) => .ok ([.base (.free d)], g, lg)
  | .base .other => .err errUnmodelled
  | .label l => .ok ([.label t l], g, lg)
  | .goto tgt => match lowerJmp I mask tgt with
    | .ok c => .ok (c, g, lg)
    | .err x => .err x
    | .panic x => .panic x
  | .condGoto kw c tgt => lowerCondGoto I db ab g lg t mask kw c tgt
  | .wait _ => .ok ([], g, lg)

/-- `lower_sub_ast`; every emitted statement is stamped with the time of its source statement
(`stmt_data.time`: relative time labels add up) -/
def lowerBodyJ (I : JIntrinsics) (db ab : Nat) (mask : Nat) : Gen → Nat → Int → List JSStmt → Outcome (List (Int × JStmt))
  | _, _, _, [] => .ok []
  | g, lg, t, s :: rest =>
    let t' := match s with
      | .wait n => t + n
      | _ => t
    match lowerStmtJ I db ab g lg t' mask s with
    | .ok (c, g', lg') => match lowerBodyJ I db ab mask g' lg' t' rest with
      | .ok c' => .ok (c.map (fun x => (t', x)) ++ c')
      | .err x => .err x
      | .panic x => .panic x
    | .err x => .err x
    | .panic x => .panic x

/-! ## from the lowered stream to instructions -/

/-- `abi_parts::JumpArgOrder` -/
inductive JumpOrder where
  | locTime | timeLoc | loc
deriving Repr, DecidableEq

/-- `populate_time_args` -/
def jumpArgs (o : JumpOrder) (l : Nat) (time : Option Int) : List Arg :=
  let la := Arg.label l
  let ta := match time with
    | some t => Arg.imm (.int (Int32.ofInt t))
    | none => Arg.timeOf l
  match o with
  | .locTime => [la, ta]
  | .timeLoc => [ta, la]
  | .loc => [la]

def CountKind.op : CountKind → BinOp
  | .ne => .ne
  | .gt => .gt

/-- `IntrinsicBuilder::into_vec` for the signatures of the generated test languages: the jump arguments come
last, after the plain arguments / the output -/
def toRegsStmtJ (I : JIntrinsics) (order : JumpOrder) (time : Int) : JStmt → Regs.Stmt
  | .base (.alloc d _) => .alloc d
  | .base (.free d) => .free d
  | .base (.instr i) => .instr time i.mask ((i.kind.opcode I.base).getD 0) (some i.args)
  | .label t l => .label t l
  | .jmp m l tm => .instr time m (I.jmp.getD 0) (some (jumpArgs order l tm))
  | .condJmp m op ty a b l tm => .instr time m ((I.condJmp op ty).getD 0) (some ([a, b] ++ jumpArgs order l tm))
  | .cmp m ty a b => .instr time m ((I.cmp ty).getD 0) (some [a, b])
  | .cmpJmp m op l tm => .instr time m ((I.cmpJmp op).getD 0) (some (jumpArgs order l tm))
  | .countJmp m k x l tm => .instr time m ((I.countJmp k).getD 0) (some ([x] ++ jumpArgs order l tm))

def typeTableJ : List (Int × JStmt) → List (Def × RTy)
  | [] => []
  | (_, .base (.alloc d ty)) :: rest => (d, ty) :: typeTableJ rest
  | _ :: rest => typeTableJ rest

/-- `gather_label_info`: position (number of instructions before it) and time of every label; a label
defined twice is an error -/
def gatherLabels : List Regs.Stmt → Nat → List (Nat × Nat × Int) → Outcome (List (Nat × Nat × Int))
  | [], _, acc => .ok acc
  | .label t l :: rest, k, acc =>
    if acc.any (fun e => e.1 == l) then .err "duplicate label" else gatherLabels rest k (acc ++ [(l, k, t)])
  | .instr _ _ _ _ :: rest, k, acc => gatherLabels rest (k + 1) acc
  | _ :: rest, k, acc => gatherLabels rest k acc

def lookupLabel (tbl : List (Nat × Nat × Int)) (l : Nat) : Option (Nat × Int) :=
  match tbl.find? (fun e => e.1 == l) with
  | some e => some e.2
  | none => none

/-- `encode_labels` on one argument: `Label` becomes the position of the target, `TimeOf` its time -/
def encodeLabelArg (tbl : List (Nat × Nat × Int)) : Arg → Outcome Arg
  | .label l => match lookupLabel tbl l with
    | some (k, _) => .ok (.label k)
    | none => .err "undefined label"
  | .timeOf l => match lookupLabel tbl l with
    | some (_, t) => .ok (.imm (.int (Int32.ofInt t)))
    | none => .err "undefined label"
  | a => .ok a

def encodeLabelArgs (tbl : List (Nat × Nat × Int)) : List Arg → Outcome (List Arg)
  | [] => .ok []
  | a :: as => match encodeLabelArg tbl a with
    | .ok a' => match encodeLabelArgs tbl as with
      | .ok as' => .ok (a' :: as')
      | .err x => .err x
      | .panic x => .panic x
    | .err x => .err x
    | .panic x => .panic x

def encodeLabels (tbl : List (Nat × Nat × Int)) : List Regs.Stmt → Outcome (List Regs.Stmt)
  | [] => .ok []
  | .instr t m op (some args) :: rest => match encodeLabelArgs tbl args with
    | .ok args' => match encodeLabels tbl rest with
      | .ok rest' => .ok (.instr t m op (some args') :: rest')
      | .err x => .err x
      | .panic x => .panic x
    | .err x => .err x
    | .panic x => .panic x
  | s :: rest => match encodeLabels tbl rest with
    | .ok rest' => .ok (s :: rest')
    | .err x => .err x
    | .panic x => .panic x

/-- the whole pipeline on one body with jumps: lower, assign registers, elaborate switches, resolve labels -/
def compileJ (I : JIntrinsics) (order : JumpOrder) (db ab : Nat) (mode : ExplicitMode) (h : Hooks) (firstTemp firstLabel : Nat)
    (body : List JSStmt) : Outcome (Regs.Result × List Regs.Stmt) :=
  match lowerBodyJ I db ab 255 firstTemp firstLabel 0 body with
  | .ok code =>
    let stream := code.map (fun x => toRegsStmtJ I order x.1 x.2)
    match assign mode h (tyOfTable (typeTableJ code)) [] stream with
    | .ok res =>
      let flat := res.stream.flatMap (elaborateStmt db ab)
      match gatherLabels flat 0 [] with
      | .ok tbl => match encodeLabels tbl flat with
        | .ok out => .ok (res, out)
        | .err x => .err x
        | .panic x => .panic x
      | .err x => .err x
      | .panic x => .panic x
    | .err x => .err x
    | .panic x => .panic x
  | .err x => .err x
  | .panic x => .panic x

/-! ## semantics of lowered streams with jumps -/

/-- the machine plus the hidden compare register of two-part conditional jumps -/
structure JM where
  m : Machine
  cmp : Option (Value × Value)

inductive Flow where
  | next
  | jump (l : Nat) (time : Option Int)
deriving Repr, DecidableEq

def CountKind.test : CountKind → Int32 → Bool
  | .ne, x => x != 0
  | .gt, x => decide (0 < x)

/-- jump iff the comparison yields a non-zero integer -/
def cmpFlow (F : FloatOps) (op : BinOp) (va vb : Value) (l : Nat) (time : Option Int) : Outcome Flow :=
  match binop F op va vb with
  | .ok (.int r) => .ok (if r = 0 then .next else .jump l time)
  | .ok _ => .panic "type error"
  | .err c => .err c
  | .panic p => .panic p

/-- one statement of the lowered stream -/
def stepJ (F : FloatOps) (diff : Nat) (s : JM) : JStmt → Outcome (JM × Flow)
  | .base st => match execStmt F diff s.m st with
    | .ok m' => .ok ({ s with m := m' }, .next)
    | .err c => .err c
    | .panic p => .panic p
  | .label _ _ => .ok (s, .next)
  | .jmp mask l time => if !maskOn mask diff then .ok (s, .next) else .ok (s, .jump l time)
  | .condJmp mask op _ a b l time =>
    if !maskOn mask diff then .ok (s, .next) else
    match readArg F diff s.m.store a, readArg F diff s.m.store b with
    | .ok va, .ok vb => match cmpFlow F op va vb l time with
      | .ok f => .ok (s, f)
      | .err c => .err c
      | .panic p => .panic p
    | .err c, _ => .err c
    | .panic p, _ => .panic p
    | _, .err c => .err c
    | _, .panic p => .panic p
  | .cmp mask _ a b =>
    if !maskOn mask diff then .ok (s, .next) else
    match readArg F diff s.m.store a, readArg F diff s.m.store b with
    | .ok va, .ok vb => .ok ({ s with cmp := some (va, vb) }, .next)
    | .err c, _ => .err c
    | .panic p, _ => .panic p
    | _, .err c => .err c
    | _, .panic p => .panic p
  | .cmpJmp mask op l time =>
    if !maskOn mask diff then .ok (s, .next) else
    match s.cmp with
    | none => .panic "compare register not set"
    | some (va, vb) => match cmpFlow F op va vb l time with
      | .ok f => .ok (s, f)
      | .err c => .err c
      | .panic p => .panic p
  | .countJmp mask k x l time =>
    if !maskOn mask diff then .ok (s, .next) else
    match argVar x, readArg F diff s.m.store x with
    | some name, .ok (.int n) =>
      let n' := n - 1     -- `i32::wrapping_add(old, -1)`
      .ok ({ s with m := { s.m with store := upd s.m.store name (.int n') } }, if k.test n' then .jump l time else .next)
    | none, _ => .panic "bad destination"
    | _, .ok _ => .panic "type error"
    | _, .err c => .err c
    | _, .panic p => .panic p

def JM.setTime (s : JM) (t : Int) : JM := { s with m := { s.m with time := t } }

/-- index and time of the first label `l` (`AstVm::try_goto`) -/
def findLabelJ : List JStmt → Nat → Nat → Option (Nat × Int)
  | [], _, _ => none
  | .label t l' :: rest, l, k => if l' = l then some (k, t) else findLabelJ rest l (k + 1)
  | _ :: rest, l, k => findLabelJ rest l (k + 1)

/-- one step of the whole-program machine: new program counter and state -/
def stepPc (F : FloatOps) (diff : Nat) (P : List JStmt) (pc : Nat) (s : JM) : Outcome (Option (Nat × JM)) :=
  match P[pc]? with
  | none => .ok none
  | some st => match stepJ F diff s st with
    | .ok (s', .next) => .ok (some (pc + 1, s'))
    | .ok (s', .jump l time) => match findLabelJ P l 0 with
      | none => .panic "jump to undefined label"
      | some (i, tl) => .ok (some (i, s'.setTime (time.getD tl)))
    | .err c => .err c
    | .panic p => .panic p

/-- **execJ**: the whole lowered stream from program counter `pc`, until it runs off the end -/
def execJ (F : FloatOps) (diff : Nat) (P : List JStmt) : Nat → Nat → JM → Outcome JM
  | 0, _, _ => .panic "out of fuel"
  | fuel + 1, pc, s => match stepPc F diff P pc s with
    | .ok none => .ok s
    | .ok (some (pc', s')) => execJ F diff P fuel pc' s'
    | .err c => .err c
    | .panic p => .panic p

/-- how a code fragment is left -/
inductive Exit where
  | fall
  | jump (l : Nat) (time : Option Int)
deriving Repr, DecidableEq

inductive FragMode where
  | run
  | seek (l : Nat) (time : Option Int)
deriving Repr, DecidableEq

/-- **execFrag**: structural execution of a code fragment all of whose jumps go forward within the fragment
or out of it: after a jump the statements up to the label are skipped; if the label does not follow, the
fragment is left by that jump -/
def execFrag (F : FloatOps) (diff : Nat) : FragMode → List JStmt → JM → Outcome (Exit × JM)
  | .run, [], s => .ok (.fall, s)
  | .seek l time, [], s => .ok (.jump l time, s)
  | .seek l time, .label t l' :: rest, s =>
    if l' = l then execFrag F diff .run rest (s.setTime (time.getD t)) else execFrag F diff (.seek l time) rest s
  | .seek l time, _ :: rest, s => execFrag F diff (.seek l time) rest s
  | .run, st :: rest, s => match stepJ F diff s st with
    | .ok (s', .next) => execFrag F diff .run rest s'
    | .ok (s', .jump l time) => execFrag F diff (.seek l time) rest s'
    | .err c => .err c
    | .panic p => .panic p

/-! ## source semantics of the jump statements (`AstVm::_run`, `CondJump` arm; `eval` of `--x`) -/

/-- does `if|unless (c) goto` jump?  Returns the store after the condition was evaluated (`--x` writes). -/
def evalCond (F : FloatOps) (diff : Nat) (σ : Store) : JCond → Outcome (Bool × Store)
  | .expr e => match evalS F diff σ e with
    | .ok (.int v) => .ok (v != 0, σ)
    | .ok _ => .panic "type error"
    | .err c => .err c
    | .panic p => .panic p
  | .predec v k => match evalS F diff σ (.var v) with
    | .ok (.int n) =>
      let n' := n - 1
      .ok (k.test n', upd σ v.name (.int n'))
    | .ok _ => .panic "type error"
    | .err c => .err c
    | .panic p => .panic p

/-- `self.eval_cond(cond) == (keyword == if)` -/
def Kw.takes (kw : Kw) (b : Bool) : Bool :=
  match kw with
  | .kif => b
  | .kunless => !b

end TruthModel.Lower
