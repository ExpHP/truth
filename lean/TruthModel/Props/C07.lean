/-
C07 - recovering loops and conditionals while decompiling preserves behaviour.

Property theorems about `Decomp.postprocess` (the model of `passes::postprocess_decompiled` with
`blocks = true`), for ARBITRARY statement lists, i.e. all jump graphs.  Helper lemmas are in
`Lemmas/Decomp*.lean`.  Structural half: reconstruction only ever consumes untagged jumps without an
explicit time, drops only labels nobody refers to any more, and leaves every other statement (time
labels, instructions, interrupt labels, tagged or timed jumps) in place and in order.  Semantic half
(`C07_sound_partial`): the reconstructed tree, lowered back to labels and jumps, runs exactly like
the flat input.  `C07_full`, the same statement without the hypotheses `NoBreak ss` and `0 ≤ st.time`, is false: each of
the two is needed on an artefact input (`nobreak_necessary`, `nonneg_time_necessary`, `C07_full_false`).
-/
import TruthModel.Lemmas.Decomp
import TruthModel.Lemmas.DecompSem
import TruthModel.Model.DecompSem
namespace TruthModel.C07
open TruthModel TruthModel.Decomp List

theorem postprocess_stages {ss out : Block} (h : postprocess ss = .ok out) :
    ∃ a b, decompileLoop ss = .ok a ∧ decompileIfElse a = .ok b ∧
      out = removeUnusedLabels (decompileBreak b) := by
  obtain ⟨-, h⟩ := ok_of_ite_panic h
  obtain ⟨a, ha, h⟩ := bindBlock.inv h
  obtain ⟨b, hb, h⟩ := bindBlock.inv h
  cases h
  exact ⟨a, b, ha, hb, rfl⟩

theorem postprocess_of_stages {ss a b : Block} (h0 : ss.any unsupported = false) (ha : decompileLoop ss = .ok a)
    (hb : decompileIfElse a = .ok b) : postprocess ss = .ok (removeUnusedLabels (decompileBreak b)) := by
  unfold postprocess
  rw [h0, ha]
  simp only [hb, Bool.false_eq_true, if_false]

/-- loops, then cond chains; the refcounts are those `decompile_if_else` starts with (`decompile_loop` drops no label) -/
theorem loops_chains_step {β} {f : Option String × Atom → Option β} (hf : Good0 f) {ss a b : Block}
    (ha : decompileLoop ss = .ok a) (hb : decompileIfElse a = .ok b) : Step f (refcount a) ss b :=
  (decompileLoop_step hf (refcount a) ha).1.trans (ifElseBlock_step hf hb)

/-- No observation of the leaves that ignores (a) label definitions, (b) untagged
gotos / conditional gotos without an explicit time and (c) the destination of gotos without an
explicit time can tell the reconstructed tree from the flat input. -/
theorem postprocess_observation {β} {f : Option String × Atom → Option β} (hf : Good f) {ss out : Block}
    (h : postprocess ss = .ok out) : (atomsL out).filterMap f = (atomsL ss).filterMap f := by
  obtain ⟨a, b, ha, hb, rfl⟩ := postprocess_stages h
  unfold removeUnusedLabels decompileBreak
  rw [unusedL_filterMap f hf.toGood0, breakL_filterMap f hf, (loops_chains_step hf.toGood0 ha hb).fm]

def isPlain : Atom → Bool
  | .label _ => false
  | .jump _ => false
  | .condJump _ _ _ => false
  | _ => true

theorem filterMap_guard_map {α β} (p : α → Bool) (g : α → β) (l : List α) :
    l.filterMap (fun x => if p x then some (g x) else none) = (l.filter p).map g := by
  rw [← List.filterMap_filter, List.filterMap_eq_map']

theorem filterMap_guard {α} (p : α → Bool) (l : List α) :
    l.filterMap (fun x => if p x then some x else none) = l.filter p :=
  (filterMap_guard_map p id l).trans (List.map_id _)

/-- `time_labels_preserved`: the subsequence of time labels, instructions, assignments and
interrupt labels (with their difficulty tags) of the flattened result is that of the input. -/
theorem time_labels_preserved {ss out : Block} (h : postprocess ss = .ok out) :
    (atomsL out).filter (fun p => isPlain p.2) = (atomsL ss).filter (fun p => isPlain p.2) := by
  have := postprocess_observation (f := fun p => if isPlain p.2 then some p else none)
    ⟨⟨fun _ _ => rfl, fun _ => rfl, fun _ _ => rfl⟩, fun _ _ => rfl, fun _ _ _ _ => rfl⟩ h
  rwa [filterMap_guard, filterMap_guard] at this

example : postprocess [.atom none (.label 1), .atom none (.relTime 5), .atom (some "E") (.ins 5 []),
      .atom none (.jump (.goto 1 none)), .atom none (.absTime 9)]
    = .ok [.node (.loop 3) [.atom none (.relTime 5), .atom (some "E") (.ins 5 [])], .atom none (.absTime 9)] := by rfl

def isTimedJump : Atom → Bool
  | .jump (.goto _ (some _)) => true
  | .condJump _ _ (.goto _ (some _)) => true
  | _ => false

/-- `timed_jumps_untouched`: every jump with an explicit time argument is still a statement of the
result, unchanged, in the same order (so none was consumed into a loop, a chain or a `break`). -/
theorem timed_jumps_untouched {ss out : Block} (h : postprocess ss = .ok out) :
    (atomsL out).filter (fun p => isTimedJump p.2) = (atomsL ss).filter (fun p => isTimedJump p.2) := by
  have := postprocess_observation (f := fun p => if isTimedJump p.2 then some p else none)
    ⟨⟨fun _ _ => rfl, fun _ => rfl, fun _ _ => rfl⟩, fun _ _ => rfl, fun _ _ _ _ => rfl⟩ h
  rwa [filterMap_guard, filterMap_guard] at this

example : postprocess [.atom none (.label 1), .atom none (.ins 5 []), .atom none (.jump (.goto 1 (some 30)))]
    = .ok [.atom none (.label 1), .atom none (.ins 5 []), .atom none (.jump (.goto 1 (some 30)))] := by rfl

def isJump : Atom → Bool
  | .jump _ => true
  | .condJump _ _ _ => true
  | _ => false

def taggedJump (p : Option String × Atom) : Bool := p.1.isSome && isJump p.2

theorem taggedJump_none (a : Atom) : taggedJump (none, a) = false := rfl
theorem taggedJump_label (d : Option String) (l : Nat) : taggedJump (d, .label l) = false := by
  simp [taggedJump, isJump]

/-- `difficulty_tagged_jumps_untouched`, loops and chains: after `decompile_loop` and
`decompile_if_else` every difficulty-tagged jump is still there, unchanged and in order. -/
theorem difficulty_tagged_jumps_untouched {ss a b : Block} (ha : decompileLoop ss = .ok a)
    (hb : decompileIfElse a = .ok b) :
    (atomsL b).filter taggedJump = (atomsL ss).filter taggedJump := by
  have hf : Good0 (fun p : Option String × Atom => if taggedJump p then some p else none) :=
    ⟨by simp [taggedJump_label], fun _ => rfl, fun _ _ => rfl⟩
  have := (loops_chains_step hf ha hb).fm
  rwa [filterMap_guard, filterMap_guard] at this

/-- what `decompile_break` may do to a jump: forget the destination of a goto without explicit time -/
def forgetDest (p : Option String × Atom) : Option String × Atom :=
  match p with
  | (d, .jump (.goto _ none)) => (d, .jump .brk)
  | (d, .condJump kw c (.goto _ none)) => (d, .condJump kw c .brk)
  | p => p

/-- `difficulty_tagged_jumps_untouched`, whole pipeline: every difficulty-tagged jump is still
there under the same tag, in order, with its keyword, condition and explicit time; the destination of a goto without explicit
time is not compared (`forgetDest` on both sides: it may have become `break`). -/
theorem difficulty_tagged_jumps_kept {ss out : Block} (h : postprocess ss = .ok out) :
    ((atomsL out).filter taggedJump).map forgetDest = ((atomsL ss).filter taggedJump).map forgetDest := by
  have := postprocess_observation (f := fun p => if taggedJump p then some (forgetDest p) else none)
    ⟨⟨by simp [taggedJump_label], fun _ => rfl, fun _ _ => rfl⟩,
     by intro d l; simp [taggedJump, isJump, forgetDest], by intro d kw c l; simp [taggedJump, isJump, forgetDest]⟩ h
  rw [filterMap_guard_map, filterMap_guard_map] at this
  exact this

example : postprocess [.atom none (.label 1), .atom none (.ins 5 []), .atom (some "E") (.jump (.goto 1 none))]
    = .ok [.atom none (.label 1), .atom none (.ins 5 []), .atom (some "E") (.jump (.goto 1 none))] := by rfl

/-- reconstruction never duplicates a label definition -/
theorem labels_not_duplicated {ss out : Block} (h : postprocess ss = .ok out) (l : Nat) :
    (labelsL out).count l ≤ (labelsL ss).count l := by
  obtain ⟨a, b, ha, hb, rfl⟩ := postprocess_stages h
  unfold removeUnusedLabels decompileBreak
  refine Nat.le_trans ((unusedL_labels_sub _ _).count_le l) ?_
  rw [breakL_labels]
  exact (loops_chains_step good0_none ha hb).labels l

/-- `labels_with_referrers_survive`: a label that is still mentioned in the result (destination of
a remaining goto or conditional goto, `offsetof` / `timeof`) is defined in the result exactly as
often as in the input - exactly once when the input defines every label once. -/
theorem labels_with_referrers_survive {ss out : Block} (h : postprocess ss = .ok out) (l : Nat)
    (hl : l ∈ refsL out) : (labelsL out).count l = (labelsL ss).count l := by
  obtain ⟨a, b, ha, hb, rfl⟩ := postprocess_stages h
  obtain ⟨_, h1⟩ := decompileLoop_step good0_none (refcount a) ha
  have h2 := ifElseBlock_step good0_none (rc := refcount a) hb
  unfold removeUnusedLabels decompileBreak at hl ⊢
  rw [unusedL_refs] at hl
  -- `l` is mentioned after `decompile_break`, so `unused_labels` keeps its definitions
  have hpos : refcount (breakL (endLabels b) none b) l > 0 := List.count_pos_iff.mpr hl
  rw [unusedL_labels _ l hpos, breakL_labels, ← h1]
  -- ... and `decompile_if_else` cannot have dropped one: it only drops labels whose single mention it consumes
  have hle := h2.labels l
  by_cases hlt : (labelsL b).count l < (labelsL a).count l
  · obtain ⟨hrc, hdec⟩ := h2.dropped l hlt
    have : (refsL (breakL (endLabels b) none b)).count l ≤ (refsL b).count l := (breakL_refs _ _ b).count_le l
    exact absurd hpos (Nat.not_lt.mpr (Nat.le_trans this (Nat.le_of_lt_succ (Nat.lt_of_lt_of_le hdec hrc))))
  · exact Nat.le_antisymm hle (Nat.le_of_not_lt hlt)

-- label 1 keeps a second referrer (a jump with an explicit time, never consumed) and survives inside the chain
example : postprocess [.atom none (.condJump .if_ (.bin .eq (.reg 1) (.lit 0)) (.goto 1 none)), .atom none (.ins 5 []),
      .atom none (.label 1), .atom none (.jump (.goto 1 (some 7)))]
    = .ok [.node .chain [.node (.arm .if_ (.bin .ne (.reg 1) (.lit 0))) [.atom none (.ins 5 []), .atom none (.label 1)]],
           .atom none (.jump (.goto 1 (some 7)))] := by rfl

/-- `interrupts_not_captured`: for a flat input (what the raiser produces) no block that
reconstruction creates - loop, do-while, cond chain, at any depth - contains an interrupt label;
all interrupt labels of the result are statements of the outermost block (and by
`time_labels_preserved` they are all still there, in order). -/
theorem interrupts_not_captured {ss out : Block} (hflat : Flat ss) (h : postprocess ss = .ok out) :
    ∀ k b, Stmt.node k b ∈ out → ∀ p ∈ atomsL b, isIntLeaf p = false := by
  obtain ⟨a, b, ha, hb, rfl⟩ := postprocess_stages h
  have h1 : TopOnly a := decompileLoop_topOnly hflat ha
  have h2 : TopOnly b := ifElseBlock_topOnly h1 hb
  exact unusedL_topOnly (breakL_topOnly h2)

-- an interrupt label between a label and a backward jump to it: no loop
example : postprocess [.atom none (.label 1), .atom none (.interrupt 2), .atom none (.ins 5 []), .atom none (.jump (.goto 1 none))]
    = .ok [.atom none (.label 1), .atom none (.interrupt 2), .atom none (.ins 5 []), .atom none (.jump (.goto 1 none))] := by rfl

/-- what a `loop` / `do .. while` node that stands right behind the label `l` is lowered to by the
compiler, re-using `l` as the loop label: the body followed by the jump back -/
def unloop (l : Nat) : Kind → List Stmt → List Stmt
  | .loop _, body => body ++ [.atom none (.jump (.goto l none))]
  | .doWhile _ c, body => body ++ [.atom none (.condJump .if_ c (.goto l none))]
  | _, body => body

/-- `desugar_postprocess_partial`, single loop: whenever the scan of `decompile_loop` over a flat
block folds statements into a loop - at any point `n` of the scan, whatever was reconstructed
before - the new node stands right behind the label `l` its back-jump went to, and lowering it
again (`unloop`: body, then `goto l` resp. `if (c) goto l`) gives back, statement for statement,
what the scan had in hand: `out_before ++ [stmt n] = pre ++ [l:] ++ unloop l node`.  This is the
syntactic statement for one loop step; the semantic statement for all four passes is
`C07_sound_partial`. -/
theorem desugar_postprocess_partial {ss : Block} (hflat : Flat ss) {n : Nat} (hn : n < ss.length)
    {st st' : ScanState}
    (hst : loopScan ss (interruptIndices ss) (ss.take n) 0 ⟨[], []⟩ = .ok st)
    (hstep : loopStep ss (interruptIndices ss) st n ss[n] = .ok st') :
    st'.out = st.out ++ [ss[n]] ∨
    ∃ pre dl l k body, st'.out = pre ++ [.atom dl (.label l), .node k body] ∧
      st.out ++ [ss[n]] = pre ++ .atom dl (.label l) :: unloop l k body := by
  have hinv := loopScan_prefix_inv hflat n st (Nat.le_of_lt hn) hst
  obtain ⟨d, a, hda⟩ := hflat ss[n] (List.getElem_mem hn)
  rw [hda] at hstep ⊢
  rcases loopStep_shape hinv hstep with h | ⟨pre, dl, l, body, k, h1, rfl, hbj, h3⟩
  · left; exact h
  · right
    exact ⟨pre, dl, l, k, body, h3, by rw [h1]; cases hbj <;> simp [unloop]⟩

example : decompileLoop [.atom none (.label 1), .atom none (.ins 5 []), .atom none (.condJump .if_ (.val (.dec 3)) (.goto 1 none))]
    = .ok [.atom none (.label 1), .node (.doWhile 2 (.val (.dec 3))) [.atom none (.ins 5 [])]] := by rfl

/-- what a run leaves behind: instruction log (opcode, arguments, real time), time, real time, registers -/
def SameResult (a b : VmState) : Prop :=
  a.log = b.log ∧ a.time = b.time ∧ a.realTime = b.realTime ∧ ∀ r, a.regs r = b.regs r

/-- every label is defined at most once and every jump goes to a defined label (what the raiser produces) -/
def WellLabelled (ss : Block) : Prop :=
  (∀ l, (labelsL ss).count l ≤ 1) ∧ ∀ l ∈ refsL ss, l ∈ labelsL ss

/-- the unrestricted statement: for every flat statement list, the
reconstructed tree - lowered back to labels and jumps the way the compiler does - runs exactly like
the flat list, from every initial state, on every difficulty: same instruction log, time, real time
and registers, and it terminates exactly when the flat list does.

FALSE as it stands (`C07_full_false`), for two reasons that are artefacts of the model's input space
and not behaviours of the implementation: a flat list may contain a difficulty-tagged `break` (the
raiser never emits `break`; `postprocess` rejects only untagged ones), and the initial state may have
a negative time (the VM starts at time 0).  With these two excluded it is a theorem:
`C07_sound_partial`. -/
def C07_full : Prop :=
  ∀ (ss out : Block), (∀ s ∈ ss, ∃ d a, s = Stmt.atom d a) → WellLabelled ss → postprocess ss = .ok out →
  ∀ (env : VmEnv) (st : VmState),
    (∀ fuel r, run env (atomsL ss) fuel st = some r →
      ∃ fuel' r', run env (lower (maxLabel ss + 1) out) fuel' st = some r' ∧ SameResult r r') ∧
    (∀ fuel' r', run env (lower (maxLabel ss + 1) out) fuel' st = some r' →
      ∃ fuel r, run env (atomsL ss) fuel st = some r ∧ SameResult r r')

/-- the flat list contains no `break` (the raiser never produces one) -/
def NoBreak (ss : Block) : Prop := ∀ p ∈ atomsL ss, isBrkLeaf p = false

theorem mem_of_count_le {l l' : List Nat} (h : ∀ x, l.count x ≤ l'.count x) : ∀ x ∈ l, x ∈ l' :=
  fun x hx => List.count_pos_iff.mp (Nat.lt_of_lt_of_le (List.count_pos_iff.mpr hx) (h x))

theorem sameResult_refl (r : VmState) : SameResult r r := ⟨rfl, rfl, rfl, fun _ => rfl⟩

theorem le_foldl_max (l : List Nat) (init x : Nat) (h : x ∈ l ∨ x ≤ init) : x ≤ l.foldl max init := by
  induction l generalizing init with
  | nil => exact h.elim (fun h => nomatch h) id
  | cons y ys ih =>
    refine ih _ ?_
    rcases h with h | h
    · rcases List.mem_cons.mp h with rfl | h
      · exact .inr (Nat.le_max_right _ _)
      · exact .inl h
    · exact .inr (Nat.le_trans h (Nat.le_max_left _ _))

/-- The lowering of the reconstructed tree and the flat input have the same resolved code: the same non-label
statements in the same order (`unless (a op b)` read as `if (a negop b)`), every jump going to the same code index.
A mentioned label need not be defined: such a jump is stuck in the flat list, and it stays stuck, since the
reconstruction does not define it either (`labels_with_referrers_survive`) and the new labels are above it. -/
theorem postprocess_resolved_nodup {ss out : Block} (hflat : Flat ss) (hnd : (labelsL ss).Nodup) (hnb : NoBreak ss)
    (h : postprocess ss = .ok out) : resolve (lower (maxLabel ss + 1) out) = resolve (atomsL ss) := by
  obtain ⟨a, b, ha, hb, hout⟩ := postprocess_stages h
  obtain ⟨hden, hinv⟩ := passes_den hflat hnd hnb ha hb
  rw [← hout] at hden hinv
  rw [← hden]
  have hsub : ∀ l ∈ labelsL out, l ∈ labelsL ss := mem_of_count_le (labels_not_duplicated h)
  have hnd' : (labelsL out).Nodup :=
    List.nodup_iff_count.mpr (fun l => Nat.le_trans (labels_not_duplicated h l) (List.nodup_iff_count.mp hnd l))
  have hlt : ∀ l ∈ labelsL out, l < maxLabel ss + 1 := fun l hl =>
    Nat.lt_succ_of_le (le_foldl_max _ 0 l (.inl (List.mem_append.mpr (.inl (hsub l hl)))))
  have hrefs : ∀ l ∈ refsL out, l ∈ refsL ss := by
    refine mem_of_count_le (fun l => ?_)
    have h3 : (refsL out).count l ≤ (refsL b).count l := by
      rw [hout]; unfold removeUnusedLabels decompileBreak
      rw [unusedL_refs]; exact (breakL_refs _ _ b).count_le l
    exact Nat.le_trans h3 ((loops_chains_step good0_none ha hb).refs l)
  refine resolve_lower hnd' hlt hinv (fun l hl hm => ⟨?_, ?_⟩)
  · exact Nat.lt_succ_of_le (le_foldl_max _ 0 l (.inl (List.mem_append.mpr (.inr (hrefs l hl)))))
  · have h1 := labels_with_referrers_survive h l hl
    rw [List.count_eq_zero_of_not_mem hm] at h1
    exact ctgtFrom_none 0 (by rw [labsF_atomsL_flat hflat]; exact List.count_eq_zero.mp h1.symm)

/-- `postprocess_resolved`: the instance `C07_sound_partial` uses, where every mentioned label is defined -/
theorem postprocess_resolved {ss out : Block} (hflat : ∀ s ∈ ss, ∃ d a, s = Stmt.atom d a) (hwl : WellLabelled ss)
    (hnb : NoBreak ss) (h : postprocess ss = .ok out) :
    resolve (lower (maxLabel ss + 1) out) = resolve (atomsL ss) :=
  postprocess_resolved_nodup hflat (List.nodup_iff_count.mpr hwl.1) hnb h

/-- `C07_sound_partial`: for every flat statement list without `break` in which every label is
defined at most once and every mentioned label is defined, and every initial state whose time is not
negative (every register valuation, every difficulty, every `offsetof` / `timeof` interpretation):
the reconstructed tree, lowered back to labels and jumps, runs exactly like the flat list - it
terminates iff the flat list does, and then with the same instruction log (opcodes, arguments, real
times), time, real time and registers (in fact the same final state).  "Partial" only in the two
extra hypotheses `NoBreak ss` and `0 ≤ st.time`; both are necessary (`nobreak_necessary`,
`nonneg_time_necessary`).  Of `WellLabelled ss` only the first half is used: for labels that are pairwise distinct but
not all defined, take `postprocess_resolved_nodup` and `Decomp.run_congr`. -/
theorem C07_sound_partial (ss out : Block) (hflat : ∀ s ∈ ss, ∃ d a, s = Stmt.atom d a) (hwl : WellLabelled ss)
    (hnb : NoBreak ss) (h : postprocess ss = .ok out) (env : VmEnv) (st : VmState) (h0 : 0 ≤ st.time) :
    (∀ fuel r, run env (atomsL ss) fuel st = some r →
      ∃ fuel' r', run env (lower (maxLabel ss + 1) out) fuel' st = some r' ∧ SameResult r r') ∧
    (∀ fuel' r', run env (lower (maxLabel ss + 1) out) fuel' st = some r' →
      ∃ fuel r, run env (atomsL ss) fuel st = some r ∧ SameResult r r') := by
  have hres := postprocess_resolved hflat hwl hnb h
  constructor
  · intro fuel r hr
    obtain ⟨fuel', hr'⟩ := (run_congr env hres h0 r).mpr ⟨fuel, hr⟩
    exact ⟨fuel', r, hr', sameResult_refl r⟩
  · intro fuel' r' hr'
    obtain ⟨fuel, hr⟩ := (run_congr env hres h0 r').mp ⟨fuel', hr'⟩
    exact ⟨fuel, r', hr, sameResult_refl r'⟩

def isAtomStmt : Stmt → Bool
  | .atom _ _ => true
  | .node _ _ => false

theorem flat_of_all {ss : Block} (h : ss.all isAtomStmt = true) : ∀ s ∈ ss, ∃ d a, s = Stmt.atom d a := by
  intro s hs
  have := List.all_eq_true.mp h s hs
  cases s with
  | atom d a => exact ⟨d, a, rfl⟩
  | node k b => cases this

theorem wellLabelled_of {ss : Block} (h1 : (labelsL ss).Nodup) (h2 : ∀ l ∈ refsL ss, l ∈ labelsL ss) : WellLabelled ss :=
  ⟨List.nodup_iff_count.mp h1, h2⟩

/-- a loop with a cond block inside it and a jump out of the loop -/
def exampleFlat : Block :=
  [.atom none (.label 1), .atom none (.condJump .if_ (.bin .eq (.reg 1) (.lit 0)) (.goto 2 none)),
    .atom none (.ins 5 []), .atom none (.jump (.goto 3 none)), .atom none (.label 2),
    .atom none (.jump (.goto 1 none)), .atom none (.label 3), .atom none (.ins 7 [])]

-- the hypotheses are satisfiable by a program whose reconstruction has a loop, a cond chain and a `break`
example : (∀ s ∈ exampleFlat, ∃ d a, s = Stmt.atom d a) ∧ WellLabelled exampleFlat ∧ NoBreak exampleFlat ∧
    postprocess exampleFlat = .ok [.node (.loop 5) [.node .chain [
        .node (.arm .if_ (.bin .ne (.reg 1) (.lit 0))) [.atom none (.ins 5 []), .atom none (.jump .brk)]]],
      .atom none (.ins 7 [])] :=
  ⟨flat_of_all (by decide), wellLabelled_of (by decide) (by decide), by unfold NoBreak; decide,
    -- pass by pass: evaluating `postprocess` in one go recomputes the intermediate trees many times
    (postprocess_of_stages
      (a := [.atom none (.label 1), .node (.loop 5) [.atom none (.condJump .if_ (.bin .eq (.reg 1) (.lit 0)) (.goto 2 none)),
        .atom none (.ins 5 []), .atom none (.jump (.goto 3 none)), .atom none (.label 2)],
        .atom none (.label 3), .atom none (.ins 7 [])])
      (b := [.atom none (.label 1), .node (.loop 5) [.node .chain [.node (.arm .if_ (.bin .ne (.reg 1) (.lit 0))) [
        .atom none (.ins 5 []), .atom none (.jump (.goto 3 none)), .atom none (.label 2)]]],
        .atom none (.label 3), .atom none (.ins 7 [])]) rfl rfl rfl).trans rfl⟩

def envOn : VmEnv := { tagOn := fun _ => true, labelProp := fun _ _ => 0 }
def st0 (t : Int) : VmState := { regs := fun _ => 0, time := t, realTime := 0, log := [] }

/-- a difficulty-tagged `break` between a label and a jump back to it: the flat list is stuck at the
`break` (outside any loop), the reconstruction captures it in a loop and it leaves that loop -/
def brkFlat : Block := [.atom none (.label 1), .atom (some "E") (.jump .brk), .atom none (.jump (.goto 1 none))]
def brkOut : Block := [.node (.loop 2) [.atom (some "E") (.jump .brk)]]

theorem brkFlat_stuck : ∀ fuel, run envOn (atomsL brkFlat) fuel (st0 0) = none
  | 0 => rfl
  | 1 => rfl
  | _ + 2 => rfl

theorem nobreak_necessary :
    (∀ s ∈ brkFlat, ∃ d a, s = Stmt.atom d a) ∧ WellLabelled brkFlat ∧ postprocess brkFlat = .ok brkOut ∧
    0 ≤ (st0 0).time ∧
    ¬ (∀ fuel' r', run envOn (lower (maxLabel brkFlat + 1) brkOut) fuel' (st0 0) = some r' →
        ∃ fuel r, run envOn (atomsL brkFlat) fuel (st0 0) = some r ∧ SameResult r r') := by
  refine ⟨flat_of_all (by decide), wellLabelled_of (by decide) (by decide), by rfl, by decide, ?_⟩
  intro hall
  have hsome : (run envOn (lower (maxLabel brkFlat + 1) brkOut) 4 (st0 0)).isSome = true := by rfl
  obtain ⟨r', hr'⟩ := Option.isSome_iff_exists.mp hsome
  obtain ⟨fuel, r, hr, _⟩ := hall 4 r' hr'
  rw [brkFlat_stuck fuel] at hr
  cases hr

/-- an unreferenced label in front of a time label that goes below zero: executing the label raises a
negative initial time to 0 (and the real time with it), the reconstruction has dropped the label -/
def timeFlat : Block := [.atom none (.label 1), .atom none (.absTime (-10)), .atom none (.ins 5 [])]
def timeOut : Block := [.atom none (.absTime (-10)), .atom none (.ins 5 [])]

theorem timeOut_runs : ∀ fuel r, run envOn (lower (maxLabel timeFlat + 1) timeOut) fuel (st0 (-5)) = some r → r.realTime = 0
  | 0, r, h => by cases h
  | 1, r, h => by cases h
  | 2, r, h => by cases h
  | n + 3, r, h => by
    have : run envOn (lower (maxLabel timeFlat + 1) timeOut) (n + 3) (st0 (-5)) =
        some { regs := fun _ => 0, time := -5, realTime := 0, log := [(0, 5, [])] } := rfl
    rw [this] at h; cases h; rfl

theorem nonneg_time_necessary :
    (∀ s ∈ timeFlat, ∃ d a, s = Stmt.atom d a) ∧ WellLabelled timeFlat ∧ NoBreak timeFlat ∧
    postprocess timeFlat = .ok timeOut ∧
    ¬ (∀ fuel r, run envOn (atomsL timeFlat) fuel (st0 (-5)) = some r →
        ∃ fuel' r', run envOn (lower (maxLabel timeFlat + 1) timeOut) fuel' (st0 (-5)) = some r' ∧ SameResult r r') := by
  refine ⟨flat_of_all (by decide), wellLabelled_of (by decide) (by decide), by unfold NoBreak; decide, by rfl, ?_⟩
  intro hall
  have hflat : (run envOn (atomsL timeFlat) 4 (st0 (-5))).map (·.realTime) = some 5 := by rfl
  obtain ⟨r, hr, hrt⟩ := Option.map_eq_some_iff.mp hflat
  obtain ⟨fuel', r', hr', _, _, h1, _⟩ := hall 4 r hr
  have h0 := timeOut_runs fuel' r' hr'
  rw [hrt, h0] at h1
  cases h1

theorem C07_full_false : ¬ C07_full := by
  intro h
  obtain ⟨hflat, hwl, hpost, _, hnot⟩ := nobreak_necessary
  exact hnot (h brkFlat brkOut hflat hwl hpost envOn (st0 0)).2

end TruthModel.C07
