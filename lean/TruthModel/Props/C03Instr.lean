import TruthModel.Model.Files
import TruthModel.Lemmas.Readers
import TruthModel.Lemmas.Digits
/-
C03 — a successful compile never writes a file that differs from what was asked.
Instruction level: the checked writer rejects exactly the instructions that do not fit the
on-disk header, and what it writes reads back as the same instruction, singly and as a script.
-/
namespace TruthModel.C03
open TruthModel TruthModel.InstrIO

/-- the bytes of an instruction: `write_instr` without its checks -/
def instrBytes (f : Fmt) (i : Instr) : Bytes :=
  match f with
  | .msg => i16 i.time ++ u8 i.opcode ++ u8 i.blob.length ++ i.blob
  | .anm07 => u16 i.opcode ++ u16 (instrSize f i) ++ i16 i.time ++ u16 i.mask ++ i.blob
  | .std06 => i32 i.time ++ u16 i.opcode ++ u16 12 ++ i.blob
  | .std10 => i32 i.time ++ u16 i.opcode ++ u16 (instrSize f i) ++ i.blob
  | .ecl06 => i32 i.time ++ u16 i.opcode ++ u16 (instrSize f i) ++ u8 0 ++ u8 i.difficulty ++ u16 255 ++ i.blob
  | .ecl07 => i32 i.time ++ u16 i.opcode ++ u16 (instrSize f i) ++ u8 0 ++ u8 i.difficulty ++ u16 i.mask ++ i.blob
  | .tl06 => i16 i.time ++ i16 (i.extra.getD 0) ++ u16 i.opcode ++ u16 (instrSize f i) ++ i.blob
  | .tl08 => i32 i.time ++ u16 i.opcode ++ u8 (instrSize f i) ++ u8 i.difficulty ++ i.blob

def instrsBytes (f : Fmt) : List Instr → Bytes
  | [] => writeTerminal f
  | i :: is => instrBytes f i ++ instrsBytes f is

theorem writeInstr_wrote (f : Fmt) (i : Instr) : Wrote (writeInstr f i) (fits f i = true) False (instrBytes f i) := by
  have h : writeInstr f i = if !fits f i then .err tooLarge else .ok (instrBytes f i) := by
    unfold writeInstr
    cases fits f i
    · rfl
    · cases f <;> rfl
  rw [h]
  exact (Wrote.checkB (.ok _)).iff (and_iff_left trivial)

theorem write_ok_fits {f : Fmt} {i : Instr} {bs : Bytes} (h : writeInstr f i = .ok bs) : fits f i = true :=
  ((writeInstr_wrote f i).of_ok h).1

theorem write_err_iff_not_fits (f : Fmt) (i : Instr) :
    (∃ c, writeInstr f i = .err c) ↔ fits f i = false :=
  (writeInstr_wrote f i).decides.err_iff.trans (Bool.not_eq_true _ ▸ Iff.rfl)

theorem write_ok_iff_fits (f : Fmt) (i : Instr) :
    (∃ b, writeInstr f i = .ok b) ↔ fits f i = true :=
  ⟨fun ⟨_, hb⟩ => write_ok_fits hb, fun h => ⟨_, (writeInstr_wrote f i).eq_ok h⟩⟩

theorem write_no_panic (f : Fmt) (i : Instr) : (writeInstr f i).isPanic = false :=
  (writeInstr_wrote f i).decides.no_panic

example : fits .msg { time := 40, opcode := 3, blob := [1, 2, 3, 4] } = true := by decide +kernel
example : fits .msg { time := 40000, opcode := 3 } = false := by decide +kernel
example : fits .msg { time := 0, opcode := 300 } = false := by decide +kernel

theorem rdU8_u8 (n : Nat) (rest : Bytes) (h : n < 2 ^ 8) : rdU8 (u8 n ++ rest) = some (n, rest) := by
  simp only [u8, rdU8, List.cons_append, List.nil_append, Digits.toNat_ofNat_mod]
  congr 2; exact Nat.mod_eq_of_lt h

theorem rdU16_u16 (n : Nat) (rest : Bytes) (h : n < 2 ^ 16) : rdU16 (u16 n ++ rest) = some (n, rest) := by
  simp only [u16, rdU16, List.cons_append, List.nil_append, Digits.toNat_ofNat_mod]
  congr 2
  have e : n / 256 % 256 = n / 256 := Nat.mod_eq_of_lt (Nat.div_lt_of_lt_mul h)
  rw [e]
  exact Nat.mod_add_div n 256

theorem rdU32_u32 (n : Nat) (rest : Bytes) (h : n < 2 ^ 32) : rdU32 (u32 n ++ rest) = some (n, rest) := by
  simp only [u32, rdU32, List.cons_append, List.nil_append, Digits.toNat_ofNat_mod]
  congr 2
  exact Digits.digits4_lt n h

theorem fitsI16_iff (i : Int) : fitsI 16 i = true ↔ (-32768 ≤ i ∧ i < 32768) := by
  simp [fitsI]
theorem fitsU8_iff (n : Nat) : fitsU 8 n = true ↔ n < 256 := by simp [fitsU]
theorem fitsU16_iff (n : Nat) : fitsU 16 n = true ↔ n < 65536 := by simp [fitsU]
theorem fitsI16_nat_iff (n : Nat) : fitsI 16 (n : Int) = true ↔ n < 32768 := by
  rw [fitsI16_iff]; omega

theorem signed_twos (bits : Nat) (hb : 0 < bits) (i : Int) (h : fitsI bits i = true) : signed bits (twos bits i) = i := by
  simp only [fitsI, decide_eq_true_eq] at h
  exact Digits.signed_twos bits hb i h.1 h.2 rfl

theorem rdI16_i16 (i : Int) (rest : Bytes) (h : fitsI 16 i = true) : rdI16 (i16 i ++ rest) = some (i, rest) := by
  unfold rdI16 i16
  rw [rdU16_u16 (twos 16 i) _ (Digits.twos_lt 16 i)]
  simp only [Option.map_some, signed_twos 16 (by decide) i h]

theorem rdI32_i32 (i : Int) (rest : Bytes) (h : fitsI 32 i = true) : rdI32 (i32 i ++ rest) = some (i, rest) := by
  unfold rdI32 i32
  rw [rdU32_u32 (twos 32 i) _ (Digits.twos_lt 32 i)]
  simp only [Option.map_some, signed_twos 32 (by decide) i h]

/-- sizes are written unsigned (`u16`) and read signed (`i16`) by old ECL and TL06 -/
theorem rdI16_u16 (n : Nat) (rest : Bytes) (h : n < 2 ^ 15) : rdI16 (u16 n ++ rest) = some ((n : Int), rest) := by
  unfold rdI16
  rw [rdU16_u16 _ _ (Nat.lt_trans h (by decide))]
  have h2 : (2 ^ (16 - 1) : Nat) = 32768 := by decide
  simp only [Option.map_some, signed, h2]
  rw [if_pos (show n < 32768 from h)]

theorem rdBytes_append (b rest : Bytes) : rdBytes b.length (b ++ rest) = some (b, rest) := by
  simp [rdBytes]

/-- The fields the format does not store have the value the reader fills in.
(`.ecl06`: EoSD writes the mask as `0xFF` and reads it back; `.tl06`: `extra_arg` is always
present after a read, so `none` — written as `0` — does not survive.) -/
def Stored (f : Fmt) (i : Instr) : Prop :=
  match f with
  | .msg | .std06 | .std10 => i.mask = 0 ∧ i.difficulty = 255 ∧ i.extra = none
  | .anm07 => i.difficulty = 255 ∧ i.extra = none
  | .ecl06 => i.mask = 255 ∧ i.extra = none
  | .ecl07 => i.extra = none
  | .tl06 => i.mask = 0 ∧ i.difficulty = 255 ∧ ∃ e, i.extra = some e
  | .tl08 => i.mask = 0 ∧ i.extra = none

/-- The instruction with every unstored field reset: what reading back `writeInstr f i` gives. -/
def norm (f : Fmt) (i : Instr) : Instr :=
  match f with
  | .msg | .std06 | .std10 => { time := i.time, opcode := i.opcode, mask := 0, blob := i.blob }
  | .anm07 => { time := i.time, opcode := i.opcode, mask := i.mask, blob := i.blob }
  | .ecl06 => { time := i.time, opcode := i.opcode, mask := 255, blob := i.blob, difficulty := i.difficulty }
  | .ecl07 => { time := i.time, opcode := i.opcode, mask := i.mask, blob := i.blob, difficulty := i.difficulty }
  | .tl06 => { time := i.time, opcode := i.opcode, mask := 0, blob := i.blob, extra := some (i.extra.getD 0) }
  | .tl08 => { time := i.time, opcode := i.opcode, mask := 0, blob := i.blob, difficulty := i.difficulty }

theorem stored_iff_norm (f : Fmt) (i : Instr) : Stored f i ↔ norm f i = i := by
  obtain ⟨t, o, m, b, d, x⟩ := i
  cases f <;> simp only [Stored, norm, Instr.mk.injEq, true_and]
  case tl06 =>
    constructor
    · rintro ⟨rfl, rfl, e, rfl⟩; exact ⟨rfl, rfl, rfl⟩
    · rintro ⟨rfl, rfl, h⟩; exact ⟨rfl, rfl, _, h.symm⟩
  all_goals
    constructor
    · intro h; simp only [h, and_self]
    · intro h; simp only [h, and_self]

/-- what `readInstr` reports for a written `i`: MSG cannot tell `(0, 0, [])` from its end marker -/
def expectedRes (f : Fmt) (i : Instr) : ReadRes :=
  match f with
  | .msg => if i.time = 0 ∧ i.opcode = 0 ∧ i.blob = [] then .maybeTerminal i else .instr i
  | _ => .instr i

/-- `readInstr` does not take the encoding of `i` for the format's end marker, that is, it does not answer `.terminal`.
Among the instructions `fits` accepts only TL06 has exceptions (time -1 with extra argument 4): ANM/STD/ECL markers have
opcode 65535, which `fits` rejects, and the TL08 marker has size 0 while every written size is ≥ 8.  The MSG instruction
`(0, 0, [])` is written as the bytes of the MSG marker too (`msg_terminal_instr`), but `readInstr` answers `.maybeTerminal`
for them, not `.terminal`; that case is in `expectedRes`. -/
def NotTerminalLooking (f : Fmt) (i : Instr) : Prop :=
  match f with
  | .tl06 => ¬ (i.time = -1 ∧ i.extra = some 4)
  | _ => True

/-- the MSG reader answers `[]` and `[_]` before it reads a field, so the equation of its body holds on `a :: b :: r` only -/
theorem readInstr_msg_cons (a b : UInt8) (r : Bytes) :
    readInstr .msg (a :: b :: r) =
      match rdI16 (a :: b :: r) with
      | none => .err eofErr
      | some (time, r) =>
      match rdU8 r with
      | none => .err eofErr
      | some (opcode, r) =>
      match rdU8 r with
      | none => .err eofErr
      | some (argsize, r) =>
      match rdBytes argsize r with
      | none => .err eofErr
      | some (blob, r) =>
        let i : Instr := { time, opcode, mask := 0, blob }
        if time = 0 ∧ opcode = 0 ∧ argsize = 0 then .ok (.maybeTerminal i, r) else .ok (.instr i, r) := rfl

theorem i16_append (t : Int) (r : Bytes) : ∃ a b, i16 t ++ r = a :: b :: r := ⟨_, _, rfl⟩

theorem read_write_msg (i : Instr) (rest bs : Bytes) (hw : writeInstr .msg i = .ok bs) :
    readInstr .msg (bs ++ rest) = .ok (expectedRes .msg (norm .msg i), rest) := by
  obtain ⟨hf, rfl⟩ := (writeInstr_wrote _ i).of_ok hw
  simp only [fits, Bool.and_eq_true, fitsU8_iff] at hf
  obtain ⟨⟨h1, h2⟩, h3⟩ := hf
  simp only [instrBytes, List.append_assoc]
  obtain ⟨a, b, hab⟩ := i16_append i.time (u8 i.opcode ++ (u8 i.blob.length ++ (i.blob ++ rest)))
  rw [hab, readInstr_msg_cons, ← hab]
  simp only [rdI16_i16 _ _ h1, rdU8_u8 _ _ h2, rdU8_u8 _ _ h3, rdBytes_append, List.length_eq_zero_iff]
  show _ = Outcome.ok (if i.time = 0 ∧ i.opcode = 0 ∧ i.blob = [] then ReadRes.maybeTerminal (norm .msg i) else .instr (norm .msg i), rest)
  by_cases hc : i.time = 0 ∧ i.opcode = 0 ∧ i.blob = []
  · rw [if_pos hc, if_pos hc]; rfl
  · rw [if_neg hc, if_neg hc]; rfl

theorem read_write_anm07 (i : Instr) (rest bs : Bytes) (hw : writeInstr .anm07 i = .ok bs) :
    readInstr .anm07 (bs ++ rest) = .ok (.instr (norm .anm07 i), rest) := by
  obtain ⟨hf, rfl⟩ := (writeInstr_wrote _ i).of_ok hw
  simp only [fits, Bool.and_eq_true, fitsU16_iff, instrSize, headerSize, bne_iff_ne, ne_eq] at hf
  obtain ⟨⟨⟨⟨h0, h1⟩, h2⟩, h3⟩, h4⟩ := hf
  have e : 8 + i.blob.length - 8 = i.blob.length := Nat.add_sub_cancel_left ..
  have hlt : ¬ (8 + i.blob.length < 8) := Nat.not_lt.2 (Nat.le_add_right ..)
  simp only [readInstr, instrBytes, List.append_assoc, rdI16_i16 _ _ h3, rdU16_u16 _ _ h1, rdU16_u16 _ _ h2,
    rdU16_u16 _ _ h4, instrSize, headerSize, e, hlt, h0, if_false, rdBytes_append, norm]

theorem read_write_std06 (i : Instr) (rest bs : Bytes) (hw : writeInstr .std06 i = .ok bs) :
    readInstr .std06 (bs ++ rest) = .ok (.instr (norm .std06 i), rest) := by
  obtain ⟨hf, rfl⟩ := (writeInstr_wrote _ i).of_ok hw
  simp only [fits, Bool.and_eq_true, fitsU16_iff, bne_iff_ne, ne_eq, beq_iff_eq] at hf
  obtain ⟨⟨⟨h0, h1⟩, h2⟩, h3⟩ := hf
  have h12 : (12 : Nat) < 2 ^ 16 := by decide
  have hb := rdBytes_append i.blob rest
  rw [h3] at hb
  simp only [readInstr, instrBytes, List.append_assoc, rdI32_i32 _ _ h2, rdU16_u16 _ _ h1, rdU16_u16 _ _ h12,
    h0, if_false, hb, ne_eq, not_true_eq_false, norm]

theorem read_write_std10 (i : Instr) (rest bs : Bytes) (hw : writeInstr .std10 i = .ok bs) :
    readInstr .std10 (bs ++ rest) = .ok (.instr (norm .std10 i), rest) := by
  obtain ⟨hf, rfl⟩ := (writeInstr_wrote _ i).of_ok hw
  simp only [fits, Bool.and_eq_true, fitsU16_iff, instrSize, headerSize, bne_iff_ne, ne_eq] at hf
  obtain ⟨⟨⟨h0, h1⟩, h2⟩, h3⟩ := hf
  have e : 8 + i.blob.length - 8 = i.blob.length := Nat.add_sub_cancel_left ..
  have hlt : ¬ (8 + i.blob.length < 8) := Nat.not_lt.2 (Nat.le_add_right ..)
  simp only [readInstr, instrBytes, List.append_assoc, rdI32_i32 _ _ h2, rdU16_u16 _ _ h1, rdU16_u16 _ _ h3,
    instrSize, headerSize, e, hlt, h0, if_false, rdBytes_append, norm]

theorem read_write_ecl07 (i : Instr) (rest bs : Bytes) (hw : writeInstr .ecl07 i = .ok bs) :
    readInstr .ecl07 (bs ++ rest) = .ok (.instr (norm .ecl07 i), rest) := by
  obtain ⟨hf, rfl⟩ := (writeInstr_wrote _ i).of_ok hw
  simp only [fits, Bool.and_eq_true, fitsU16_iff, fitsU8_iff, fitsI16_nat_iff, instrSize, headerSize,
    bne_iff_ne, ne_eq] at hf
  obtain ⟨⟨⟨⟨⟨h0, h1⟩, h2⟩, h3⟩, h4⟩, h5⟩ := hf
  have e : ((12 + i.blob.length : Nat) : Int).toNat - 12 = i.blob.length := Nat.add_sub_cancel_left ..
  have hlt : ¬ (((12 + i.blob.length : Nat) : Int) < 12) := Int.not_lt.2 (Int.ofNat_le.2 (Nat.le_add_right ..))
  have h00 : (0 : Nat) < 2 ^ 8 := by decide
  simp only [readInstr, instrBytes, List.append_assoc, rdI32_i32 _ _ h2, rdU16_u16 _ _ h1, rdI16_u16 _ _ h3,
    rdU8_u8 _ _ h00, rdU8_u8 _ _ h4, rdU16_u16 _ _ h5,
    instrSize, headerSize, e, hlt, h0, if_false, rdBytes_append, norm]

/-- EoSD writes the mask as `0xFF` whatever it is: the bytes of `i` are those of `i` with mask 255 in
the layout that stores the mask, and both layouts have one reader -/
theorem read_write_ecl06 (i : Instr) (rest bs : Bytes) (hw : writeInstr .ecl06 i = .ok bs) :
    readInstr .ecl06 (bs ++ rest) = .ok (.instr (norm .ecl06 i), rest) := by
  have hf := write_ok_fits hw
  have hf' : fits .ecl07 { i with mask := 255 } = true := by
    simp only [fits, Bool.and_eq_true] at hf ⊢
    exact ⟨hf.1, by decide⟩
  have hw' : writeInstr .ecl07 { i with mask := 255 } = .ok bs := by
    unfold writeInstr at hw ⊢
    rw [hf] at hw
    rw [hf']
    exact hw
  exact read_write_ecl07 { i with mask := 255 } rest bs hw'

/-- TL06 decides "terminal" on the first two words alone. -/
theorem read_write_tl06_terminal (i : Instr) (rest bs : Bytes) (hw : writeInstr .tl06 i = .ok bs)
    (ht : i.time = -1 ∧ i.extra.getD 0 = 4) : ∃ r, readInstr .tl06 (bs ++ rest) = .ok (.terminal, r) := by
  obtain ⟨hf, rfl⟩ := (writeInstr_wrote _ i).of_ok hw
  simp only [fits, Bool.and_eq_true] at hf
  obtain ⟨⟨⟨h1, h2⟩, h3⟩, h4⟩ := hf
  simp only [readInstr, instrBytes, List.append_assoc, rdI16_i16 _ _ h1, rdI16_i16 _ _ h4]
  rw [if_pos ht]
  exact ⟨_, rfl⟩

theorem read_write_tl06 (i : Instr) (rest bs : Bytes) (hw : writeInstr .tl06 i = .ok bs)
    (hn : ¬ (i.time = -1 ∧ i.extra.getD 0 = 4)) :
    readInstr .tl06 (bs ++ rest) = .ok (.instr (norm .tl06 i), rest) := by
  obtain ⟨hf, rfl⟩ := (writeInstr_wrote _ i).of_ok hw
  simp only [fits, Bool.and_eq_true, fitsU16_iff, fitsI16_nat_iff, instrSize, headerSize] at hf
  obtain ⟨⟨⟨h1, h2⟩, h3⟩, h4⟩ := hf
  have e : ((8 + i.blob.length : Nat) : Int).toNat - 8 = i.blob.length := Nat.add_sub_cancel_left ..
  have hlt : ¬ (((8 + i.blob.length : Nat) : Int) < 8) := Int.not_lt.2 (Int.ofNat_le.2 (Nat.le_add_right ..))
  simp only [readInstr, instrBytes, List.append_assoc, rdI16_i16 _ _ h1, rdI16_i16 _ _ h4, rdU16_u16 _ _ h2,
    rdI16_u16 _ _ h3, instrSize, headerSize, e, hlt, hn, if_false, rdBytes_append, norm]

theorem read_write_tl08 (i : Instr) (rest bs : Bytes) (hw : writeInstr .tl08 i = .ok bs) :
    readInstr .tl08 (bs ++ rest) = .ok (.instr (norm .tl08 i), rest) := by
  obtain ⟨hf, rfl⟩ := (writeInstr_wrote _ i).of_ok hw
  simp only [fits, Bool.and_eq_true, fitsU8_iff, fitsU16_iff, instrSize, headerSize] at hf
  obtain ⟨⟨⟨h1, h2⟩, h3⟩, h4⟩ := hf
  have e : 8 + i.blob.length - 8 = i.blob.length := Nat.add_sub_cancel_left ..
  have hlt : ¬ (8 + i.blob.length < 8) := Nat.not_lt.2 (Nat.le_add_right ..)
  have hne : ¬ (8 + i.blob.length = 0) := Nat.ne_of_gt (Nat.lt_of_lt_of_le (Nat.zero_lt_succ 7) (Nat.le_add_right ..))
  simp only [readInstr, instrBytes, List.append_assoc, rdI32_i32 _ _ h1, rdU16_u16 _ _ h2, rdU8_u8 _ _ h3,
    rdU8_u8 _ _ h4, instrSize, headerSize, e, hlt, hne, false_and, and_false, if_false, rdBytes_append,
    norm]

theorem notTerminalLooking_tl06_iff (i : Instr) :
    NotTerminalLooking .tl06 i ↔ ¬ (i.time = -1 ∧ i.extra.getD 0 = 4) := by
  obtain ⟨t, o, m, b, d, x⟩ := i
  cases x with
  | none => simp [NotTerminalLooking]
  | some e => simp [NotTerminalLooking]

theorem read_write_norm (f : Fmt) (i : Instr) (rest bs : Bytes)
    (hw : writeInstr f i = .ok bs) (hn : NotTerminalLooking f i) :
    readInstr f (bs ++ rest) = .ok (expectedRes f (norm f i), rest) := by
  cases f
  · exact read_write_msg i rest bs hw
  · exact read_write_anm07 i rest bs hw
  · exact read_write_std06 i rest bs hw
  · exact read_write_std10 i rest bs hw
  · exact read_write_ecl06 i rest bs hw
  · exact read_write_ecl07 i rest bs hw
  · exact read_write_tl06 i rest bs hw ((notTerminalLooking_tl06_iff i).1 hn)
  · exact read_write_tl08 i rest bs hw

/-- **Round trip of one instruction**, every format. -/
theorem read_write (f : Fmt) (i : Instr) (rest bs : Bytes) (hs : Stored f i)
    (hw : writeInstr f i = .ok bs) (hn : NotTerminalLooking f i) :
    readInstr f (bs ++ rest) = .ok (expectedRes f i, rest) := by
  have := read_write_norm f i rest bs hw hn
  rwa [(stored_iff_norm f i).1 hs] at this

theorem expectedRes_inj (f : Fmt) (i1 i2 : Instr) (h : expectedRes f i1 = expectedRes f i2) : i1 = i2 := by
  cases f
  case msg =>
    simp only [expectedRes] at h
    split at h <;> split at h <;> first | (injection h) | contradiction
  all_goals exact ReadRes.instr.inj h

/-- The side conditions of `read_write` are exactly right. -/
theorem read_write_iff (f : Fmt) (i : Instr) (rest bs : Bytes) (hw : writeInstr f i = .ok bs) :
    readInstr f (bs ++ rest) = .ok (expectedRes f i, rest) ↔ Stored f i ∧ NotTerminalLooking f i := by
  constructor
  · intro h
    have hn : NotTerminalLooking f i := by
      cases f
      case tl06 =>
        rw [notTerminalLooking_tl06_iff]
        intro ht
        obtain ⟨r, hr⟩ := read_write_tl06_terminal i rest bs hw ht
        rw [hr] at h
        simp only [expectedRes, Outcome.ok.injEq, Prod.mk.injEq, reduceCtorEq, false_and] at h
      all_goals trivial
    refine ⟨?_, hn⟩
    have h' := read_write_norm f i rest bs hw hn
    rw [h] at h'
    injection h' with h'
    injection h' with h'
    exact (stored_iff_norm f i).2 (expectedRes_inj f _ _ h').symm
  · rintro ⟨hs, hn⟩
    exact read_write f i rest bs hs hw hn

/-! The hypotheses of `read_write` are satisfiable by non-trivial instructions, here for five of the formats. -/
example : ∃ bs, Stored .msg { time := -40, opcode := 3, blob := [1, 2, 3, 4] } ∧
    writeInstr .msg { time := -40, opcode := 3, blob := [1, 2, 3, 4] } = .ok bs ∧
    NotTerminalLooking .msg { time := -40, opcode := 3, blob := [1, 2, 3, 4] } :=
  ⟨[216, 255, 3, 4, 1, 2, 3, 4], ⟨rfl, rfl, rfl⟩, by decide +kernel, trivial⟩
example : ∃ bs, Stored .anm07 { time := -1, opcode := 300, mask := 5, blob := [1, 2, 3, 4] } ∧
    writeInstr .anm07 { time := -1, opcode := 300, mask := 5, blob := [1, 2, 3, 4] } = .ok bs ∧
    NotTerminalLooking .anm07 { time := -1, opcode := 300, mask := 5, blob := [1, 2, 3, 4] } :=
  ⟨[44, 1, 12, 0, 255, 255, 5, 0, 1, 2, 3, 4], ⟨rfl, rfl⟩, by decide +kernel, trivial⟩
example : ∃ bs, Stored .ecl06 { time := 70000, opcode := 35, mask := 255, difficulty := 15, blob := [7, 7, 7, 7] } ∧
    writeInstr .ecl06 { time := 70000, opcode := 35, mask := 255, difficulty := 15, blob := [7, 7, 7, 7] } = .ok bs ∧
    NotTerminalLooking .ecl06 { time := 70000, opcode := 35, mask := 255, difficulty := 15, blob := [7, 7, 7, 7] } :=
  ⟨[112, 17, 1, 0, 35, 0, 16, 0, 0, 15, 255, 0, 7, 7, 7, 7], ⟨rfl, rfl⟩, by decide +kernel, trivial⟩
example : ∃ bs, Stored .tl06 { time := -1, opcode := 2, extra := some 7, blob := [1, 0, 0, 0] } ∧
    writeInstr .tl06 { time := -1, opcode := 2, extra := some 7, blob := [1, 0, 0, 0] } = .ok bs ∧
    NotTerminalLooking .tl06 { time := -1, opcode := 2, extra := some 7, blob := [1, 0, 0, 0] } :=
  ⟨[255, 255, 7, 0, 2, 0, 12, 0, 1, 0, 0, 0], ⟨rfl, rfl, 7, rfl⟩, by decide +kernel, by simp [NotTerminalLooking]⟩
example : ∃ bs, Stored .tl08 { time := -1, opcode := 0, difficulty := 0, blob := [] } ∧
    writeInstr .tl08 { time := -1, opcode := 0, difficulty := 0, blob := [] } = .ok bs ∧
    NotTerminalLooking .tl08 { time := -1, opcode := 0, difficulty := 0, blob := [] } :=
  ⟨[255, 255, 255, 255, 0, 0, 8, 0], ⟨rfl, rfl⟩, by decide +kernel, trivial⟩
example : readInstr .anm07 ([44, 1, 12, 0, 255, 255, 5, 0, 1, 2, 3, 4] ++ [9, 9]) =
    .ok (.instr { time := -1, opcode := 300, mask := 5, blob := [1, 2, 3, 4] }, [9, 9]) :=
  read_write .anm07 _ _ _ ⟨rfl, rfl⟩ (by decide +kernel) trivial
/-- the excluded TL06 case really does not read back: it is the terminal marker -/
example : ∃ bs r, writeInstr .tl06 { time := -1, opcode := 2, extra := some 4 } = .ok bs ∧
    readInstr .tl06 bs = .ok (.terminal, r) := ⟨_, _, rfl, rfl⟩
example : expectedRes .msg { time := 0, opcode := 0 } = .maybeTerminal { time := 0, opcode := 0 } := by decide +kernel
/-- an unstored field breaks the round trip: TL06 with `extra = none` reads back `some 0` -/
example : ∃ bs, writeInstr .tl06 { time := 0, opcode := 2 } = .ok bs ∧
    readInstr .tl06 bs = .ok (.instr { time := 0, opcode := 2, extra := some 0 }, []) := ⟨_, rfl, rfl⟩

theorem append_inj_of_read {α} {rd : Bytes → Option (α × Bytes)} {w : α → Bytes} {a b : α} {r s : Bytes}
    (ha : rd (w a ++ r) = some (a, r)) (hb : rd (w b ++ s) = some (b, s)) (h : w a ++ r = w b ++ s) : a = b ∧ r = s := by
  rw [h, hb] at ha
  cases ha
  exact ⟨rfl, rfl⟩

/-- TL06 directly (field by field), so that terminal-looking instructions are covered as well -/
theorem write_injective_tl06 (i1 i2 : Instr) (bs : Bytes) (h1 : Stored .tl06 i1) (h2 : Stored .tl06 i2)
    (w1 : writeInstr .tl06 i1 = .ok bs) (w2 : writeInstr .tl06 i2 = .ok bs) : i1 = i2 := by
  obtain ⟨f1, rfl⟩ := (writeInstr_wrote _ i1).of_ok w1
  obtain ⟨f2, w2⟩ := (writeInstr_wrote _ i2).of_ok w2
  replace w2 := w2.symm
  obtain ⟨t1, o1, m1, b1, d1, x1⟩ := i1
  obtain ⟨t2, o2, m2, b2, d2, x2⟩ := i2
  simp only [Stored] at h1 h2
  obtain ⟨rfl, rfl, e1, rfl⟩ := h1
  obtain ⟨rfl, rfl, e2, rfl⟩ := h2
  simp only [fits, Bool.and_eq_true, fitsU16_iff, fitsI16_nat_iff, instrSize, headerSize,
    Option.getD_some] at f1 f2
  obtain ⟨⟨⟨p1, p2⟩, p3⟩, p4⟩ := f1
  obtain ⟨⟨⟨q1, q2⟩, q3⟩, q4⟩ := f2
  simp only [instrBytes, List.append_assoc, Option.getD_some, instrSize, headerSize] at w2
  obtain ⟨rfl, w3⟩ := append_inj_of_read (rdI16_i16 _ _ q1) (rdI16_i16 _ _ p1) w2
  obtain ⟨rfl, w4⟩ := append_inj_of_read (rdI16_i16 _ _ q4) (rdI16_i16 _ _ p4) w3
  obtain ⟨rfl, w5⟩ := append_inj_of_read (rdU16_u16 _ _ q2) (rdU16_u16 _ _ p2) w4
  obtain ⟨_, rfl⟩ := append_inj_of_read (rdU16_u16 _ _ (Nat.lt_trans q3 (by decide))) (rdU16_u16 _ _ (Nat.lt_trans p3 (by decide))) w5
  rfl

/-- **The checked writer is injective** on the instructions a format can represent (no `NotTerminalLooking` needed). -/
theorem write_injective (f : Fmt) (i1 i2 : Instr) (bs : Bytes) (h1 : Stored f i1) (h2 : Stored f i2)
    (w1 : writeInstr f i1 = .ok bs) (w2 : writeInstr f i2 = .ok bs) : i1 = i2 := by
  by_cases hf : f = .tl06
  · subst hf; exact write_injective_tl06 i1 i2 bs h1 h2 w1 w2
  · have n1 : NotTerminalLooking f i1 := by cases f <;> first | exact absurd rfl hf | trivial
    have n2 : NotTerminalLooking f i2 := by cases f <;> first | exact absurd rfl hf | trivial
    have r1 := read_write f i1 [] bs h1 w1 n1
    have r2 := read_write f i2 [] bs h2 w2 n2
    rw [r1] at r2
    injection r2 with r2
    injection r2 with r2
    exact expectedRes_inj f i1 i2 r2

theorem rdBytes_zero (r : Bytes) : rdBytes 0 r = some ([], r) := by
  simp only [rdBytes, Nat.zero_le, if_true, List.take_zero, List.drop_zero]

/-- Old ECL end marker: evaluating the header leaves the read of a blob of `12 - 12` bytes, which
does not compute on an unknown rest. -/
theorem read_terminal_ecl (rest : Bytes) : readInstr .ecl07 (writeTerminal .ecl07 ++ rest) = .ok (.terminal, rest) := by
  have h : readInstr .ecl07 (writeTerminal .ecl07 ++ rest) =
      match rdBytes 0 rest with
      | none => .err eofErr
      | some (blob, r) => if (65535 : Nat) = 65535 then .ok (.terminal, r)
          else .ok (.instr { time := -1, opcode := 65535, mask := 255, blob, difficulty := 255 }, r) := rfl
  rw [h, rdBytes_zero]
  rfl

theorem read_terminal_append (f : Fmt) (hf : f ≠ .msg) (rest : Bytes) :
    ∃ r, readInstr f (writeTerminal f ++ rest) = .ok (.terminal, r) := by
  cases f
  · exact absurd rfl hf
  · exact ⟨_, rfl⟩
  · exact ⟨_, rfl⟩
  · exact ⟨_, rfl⟩
  · exact ⟨_, read_terminal_ecl rest⟩
  · exact ⟨_, read_terminal_ecl rest⟩
  · exact ⟨_, rfl⟩
  · exact ⟨_, rfl⟩

theorem instrBytes_length (f : Fmt) (i : Instr) : (instrBytes f i).length = instrSize f i := by
  cases f <;>
    simp only [instrBytes, i16, i32, u8, u16, u32, List.length_append, List.length_cons, List.length_nil, instrSize,
      headerSize] <;>
    exact Nat.add_comm ..

theorem write_length {f : Fmt} {i : Instr} {bs : Bytes} (hw : writeInstr f i = .ok bs) :
    bs.length = headerSize f + i.blob.length := by
  obtain ⟨_, rfl⟩ := (writeInstr_wrote f i).of_ok hw
  exact instrBytes_length f i

theorem writeInstrs_wrote (f : Fmt) (is : List Instr) :
    Wrote (writeInstrs f is) (∀ i ∈ is, fits f i = true) False (instrsBytes f is) := by
  induction is with
  | nil => exact .nil _ _
  | cons i is ih => rw [writeInstrs]; exact .cons ((writeInstr_wrote f i).append ih)

theorem writeInstrs_cons_ok {f : Fmt} {i : Instr} {is : List Instr} {bs : Bytes}
    (h : writeInstrs f (i :: is) = .ok bs) :
    ∃ b bs', writeInstr f i = .ok b ∧ writeInstrs f is = .ok bs' ∧ bs = b ++ bs' := by
  obtain ⟨hfit, rfl⟩ := (writeInstrs_wrote f (i :: is)).of_ok h
  exact ⟨_, _, (writeInstr_wrote f i).eq_ok (hfit i (.head _)),
    (writeInstrs_wrote f is).eq_ok (fun j hj => hfit j (.tail _ hj)), rfl⟩

theorem expectedRes_not_msg {f : Fmt} (hf : f ≠ .msg) (i : Instr) : expectedRes f i = .instr i := by
  cases f <;> first | exact absurd rfl hf | rfl

/-- one iteration of the script loop (the compiler-generated equations split on `pending`) -/
theorem readInstrsAux_succ (f : Fmt) (n : Nat) (pending : Option Instr) (acc : List Instr) (bs : Bytes) :
    readInstrsAux f (n + 1) pending acc bs =
      match readInstr f bs with
      | .ok (.eof, _) => .ok acc.reverse
      | .ok (.terminal, _) => .ok acc.reverse
      | .ok (.instr i, r) => readInstrsAux f n none (i :: Files.commit pending acc) r
      | .ok (.maybeTerminal i, r) => readInstrsAux f n (some i) (Files.commit pending acc) r
      | .err c => .err c
      | .panic s => .panic s := by
  cases pending <;> rfl

/-! MSG scripts are read by the loop with an end offset (`Model/Files.lean`): up to the offset of the next
script or, the last one of a file, to the end of the input. -/

/-- one iteration of that loop, as `readInstrsAux_succ` is for the loop without an end offset -/
theorem _root_.TruthModel.C16.readInstrsEndAux_succ (f : Fmt) (e : Option Nat) (n : Nat) (pending : Option Instr)
    (acc : List Instr) (cur : Nat) (bs : Bytes) :
    Files.readInstrsEndAux f e (n + 1) pending acc cur bs =
      match Files.endCheck e cur with
      | .stop => .ok acc.reverse
      | .past => .err Files.readPastEnd
      | .go =>
        match readInstr f bs with
        | .ok (.eof, _) => .ok acc.reverse
        | .ok (.terminal, _) => .ok acc.reverse
        | .ok (.instr i, r) => Files.readInstrsEndAux f e n none (i :: Files.commit pending acc) (cur + instrSize f i) r
        | .ok (.maybeTerminal i, r) => Files.readInstrsEndAux f e n (some i) (Files.commit pending acc) (cur + instrSize f i) r
        | .err c => .err c
        | .panic s => .panic s := rfl

theorem readInstrsEndAux_none (f : Fmt) :
    ∀ (n : Nat) (pending : Option Instr) (acc : List Instr) (cur : Nat) (bs : Bytes),
    Files.readInstrsEndAux f none n pending acc cur bs = readInstrsAux f n pending acc bs := by
  intro n
  induction n with
  | zero => intro pending acc cur bs; cases pending <;> rfl
  | succ n ih =>
    intro pending acc cur bs
    rw [C16.readInstrsEndAux_succ, readInstrsAux_succ]
    simp only [Files.endCheck]
    cases h : readInstr f bs with
    | ok p =>
      obtain ⟨res, r⟩ := p
      cases res with
      | instr i => exact ih ..
      | maybeTerminal i => exact ih ..
      | terminal => rfl
      | eof => rfl
    | err c => rfl
    | panic s => rfl

theorem endCheck_inside {e : Option Nat} {cur k : Nat} (hk : 0 < k) (he : e = some (cur + k) ∨ e = none) :
    Files.endCheck e cur = .go := by
  rcases he with rfl | rfl
  · exact if_pos (Nat.lt_add_of_pos_right hk)
  · rfl

theorem msg_terminal_instr : writeInstr .msg { time := 0, opcode := 0 } = .ok (writeTerminal .msg) := by decide

theorem read_terminal_msg_append (rest : Bytes) :
    readInstr .msg (writeTerminal .msg ++ rest) = .ok (.maybeTerminal { time := 0, opcode := 0 }, rest) := by
  have := read_write_msg { time := 0, opcode := 0 } rest _ msg_terminal_instr
  simpa [expectedRes, norm] using this

theorem instrSize_pos (f : Fmt) (i : Instr) : 0 < instrSize f i :=
  Nat.lt_of_lt_of_le (by cases f <;> decide) (Nat.le_add_right ..)

theorem expectedRes_cases (f : Fmt) (i : Instr) :
    expectedRes f i = .instr i ∨ (f = .msg ∧ expectedRes f i = .maybeTerminal i) := by
  by_cases hf : f = .msg
  · subst hf
    by_cases hc : i.time = 0 ∧ i.opcode = 0 ∧ i.blob = []
    · exact .inr ⟨rfl, if_pos hc⟩
    · exact .inl (if_neg hc)
  · exact .inl (expectedRes_not_msg hf i)

theorem readInstr_instrBytes (f : Fmt) (i : Instr) (rest : Bytes)
    (h : fits f i = true ∧ Stored f i ∧ NotTerminalLooking f i) :
    readInstr f (instrBytes f i ++ rest) = .ok (expectedRes f i, rest) :=
  read_write f i rest _ h.2.1 ((writeInstr_wrote f i).eq_ok h.1) h.2.2

/-- The script loop on the bytes of a script: every format, any position in a file, and both ways the loop is told where
the script ends, by an end offset (then anything may follow) or by none (then a MSG script, whose end marker is only a
maybe-terminal, must end the input).  A maybe-terminal instruction of the script is committed as soon as anything
follows it; the end marker itself, read last, is dropped. -/
theorem readEndAux_bytes (f : Fmt) (e : Option Nat) : ∀ (is : List Instr) (n : Nat) (pending : Option Instr)
    (acc : List Instr) (cur : Nat) (rest : Bytes),
    (∀ i ∈ is, fits f i = true ∧ Stored f i ∧ NotTerminalLooking f i) → (instrsBytes f is).length < n →
    (f ≠ .msg → pending = none) →
    e = some (cur + (instrsBytes f is).length) ∨ (e = none ∧ (f = .msg → rest = [])) →
    Files.readInstrsEndAux f e n pending acc cur (instrsBytes f is ++ rest) =
      .ok ((Files.commit pending acc).reverse ++ is) := by
  intro is
  induction is with
  | nil =>
    intro n pending acc cur rest _ hn hp he
    rw [instrsBytes] at hn he ⊢
    obtain ⟨n, rfl⟩ := Nat.exists_eq_add_one.2 (Nat.zero_lt_of_lt hn)
    have hpos : 0 < (writeTerminal f).length := by cases f <;> decide
    rw [C16.readInstrsEndAux_succ, endCheck_inside hpos (he.imp_right And.left), List.append_nil]
    by_cases hf : f = .msg
    · -- the marker is read as a maybe-terminal; the next iteration stops at the end offset or at the end of the input
      subst hf
      obtain ⟨n, rfl⟩ := Nat.exists_eq_add_one.2 (Nat.zero_lt_of_lt (Nat.lt_of_succ_lt_succ hn))
      simp only [read_terminal_msg_append]
      rw [C16.readInstrsEndAux_succ]
      rcases he with rfl | ⟨rfl, hrest⟩
      · have hstop : Files.endCheck (some (cur + (writeTerminal .msg).length))
            (cur + instrSize .msg { time := 0, opcode := 0 }) = .stop := by
          show (if cur + 4 < cur + 4 then _ else if cur + 4 = cur + 4 then _ else _) = _
          rw [if_neg (Nat.lt_irrefl _), if_pos rfl]
        rw [hstop]
      · rw [hrest rfl]; rfl
    · obtain ⟨r, hr⟩ := read_terminal_append f hf rest
      rw [hr, hp hf]; rfl
  | cons i is ih =>
    intro n pending acc cur rest hall hn hp he
    have hread := readInstr_instrBytes f i (instrsBytes f is ++ rest) (hall i (List.mem_cons_self ..))
    have hpos := instrSize_pos f i
    obtain ⟨n, rfl⟩ := Nat.exists_eq_add_one.2 (Nat.zero_lt_of_lt hn)
    rw [instrsBytes, List.length_append, instrBytes_length] at hn he
    rw [instrsBytes, C16.readInstrsEndAux_succ,
      endCheck_inside (Nat.lt_of_lt_of_le hpos (Nat.le_add_right ..)) (he.imp_right And.left), List.append_assoc, hread]
    have ih' := fun pending' acc' => ih n pending' acc' (cur + instrSize f i) rest
      (fun j hj => hall j (List.mem_cons_of_mem _ hj))
      (Nat.lt_of_lt_of_le (Nat.lt_add_of_pos_left hpos) (Nat.le_of_lt_succ hn))
    have he' : e = some (cur + instrSize f i + (instrsBytes f is).length) ∨ (e = none ∧ (f = .msg → rest = [])) := by
      rwa [Nat.add_assoc]
    -- whether `i` is read as an instruction or as a maybe-terminal, it ends up committed
    rcases expectedRes_cases f i with hm | ⟨hf, hm⟩ <;> rw [hm]
    · exact (ih' none _ (fun _ => rfl) he').trans
        (by simp only [Files.commit, List.reverse_cons, List.append_assoc, List.singleton_append])
    · exact (ih' (some i) _ (fun h => absurd hf h) he').trans
        (by simp only [Files.commit, List.reverse_cons, List.append_assoc, List.singleton_append])

theorem readEndAux_write (f : Fmt) (e : Option Nat) : ∀ (is : List Instr) (n : Nat) (pending : Option Instr)
    (acc : List Instr) (cur : Nat) (bs rest : Bytes), writeInstrs f is = .ok bs →
    (∀ i ∈ is, Stored f i ∧ NotTerminalLooking f i) → bs.length < n → (f ≠ .msg → pending = none) →
    e = some (cur + bs.length) ∨ (e = none ∧ (f = .msg → rest = [])) →
    Files.readInstrsEndAux f e n pending acc cur (bs ++ rest) = .ok ((Files.commit pending acc).reverse ++ is) := by
  intro is n pending acc cur bs rest hw hall
  obtain ⟨hfit, rfl⟩ := (writeInstrs_wrote f is).of_ok hw
  exact readEndAux_bytes f e is n pending acc cur rest fun i hi => ⟨hfit i hi, hall i hi⟩

theorem readEndAux_write_msg (is : List Instr) (n : Nat) (pending : Option Instr) (acc : List Instr) (cur : Nat)
    (bs rest : Bytes) (hw : writeInstrs .msg is = .ok bs) (hs : ∀ i ∈ is, Stored .msg i) (hn : bs.length < n) :
    Files.readInstrsEndAux .msg (some (cur + bs.length)) n pending acc cur (bs ++ rest) =
      .ok ((Files.commit pending acc).reverse ++ is) :=
  readEndAux_write .msg _ is n pending acc cur bs rest hw (fun i hi => ⟨hs i hi, trivial⟩) hn (fun h => absurd rfl h) (.inl rfl)

theorem readInstrs_writeInstrs_append (f : Fmt) (hf : f ≠ .msg) (is : List Instr) (rest : Bytes)
    (hall : ∀ i ∈ is, fits f i = true ∧ Stored f i ∧ NotTerminalLooking f i) :
    readInstrs f (instrsBytes f is ++ rest) = .ok is := by
  unfold readInstrs
  rw [← readInstrsEndAux_none f _ none [] 0]
  exact readEndAux_bytes f none is _ none [] 0 rest hall
    (by rw [List.length_append]; exact Nat.lt_succ_of_le (Nat.le_add_right ..)) (fun _ => rfl)
    (.inr ⟨rfl, fun h => absurd h hf⟩)

theorem readInstrs_instrsBytes (f : Fmt) (is : List Instr)
    (hall : ∀ i ∈ is, fits f i = true ∧ Stored f i ∧ NotTerminalLooking f i) : readInstrs f (instrsBytes f is) = .ok is := by
  have := readEndAux_bytes f none is ((instrsBytes f is).length + 1) none [] 0 [] hall (Nat.lt_succ_self _) (fun _ => rfl)
    (.inr ⟨rfl, fun _ => rfl⟩)
  rwa [List.append_nil, readInstrsEndAux_none] at this

/-- **Round trip of a whole script**, every format.  No hypothesis about MSG maybe-terminal `(0, 0, [])`
instructions is needed: only the last pending one, the marker written by `writeTerminal`, is dropped. -/
theorem readInstrs_writeInstrs (f : Fmt) (is : List Instr) (bs : Bytes)
    (hw : writeInstrs f is = .ok bs) (hall : ∀ i ∈ is, Stored f i ∧ NotTerminalLooking f i) :
    readInstrs f bs = .ok is := by
  obtain ⟨hfit, rfl⟩ := (writeInstrs_wrote f is).of_ok hw
  exact readInstrs_instrsBytes f is fun i hi => ⟨hfit i hi, hall i hi⟩

/-- the same under the additional hypothesis that no instruction is a MSG maybe-terminal, which is not needed -/
theorem readInstrs_writeInstrs_partial (f : Fmt) (is : List Instr) (bs : Bytes)
    (hw : writeInstrs f is = .ok bs) (hall : ∀ i ∈ is, Stored f i ∧ NotTerminalLooking f i)
    (_ : ∀ i ∈ is, ¬ (f = .msg ∧ i.time = 0 ∧ i.opcode = 0 ∧ i.blob = [])) :
    readInstrs f bs = .ok is :=
  readInstrs_writeInstrs f is bs hw hall

/-- a MSG script whose last instruction is a maybe-terminal survives -/
example : ∃ bs, writeInstrs .msg [{ time := 5, opcode := 1, blob := [9] }, { time := 0, opcode := 0 }] = .ok bs ∧
    readInstrs .msg bs = .ok [{ time := 5, opcode := 1, blob := [9] }, { time := 0, opcode := 0 }] :=
  ⟨_, rfl, readInstrs_writeInstrs _ _ _ rfl (by
    intro i hi
    simp only [List.mem_cons, List.not_mem_nil, or_false] at hi
    rcases hi with rfl | rfl <;> exact ⟨⟨rfl, rfl, rfl⟩, trivial⟩)⟩

end TruthModel.C03
