import TruthModel.Props.C16Instr
import TruthModel.Model.FilesEcl
/-
C16 at container level — any binary input ends in success or a diagnostic, never a crash.
For every byte string presented as a MSG, STD (both layouts), mission MSG or old ECL file the model of the
reader never reaches a panic arm; the result is a file or one of an explicit list of diagnostics, never the
internal "fuel" one (the fuel handed to the `while` loops, input length + 1, always suffices); and what is
built is bounded by the input.  The STD/ECL bounds carry the factor 65535 (number of table entries): entries of the
offset table may share their target, and each entry materialises it again (`std_alloc_amplification`, on a STD file with
four entries).

Every reader `X` has one `X_ends : Ends L Q (X ..)` (`Lemmas/Readers.lean`); the results are its projections.
-/
namespace TruthModel.C16
open TruthModel TruthModel.InstrIO TruthModel.Files

theorem rdU32sAux_len (n : Nat) (acc : List Nat) (bs : Bytes) (l : List Nat) (r : Bytes)
    (h : rdU32sAux n acc bs = some (l, r)) : bs.length = r.length + 4 * n ∧ l.length = acc.length + n := by
  fun_induction rdU32sAux n acc bs with
  | case1 acc bs => cases h; exact ⟨rfl, List.length_reverse⟩
  | case2 => cases h
  | case3 n acc bs v r1 h1 ih =>
    obtain ⟨h2, h3⟩ := ih h
    exact ⟨by rw [rdU32_len h1, h2, Nat.mul_succ, Nat.add_assoc], by rw [h3, List.length_cons]; exact Nat.add_right_comm ..⟩

theorem rdU32s_len {n : Nat} {bs : Bytes} {l : List Nat} {r : Bytes} (h : rdU32s n bs = some (l, r)) :
    bs.length = r.length + 4 * n ∧ l.length = n := by
  have := rdU32sAux_len n [] bs l r h
  simpa using this

theorem rdF2_len {bs : Bytes} {v : F2} {r : Bytes} (h : rdF2 bs = some (v, r)) : bs.length = r.length + 8 := by
  unfold rdF2 at h
  split at h
  · cases h
  next x r1 h1 =>
  split at h
  · cases h
  next y r2 h2 =>
  cases h
  rw [rdU32_len h1, rdU32_len h2]

theorem rdF3_len {bs : Bytes} {v : F3} {r : Bytes} (h : rdF3 bs = some (v, r)) : bs.length = r.length + 12 := by
  unfold rdF3 at h
  split at h
  · cases h
  next x r1 h1 =>
  split at h
  · cases h
  next y r2 h2 =>
  split at h
  · cases h
  next z r3 h3 =>
  cases h
  rw [rdU32_len h1, rdU32_len h2, rdU32_len h3]

theorem rdU16_lt {bs : Bytes} {v : Nat} {r : Bytes} (h : rdU16 bs = some (v, r)) : v < 65536 := by
  match bs, h with
  | a :: b :: r', h =>
    cases h
    exact Nat.lt_of_lt_of_le
      (Nat.add_lt_add_of_lt_of_le a.toNat_lt (Nat.mul_le_mul_left 256 (Nat.le_of_lt_succ b.toNat_lt))) (by decide)

theorem seek_length_le (file : Bytes) (off : Nat) : (seek file off).length ≤ file.length := by
  simp [seek]

namespace Ends
variable {β : Type} {L : List String} {Q : β → Prop} {bs : Bytes}

theorem f2 {k : F2 → Bytes → Outcome β} (hk : ∀ v r, bs.length = r.length + 8 → Ends (eofErr :: L) Q (k v r)) :
    Ends (eofErr :: L) Q (match (generalizing := false) rdF2 bs with | none => .err eofErr | some (v, r) => k v r) := by
  cases e : rdF2 bs with
  | none => exact .head _
  | some p => exact hk p.1 p.2 (rdF2_len e)

theorem f3 {k : F3 → Bytes → Outcome β} (hk : ∀ v r, bs.length = r.length + 12 → Ends (eofErr :: L) Q (k v r)) :
    Ends (eofErr :: L) Q (match (generalizing := false) rdF3 bs with | none => .err eofErr | some (v, r) => k v r) := by
  cases e : rdF3 bs with
  | none => exact .head _
  | some p => exact hk p.1 p.2 (rdF3_len e)

theorem u32s {n : Nat} {k : List Nat → Bytes → Outcome β}
    (hk : ∀ l r, bs.length = r.length + 4 * n → l.length = n → Ends (eofErr :: L) Q (k l r)) :
    Ends (eofErr :: L) Q (match (generalizing := false) rdU32s n bs with | none => .err eofErr | some (l, r) => k l r) := by
  cases e : rdU32s n bs with
  | none => exact .head _
  | some p => exact hk p.1 p.2 (rdU32s_len e).1 (rdU32s_len e).2

end Ends

theorem readInstrsEnd_ends (f : Fmt) (e : Option Nat) (start : Nat) (bs : Bytes) :
    Ends instrReadErrs (fun is => sizeSum f is ≤ bs.length) (readInstrsEnd f e start bs) :=
  (readInstrsEndAux_ends f e (.head _) (.tail _ (.head _)) (fun _ => .tail _ (.tail _ (.head _))) _ none [] start bs
    (Nat.lt_succ_self _)).mono (fun _ h => h)
    fun is h => by simpa only [Files.commit, sizeSum, List.map_nil, List.sum_nil, Nat.zero_add] using h

theorem readInstrsEnd_no_panic (f : Fmt) (e : Option Nat) (start : Nat) (bs : Bytes) :
    (readInstrsEnd f e start bs).isPanic = false := (readInstrsEnd_ends f e start bs).isPanic

theorem readInstrsEnd_err (f : Fmt) (e : Option Nat) (start : Nat) (bs : Bytes) :
    ErrIn instrReadErrs (readInstrsEnd f e start bs) := (readInstrsEnd_ends f e start bs).errIn

theorem readInstrs_size_bound (f : Fmt) (bs : Bytes) (is : List Instr) (h : readInstrs f bs = .ok is) :
    sizeSum f is ≤ bs.length :=
  (readInstrs_ends f bs).of_ok h

theorem readInstrsEnd_size_bound (f : Fmt) (e : Option Nat) (start : Nat) (bs : Bytes) (is : List Instr)
    (h : readInstrsEnd f e start bs = .ok is) : sizeSum f is ≤ bs.length :=
  (readInstrsEnd_ends f e start bs).of_ok h

theorem collectRecover_ends {α} {L : List String} {Q : α → Prop} (l : List (Outcome α)) (h : ∀ x ∈ l, Ends L Q x) :
    Ends L (fun as => as.length = l.length ∧ ∀ a ∈ as, Q a) (collectRecover l) := by
  fun_induction collectRecover l with
  | case1 => exact .ok ⟨rfl, fun _ ha => nomatch ha⟩
  | case2 xs s => exact h _ (.head _)
  | case3 xs c s hr ih => exact (ih fun x hx => h x (.tail _ hx)).panic_of hr
  | case4 xs c _ _ => exact h _ (.head _)
  | case5 xs a s hr ih => exact (ih fun x hx => h x (.tail _ hx)).panic_of hr
  | case6 xs a c hr ih => exact (ih fun x hx => h x (.tail _ hx)).pass_err hr
  | case7 xs a as hr ih =>
    obtain ⟨hl, hall⟩ := (ih fun x hx => h x (.tail _ hx)).of_ok hr
    refine .ok ⟨congrArg (· + 1) hl, fun b hb => ?_⟩
    rcases List.mem_cons.1 hb with rfl | hb
    · exact h _ (.head _)
    · exact hall b hb

theorem insertU_length (x : Nat) (l : List Nat) : (insertU x l).length ≤ l.length + 1 := by
  fun_induction insertU x l with
  | case1 => exact Nat.le_refl _
  | case2 => exact Nat.le_refl _
  | case3 => exact Nat.le_succ _
  | case4 y ys _ _ ih => exact Nat.succ_le_succ ih

theorem sortU_length (l : List Nat) : (sortU l).length ≤ l.length := by
  induction l with
  | nil => exact Nat.le_refl _
  | cons x xs ih => exact Nat.le_trans (insertU_length x (sortU xs)) (Nat.succ_le_succ ih)

theorem withEnds_length (l : List Nat) : (withEnds l).length = l.length := by
  fun_induction withEnds l with
  | case1 => rfl
  | case2 => rfl
  | case3 a b r ih => exact congrArg (· + 1) ih

theorem readMsgTableAux_ends (hasFlags : Bool) (n : Nat) (acc : List (Nat × Nat)) (bs : Bytes) :
    Ends instrReadErrs (fun raw => raw.length = acc.length + n ∧ 4 * n ≤ bs.length) (readMsgTableAux hasFlags n acc bs) := by
  fun_induction readMsgTableAux hasFlags n acc bs with
  | case1 acc bs => exact .ok ⟨List.length_reverse, Nat.zero_le _⟩
  | case2 => exact .err (.head _)
  | case3 => exact .err (.head _)
  | case4 n acc bs off r1 h1 _ fl r2 h2 ih =>
    refine ih.mono (fun _ h => h) fun raw h => ⟨by rw [h.1, List.length_cons]; exact Nat.add_right_comm .., ?_⟩
    rw [Nat.mul_succ, rdU32_len h1, rdU32_len h2]
    exact Nat.le_trans (Nat.add_le_add_right h.2 4) (Nat.le_add_right ..)
  | case5 n acc bs off r1 h1 _ ih =>
    refine ih.mono (fun _ h => h) fun raw h => ⟨by rw [h.1, List.length_cons]; exact Nat.add_right_comm .., ?_⟩
    rw [Nat.mul_succ, rdU32_len h1]
    exact Nat.add_le_add_right h.2 4

theorem readMsgScript_ends (file : Bytes) (nz : List Nat) (y : Nat × Option Nat) :
    Ends instrReadErrs (fun s => sizeSum .msg s.2 ≤ file.length) (readMsgScript file nz y) := by
  unfold readMsgScript
  refine (readInstrsEnd_ends .msg y.2 y.1 (seek file y.1)).step fun is h hr => ?_
  rw [h]
  exact .ok (Nat.le_trans hr (seek_length_le file y.1))

theorem readMsgScripts_ends (file : Bytes) (nz : List Nat) :
    Ends instrReadErrs (fun ss => ss.length = (sortU nz).length ∧ ∀ s ∈ ss, sizeSum .msg s.2 ≤ file.length)
      (readMsgScripts file nz) := by
  refine (collectRecover_ends (L := instrReadErrs) (Q := fun s => sizeSum .msg s.2 ≤ file.length) _ fun x hx => ?_).mono
    (fun _ h => h) fun ss h => ⟨by rw [h.1, List.length_map, withEnds_length], h.2⟩
  obtain ⟨y, _, rfl⟩ := List.mem_map.1 hx
  exact readMsgScript_ends file nz y

theorem readMsg_ends (hasFlags : Bool) (bs : Bytes) :
    Ends instrReadErrs (fun m => 4 * m.table.length + 4 ≤ bs.length ∧ m.scripts.length ≤ m.table.length ∧
      ∀ s ∈ m.scripts, sizeSum .msg s.2 ≤ bs.length) (readMsg hasFlags bs) := by
  unfold readMsg
  refine .nat rdU32_takes fun len r _ l1 => ?_
  refine (readMsgTableAux_ends hasFlags len [] r).step fun raw hraw ⟨hl, hb⟩ => ?_
  rw [hraw]; dsimp only
  refine (readMsgScripts_ends bs (nzOffsets raw)).step fun scripts hscripts ⟨hsl, hsall⟩ => ?_
  rw [hscripts]; dsimp only
  have h1 := sortU_length (nzOffsets raw)
  have h2 : (nzOffsets raw).length ≤ raw.length := by
    have := List.length_filter_le (fun x => decide (x ≠ 0)) (raw.map (·.1))
    rwa [List.length_map] at this
  refine .ok ⟨?_, ?_, hsall⟩
  · rw [List.length_nil, Nat.zero_add] at hl
    simp only [msgTableOf, List.length_map]
    rw [hl, l1]
    exact Nat.add_le_add_right hb 4
  · simp only [msgTableOf, List.length_map]
    exact hsl ▸ Nat.le_trans h1 h2

theorem msg_read_no_panic (hasFlags : Bool) (bs : Bytes) : (readMsg hasFlags bs).isPanic = false :=
  (readMsg_ends hasFlags bs).isPanic

theorem msg_read_total (hasFlags : Bool) (bs : Bytes) :
    (∃ m, readMsg hasFlags bs = .ok m) ∨ ∃ c ∈ instrReadErrs, readMsg hasFlags bs = .err c :=
  (readMsg_ends hasFlags bs).total

/-- the linear bound for a whole MSG file (scripts are read from disjoint windows of the file); stated, not proved -/
def msg_read_alloc_bound_full : Prop :=
  ∀ (hasFlags : Bool) (bs : Bytes) (m : MsgFile), readMsg hasFlags bs = .ok m →
    4 * m.table.length + ((m.scripts.map fun s => sizeSum .msg s.2).sum) ≤ 2 * bs.length

/-- **MSG: what `read_msg` builds is bounded by the input**, per script.  (The sum over all scripts is linear
as well, because script `i` is read only up to the offset of script `i + 1`: `msg_read_alloc_bound_full`.) -/
theorem msg_read_alloc_bound_partial (hasFlags : Bool) (bs : Bytes) (m : MsgFile) (h : readMsg hasFlags bs = .ok m) :
    4 * m.table.length + 4 ≤ bs.length ∧ m.scripts.length ≤ m.table.length ∧
    ∀ s ∈ m.scripts, sizeSum .msg s.2 ≤ bs.length :=
  (readMsg_ends hasFlags bs).of_ok h

def stdReadErrs : List String :=
  [eofErr, undecodable, badQuadSize, unknownQuadType, objectIndexTooLarge, badSize, readPastEnd]

theorem std_undecodable : undecodable ∈ stdReadErrs := .tail _ (.head _)
theorem std_badQuadSize : badQuadSize ∈ stdReadErrs := .tail _ (.tail _ (.head _))
theorem std_unknownQuadType : unknownQuadType ∈ stdReadErrs := .tail _ (.tail _ (.tail _ (.head _)))
theorem std_objectIndexTooLarge : objectIndexTooLarge ∈ stdReadErrs := .tail _ (.tail _ (.tail _ (.tail _ (.head _))))
theorem std_badSize : badSize ∈ stdReadErrs := .tail _ (.tail _ (.tail _ (.tail _ (.tail _ (.head _)))))

theorem readStr_ends (decOk : Bytes → Bool) (n : Nat) (bs : Bytes) :
    Ends stdReadErrs (fun p => bs.length = p.2.length + n) (readStr decOk n bs) := by
  unfold readStr
  exact .blob fun buf r hl _ => .ite (fun _ => .ok hl) fun _ => .err std_undecodable

theorem readStrs_ends (decOk : Bytes → Bool) (n k : Nat) (bs : Bytes) :
    Ends stdReadErrs (fun p => p.1.length = k ∧ bs.length = p.2.length + n * k) (readStrs decOk n k bs) := by
  fun_induction readStrs decOk n k bs with
  | case1 => exact .ok ⟨rfl, rfl⟩
  | case2 k bs s r1 hs ss r hss ih =>
    have l1 : bs.length = r1.length + n := (readStr_ends decOk n bs).of_ok hs
    obtain ⟨hl, l2⟩ : ss.length = k ∧ r1.length = r.length + n * k := ih.of_ok hss
    exact .ok (show (s :: ss).length = k + 1 ∧ bs.length = r.length + n * (k + 1) from
      ⟨congrArg (· + 1) hl, by rw [l1, l2, Nat.mul_succ, Nat.add_assoc]⟩)
  | case3 _ _ _ _ _ _ hss ih => exact ih.pass_err hss
  | case4 _ _ _ _ _ _ hss ih => exact ih.panic_of hss
  | case5 _ bs _ hs => exact (readStr_ends decOk n bs).pass_err hs
  | case6 _ bs _ hs => exact (readStr_ends decOk n bs).panic_of hs

/-- the `bgms.next().unwrap()` of `read_extra` cannot fail: exactly 9 (resp. 1) strings were read -/
theorem readExtra_ends (decOk : Bytes → Bool) (fmt : StdFmt) (bs : Bytes) :
    Ends stdReadErrs (fun p => p.2.length ≤ bs.length) (readExtra decOk fmt bs) := by
  unfold readExtra
  cases fmt with
  | f06 =>
    dsimp only
    refine (readStrs_ends decOk 128 9 bs).step fun ⟨l, r⟩ h ⟨hl, hr⟩ => ?_
    rw [h]
    match l, hl with
    | [_, _, _, _, _, _, _, _, _], _ => exact .ok (show r.length ≤ bs.length from hr ▸ Nat.le_add_right ..)
  | f10 =>
    dsimp only
    refine (readStrs_ends decOk 128 1 bs).step fun ⟨l, r⟩ h ⟨hl, hr⟩ => ?_
    rw [h]
    match l, hl with
    | [_], _ => exact .ok (show r.length ≤ bs.length from hr ▸ Nat.le_add_right ..)

/-- A quad takes 28 bytes or more, the end marker 4; the `unreachable!()` of `read_quad` is unreachable. -/
theorem readQuad_ends (bs : Bytes) :
    Ends stdReadErrs (fun p => p.2.length + (if p.1.isSome then 28 else 4) ≤ bs.length) (readQuad bs) := by
  unfold readQuad
  refine .int rdI16_takes fun kind r1 _ l1 => ?_
  refine .nat rdU16_takes fun size r2 _ l2 => ?_
  refine .ite (fun _ => .ok (show r2.length + 4 ≤ bs.length from Nat.le_of_eq (by rw [l1, l2]))) fun _ => ?_
  refine .ite (fun hq => ?_) fun _ => .ite (fun _ => .err std_badQuadSize) fun _ => .err std_unknownQuadType
  refine .nat rdU16_takes fun anm r3 _ l3 => ?_
  refine .nat rdU16_takes fun pad r4 _ l4 => ?_
  refine .ite (fun _ => ?_) fun hk0 => .ite (fun _ => ?_) fun hk1 => ?_
  · refine .f3 fun pos r5 l5 => ?_
    refine .f2 fun sz r6 l6 => ?_
    exact .ok (show r6.length + 28 ≤ bs.length from Nat.le_of_eq (by rw [l1, l2, l3, l4, l5, l6]))
  · refine .f3 fun a r5 l5 => ?_
    refine .f3 fun b r6 l6 => ?_
    refine .nat rdU32_takes fun w r7 _ l7 => ?_
    exact .ok (show r7.length + 28 ≤ bs.length by rw [l1, l2, l3, l4, l5, l6, l7]; exact Nat.add_le_add_left (by decide : 28 ≤ 36) _)
  · exact hq.elim (fun h => hk0 h.1) fun h => hk1 h.1

/-- the quad loop never runs out of fuel: every iteration consumes at least 4 bytes -/
theorem readQuads_ends (fuel : Nat) (acc : List Quad) (bs : Bytes) (hf : bs.length < fuel) :
    Ends stdReadErrs (fun p => 28 * p.1.length ≤ 28 * acc.length + bs.length) (readQuads fuel acc bs) := by
  fun_induction readQuads fuel acc bs with
  | case1 => exact absurd hf (Nat.not_lt_zero _)
  | case2 fuel acc bs r h => exact .ok (by rw [List.length_reverse]; exact Nat.le_add_right ..)
  | case3 fuel acc bs q r h ih =>
    have l : r.length + 28 ≤ bs.length := (readQuad_ends bs).of_ok h
    have hr : r.length < fuel :=
      Nat.lt_of_lt_of_le (Nat.lt_of_lt_of_le (Nat.lt_add_of_pos_right (Nat.zero_lt_succ 27)) l) (Nat.le_of_lt_succ hf)
    refine (ih hr).mono (fun _ h => h) fun p hp => Nat.le_trans hp ?_
    rw [List.length_cons, Nat.mul_succ, Nat.add_assoc, Nat.add_comm 28]
    exact Nat.add_le_add_left l _
  | case4 _ _ bs _ h => exact (readQuad_ends bs).pass_err h
  | case5 _ _ bs _ h => exact (readQuad_ends bs).panic_of h

theorem readObject_ends (bs : Bytes) :
    Ends stdReadErrs (fun o => 28 * o.quads.length + 28 ≤ bs.length) (readObject bs) := by
  unfold readObject
  refine .nat rdU16_takes fun id r1 _ l1 => ?_
  refine .nat rdU16_takes fun layer r2 _ l2 => ?_
  refine .f3 fun pos r3 l3 => ?_
  refine .f3 fun size r4 l4 => ?_
  refine (readQuads_ends (r4.length + 1) [] r4 (Nat.lt_succ_self _)).step fun ⟨quads, r5⟩ h hq => ?_
  rw [h]
  have : 28 * quads.length ≤ 28 * 0 + r4.length := hq
  rw [Nat.mul_zero, Nat.zero_add] at this
  exact .ok (show 28 * quads.length + 28 ≤ bs.length by rw [l1, l2, l3, l4]; exact (Nat.add_le_add_right this 28 : _ ≤ r4.length + 28))

theorem readObjectsAux_ends (file : Bytes) (offs : List Nat) (i : Nat) (acc : List (Nat × Object))
    (hacc : ∀ o ∈ acc, 28 * o.2.quads.length + 28 ≤ file.length) :
    Ends stdReadErrs (fun res => res.length = acc.length + offs.length ∧ ∀ o ∈ res, 28 * o.2.quads.length + 28 ≤ file.length)
      (readObjectsAux file i offs acc) := by
  fun_induction readObjectsAux file i offs acc with
  | case1 _ acc => exact .ok ⟨List.length_reverse, fun o ho => hacc o (List.mem_reverse.1 ho)⟩
  | case2 i off offs acc o h ih =>
    have hq : 28 * o.quads.length + 28 ≤ (seek file off).length := (readObject_ends _).of_ok h
    have hs := seek_length_le file off
    refine (ih fun o' ho' => ?_).mono (fun _ h => h) fun res hres =>
      ⟨by rw [hres.1, List.length_cons, List.length_cons]; exact Nat.add_right_comm .., hres.2⟩
    rcases List.mem_cons.1 ho' with rfl | ho'
    · exact Nat.le_trans hq hs
    · exact hacc _ ho'
  | case3 _ off _ _ _ h => exact (readObject_ends (seek file off)).pass_err h
  | case4 _ off _ _ _ h => exact (readObject_ends (seek file off)).panic_of h

theorem readInstance_ends (objects : List (Nat × Object)) (bs : Bytes) :
    Ends stdReadErrs (fun p => p.2.length + (if p.1.isSome then 16 else 4) ≤ bs.length) (readInstance objects bs) := by
  unfold readInstance
  refine .nat rdU16_takes fun id r1 _ l1 => ?_
  refine .nat rdU16_takes fun unknown r2 _ l2 => ?_
  refine .ite (fun _ => .ok (show r2.length + 4 ≤ bs.length from Nat.le_of_eq (by rw [l1, l2]))) fun _ => ?_
  split
  · exact .err std_objectIndexTooLarge
  next name o ho =>
  refine .f3 fun pos r3 l3 => ?_
  exact .ok (show r3.length + 16 ≤ bs.length from Nat.le_of_eq (by rw [l1, l2, l3]))

theorem readInstances_ends (objects : List (Nat × Object)) (fuel : Nat) (acc : List Instance) (bs : Bytes)
    (hf : bs.length < fuel) :
    Ends stdReadErrs (fun xs => 16 * xs.length ≤ 16 * acc.length + bs.length) (readInstances objects fuel acc bs) := by
  fun_induction readInstances objects fuel acc bs with
  | case1 => exact absurd hf (Nat.not_lt_zero _)
  | case2 fuel acc bs r h => exact .ok (by rw [List.length_reverse]; exact Nat.le_add_right ..)
  | case3 fuel acc bs x r h ih =>
    have l : r.length + 16 ≤ bs.length := (readInstance_ends objects bs).of_ok h
    have hr : r.length < fuel :=
      Nat.lt_of_lt_of_le (Nat.lt_of_lt_of_le (Nat.lt_add_of_pos_right (Nat.zero_lt_succ 15)) l) (Nat.le_of_lt_succ hf)
    refine (ih hr).mono (fun _ h => h) fun p hp => Nat.le_trans hp ?_
    rw [List.length_cons, Nat.mul_succ, Nat.add_assoc, Nat.add_comm 16]
    exact Nat.add_le_add_left l _
  | case4 _ _ bs _ h => exact (readInstance_ends objects bs).pass_err h
  | case5 _ _ bs _ h => exact (readInstance_ends objects bs).panic_of h

theorem readStd_ends (decOk : Bytes → Bool) (fmt : StdFmt) (bs : Bytes) :
    Ends stdReadErrs (fun f => f.objects.length ≤ 65535 ∧ 4 * f.objects.length + 16 ≤ bs.length ∧
      (∀ o ∈ f.objects, 28 * o.2.quads.length + 28 ≤ bs.length) ∧
      16 * f.instances.length ≤ bs.length ∧ sizeSum fmt.instr f.script ≤ bs.length) (readStd decOk fmt bs) := by
  unfold readStd
  refine .nat rdU16_takes fun n r1 h1 l1 => ?_
  have hn := rdU16_lt h1
  refine .nat rdU16_takes fun nq r2 _ l2 => ?_
  refine .nat rdU32_takes fun io r3 _ l3 => ?_
  refine .nat rdU32_takes fun so r4 _ l4 => ?_
  refine .nat rdU32_takes fun unk r5 _ l5 => ?_
  refine (readExtra_ends decOk fmt r5).step fun ⟨extra, r6⟩ h6 hx => ?_
  rw [h6]; dsimp only
  have l6 : r6.length ≤ r5.length := hx
  refine .u32s fun offs r7 l7 hoffs => ?_
  refine (readObjectsAux_ends bs offs 0 [] (fun _ h => nomatch h)).step fun objects hobj ⟨hlen, hall⟩ => ?_
  rw [hobj]; dsimp only
  refine (readInstances_ends objects ((seek bs io).length + 1) [] (seek bs io) (Nat.lt_succ_self _)).step
    fun instances hinst (li : 16 * instances.length ≤ 16 * 0 + (seek bs io).length) => ?_
  rw [hinst]; dsimp only
  rw [Nat.mul_zero, Nat.zero_add] at li
  refine ((readInstrs_ends fmt.instr (seek bs so)).mono
    (List.forall_mem_cons.2 ⟨.head _, List.forall_mem_cons.2 ⟨std_badSize, fun _ h => nomatch h⟩⟩) fun _ h => h).step
    fun script hscript hs => ?_
  rw [hscript]
  rw [List.length_nil, Nat.zero_add, hoffs] at hlen
  have htab : 4 * objects.length + 16 ≤ bs.length := by
    rw [hlen, l1, l2, l3, l4, l5]
    exact (Nat.add_le_add_right (Nat.le_trans (l7 ▸ Nat.le_add_left ..) l6) 16 : _ ≤ r5.length + 16)
  exact .ok ⟨hlen ▸ Nat.le_of_lt_succ hn, htab, hall, Nat.le_trans li (seek_length_le bs io),
    Nat.le_trans hs (seek_length_le bs so)⟩

theorem std_read_no_panic (decOk : Bytes → Bool) (fmt : StdFmt) (bs : Bytes) :
    (readStd decOk fmt bs).isPanic = false :=
  (readStd_ends decOk fmt bs).isPanic

theorem std_read_total (decOk : Bytes → Bool) (fmt : StdFmt) (bs : Bytes) :
    (∃ f, readStd decOk fmt bs = .ok f) ∨ ∃ c ∈ stdReadErrs, readStd decOk fmt bs = .err c :=
  (readStd_ends decOk fmt bs).total

/-- **STD: what `read_std` builds is bounded by the input**, per object: 65535 is the 16-bit object count,
28 and 16 the bytes of a quad and of an instance. -/
theorem std_read_alloc_bound (decOk : Bytes → Bool) (fmt : StdFmt) (bs : Bytes) (f : StdFile)
    (h : readStd decOk fmt bs = .ok f) :
    f.objects.length ≤ 65535 ∧ 4 * f.objects.length + 16 ≤ bs.length ∧
    (∀ o ∈ f.objects, 28 * o.2.quads.length + 28 ≤ bs.length) ∧
    16 * f.instances.length ≤ bs.length ∧ sizeSum fmt.instr f.script ≤ bs.length :=
  (readStd_ends decOk fmt bs).of_ok h

def missionReadErrs : List String := [eofErr, undecodable]

/-- `line as u8 + 1` cannot overflow for the 3 resp. 6 lines of an entry -/
theorem missionCipher_ends (stage scene player : UInt16) (line : Nat) (h : line < 255) :
    Ends missionReadErrs (fun _ => True) (missionCipher stage scene player line) := by
  unfold missionCipher
  rw [if_neg (by rw [Nat.mod_eq_of_lt (Nat.lt_trans h (by decide))]; exact Nat.ne_of_lt h)]
  exact .ok trivial

theorem readMissionLines_ends (decOk : Bytes → Bool) (stage scene player : UInt16) (n line : Nat) (bs : Bytes)
    (hl : n + line ≤ 255) :
    Ends missionReadErrs (fun p => bs.length = p.2.length + 64 * n ∧ p.1.length = n)
      (readMissionLines decOk stage scene player n line bs) := by
  fun_induction readMissionLines decOk stage scene player n line bs with
  | case1 => exact .ok ⟨rfl, rfl⟩
  | case2 => exact .err (.head _)
  | case3 n line _ _ _ _ _ h =>
    exact (missionCipher_ends stage scene player line (Nat.lt_of_lt_of_le (Nat.lt_add_of_pos_left n.succ_pos) hl)).pass_err h
  | case4 n line _ _ _ _ _ h =>
    exact (missionCipher_ends stage scene player line (Nat.lt_of_lt_of_le (Nat.lt_add_of_pos_left n.succ_pos) hl)).panic_of h
  | case5 => exact .err (.tail _ (.head _))
  | case6 n line bs buf r1 hb cipher _ _ ss r h ih =>
    have l1 := (rdBytes_len hb).1
    obtain ⟨l2, hss⟩ : r1.length = r.length + 64 * n ∧ ss.length = n := (ih (by rw [← Nat.add_assoc, Nat.add_right_comm]; exact hl)).of_ok h
    exact .ok (show bs.length = r.length + 64 * (n + 1) ∧ (missionLineText buf cipher :: ss).length = n + 1 from
      ⟨by rw [l1, l2, Nat.mul_succ, Nat.add_assoc], congrArg (· + 1) hss⟩)
  | case7 _ _ _ _ _ _ _ _ _ _ h ih => exact (ih (by rw [← Nat.add_assoc, Nat.add_right_comm]; exact hl)).pass_err h
  | case8 _ _ _ _ _ _ _ _ _ _ h ih => exact (ih (by rw [← Nat.add_assoc, Nat.add_right_comm]; exact hl)).panic_of h

theorem readMissionEntry_ends (decOk : Bytes → Bool) (fmt : MissionFmt) (bs : Bytes) :
    Ends missionReadErrs (fun p => bs.length = p.2.length + fmt.entrySize) (readMissionEntry decOk fmt bs) := by
  unfold readMissionEntry
  refine .nat rdU16_takes fun stage r1 _ l1 => ?_
  refine .nat rdU16_takes fun scene r2 _ l2 => ?_
  cases fmt with
  | th095 =>
    simp only
    refine .nat rdU32_takes fun a r3 _ l3 => ?_
    refine .nat rdU32_takes fun b r4 _ l4 => ?_
    refine (readMissionLines_ends decOk (UInt16.ofNat stage) (UInt16.ofNat scene) 0 3 0 r4 (by decide)).step
      fun ⟨text, r5⟩ h ⟨(l5 : r4.length = r5.length + 64 * 3), _⟩ => ?_
    rw [h]
    exact .ok (show bs.length = r5.length + (2 + 2 + 4 + 4 + 64 * 3) by rw [l1, l2, l3, l4, l5])
  | th125 =>
    simp only
    refine .nat rdU16_takes fun player r3 _ l3 => ?_
    refine .nat rdU8_takes fun u1 r4 _ l4 => ?_
    refine .nat rdU8_takes fun u2 r5 _ l5 => ?_
    refine .nat rdU32_takes fun a r6 _ l6 => ?_
    refine .nat rdU32_takes fun b r7 _ l7 => ?_
    refine .u32s fun fur r8 l8 _ => ?_
    refine (readMissionLines_ends decOk (UInt16.ofNat stage) (UInt16.ofNat scene) (UInt16.ofNat player) 6 0 r8 (by decide)).step
      fun ⟨text, r9⟩ h ⟨(l9 : r8.length = r9.length + 64 * 6), _⟩ => ?_
    rw [h]
    exact .ok (show bs.length = r9.length + (40 + 64 * 6) by rw [l1, l2, l3, l4, l5, l6, l7, l8, l9])

theorem readMissionEntriesAux_ends (decOk : Bytes → Bool) (fmt : MissionFmt) (n : Nat) (acc : List MissionEntry) (bs : Bytes) :
    Ends missionReadErrs (fun es => es.length = acc.length + n ∧ fmt.entrySize * n ≤ bs.length)
      (readMissionEntriesAux decOk fmt n acc bs) := by
  fun_induction readMissionEntriesAux decOk fmt n acc bs with
  | case1 acc bs => exact .ok ⟨List.length_reverse, Nat.zero_le _⟩
  | case2 n acc bs e r h ih =>
    have l : bs.length = r.length + fmt.entrySize := (readMissionEntry_ends decOk fmt bs).of_ok h
    exact ih.mono (fun _ h => h) fun es hes =>
      ⟨by rw [hes.1, List.length_cons]; exact Nat.add_right_comm ..,
        by rw [Nat.mul_succ, l]; exact Nat.add_le_add_right hes.2 _⟩
  | case3 _ _ bs _ h => exact (readMissionEntry_ends decOk fmt bs).pass_err h
  | case4 _ _ bs _ h => exact (readMissionEntry_ends decOk fmt bs).panic_of h

theorem readMission_ends (decOk : Bytes → Bool) (fmt : MissionFmt) (bs : Bytes) :
    Ends missionReadErrs (fun es => 4 + (4 + fmt.entrySize) * es.length ≤ bs.length) (readMission decOk fmt bs) := by
  unfold readMission
  refine .nat rdU32_takes fun n r1 _ l1 => ?_
  refine .u32s fun offs r2 l2 _ => ?_
  refine (readMissionEntriesAux_ends decOk fmt n [] r2).mono (fun _ h => h) fun es hes => ?_
  obtain ⟨hl, hb⟩ := hes
  rw [List.length_nil, Nat.zero_add] at hl
  rw [hl, Nat.add_mul, l1, l2, Nat.add_comm 4, Nat.add_comm (4 * n)]
  exact Nat.add_le_add_right (Nat.add_le_add_right hb _) _

theorem mission_read_no_panic (decOk : Bytes → Bool) (fmt : MissionFmt) (bs : Bytes) :
    (readMission decOk fmt bs).isPanic = false :=
  (readMission_ends decOk fmt bs).isPanic

theorem mission_read_total (decOk : Bytes → Bool) (fmt : MissionFmt) (bs : Bytes) :
    (∃ es, readMission decOk fmt bs = .ok es) ∨ ∃ c ∈ missionReadErrs, readMission decOk fmt bs = .err c :=
  (readMission_ends decOk fmt bs).total

/-- an entry is a fixed-size record of 204 resp. 424 bytes -/
theorem mission_read_alloc_bound (decOk : Bytes → Bool) (fmt : MissionFmt) (bs : Bytes) (es : List MissionEntry)
    (h : readMission decOk fmt bs = .ok es) : 4 + (4 + fmt.entrySize) * es.length ≤ bs.length :=
  (readMission_ends decOk fmt bs).of_ok h

def eclReadErrs : List String := [eofErr, badSize, readPastEnd, badMagic, timelineAfterNull, emptyTimelineTable]

theorem ecl_badMagic : badMagic ∈ eclReadErrs := .tail _ (.tail _ (.tail _ (.head _)))
theorem ecl_timelineAfterNull : timelineAfterNull ∈ eclReadErrs := .tail _ (.tail _ (.tail _ (.tail _ (.head _))))
theorem ecl_emptyTimelineTable : emptyTimelineTable ∈ eclReadErrs :=
  .tail _ (.tail _ (.tail _ (.tail _ (.tail _ (.head _)))))

theorem eclAfterMagic_ends (fmt : EclFmt) (bs : Bytes) :
    Ends eclReadErrs (fun r => r.length ≤ bs.length) (eclAfterMagic fmt bs) := by
  unfold eclAfterMagic
  split
  · exact .ok (Nat.le_refl _)
  next m _ =>
  exact .blob fun got r hl _ => .ite (fun _ => .ok (hl ▸ Nat.le_add_right ..)) fun _ => .err ecl_badMagic

/-- `num_timelines.checked_sub(1)`: an error, not an underflow -/
theorem eclNumTimelines_ends (kind : TlKind) (n : Nat) :
    Ends eclReadErrs (fun k => k ≤ n) (eclNumTimelines kind n) := by
  unfold eclNumTimelines
  split
  · exact .ite (fun _ => .err ecl_emptyTimelineTable) fun _ => .ok (Nat.sub_le _ _)
  · exact .ok (Nat.le_refl _)

theorem readScriptsAt_ends (f : Fmt) (file : Bytes) (offs : List Nat) (acc : List (List Instr))
    (hacc : ∀ s ∈ acc, sizeSum f s ≤ file.length) :
    Ends eclReadErrs (fun res => res.length = acc.length + offs.length ∧ ∀ s ∈ res, sizeSum f s ≤ file.length)
      (readScriptsAt f file offs acc) := by
  fun_induction readScriptsAt f file offs acc with
  | case1 acc => exact .ok ⟨List.length_reverse, fun s hs => hacc s (List.mem_reverse.1 hs)⟩
  | case2 off offs acc is h ih =>
    have hq : sizeSum f is ≤ (seek file off).length := (readInstrs_ends f _).of_ok h
    have hs := seek_length_le file off
    refine (ih fun s' hs' => ?_).mono (fun _ h => h) fun res hres =>
      ⟨by rw [hres.1, List.length_cons, List.length_cons]; exact Nat.add_right_comm .., hres.2⟩
    rcases List.mem_cons.1 hs' with rfl | hs'
    · exact Nat.le_trans hq hs
    · exact hacc _ hs'
  | case3 off _ _ _ h =>
    exact (readInstrs_ends f (seek file off)).err_of h
      (List.forall_mem_cons.2 ⟨.head _, List.forall_mem_cons.2 ⟨.tail _ (.head _), fun _ h => nomatch h⟩⟩)
  | case4 off _ _ _ h => exact (readInstrs_ends f (seek file off)).panic_of h

theorem readEcl_ends (fmt : EclFmt) (bs : Bytes) :
    Ends eclReadErrs (fun e => e.subs.length ≤ 65535 ∧ 4 * e.subs.length + 4 ≤ bs.length ∧
      (∀ s ∈ e.subs, sizeSum fmt.ecl s ≤ bs.length) ∧
      4 * e.timelines.length + 4 ≤ bs.length ∧ (∀ s ∈ e.timelines, sizeSum fmt.tl s ≤ bs.length)) (readEcl fmt bs) := by
  unfold readEcl
  refine (eclAfterMagic_ends fmt bs).step fun r0 h0 (l0 : r0.length ≤ bs.length) => ?_
  rw [h0]; dsimp only
  refine .nat rdU16_takes fun n r1 h1 l1 => ?_
  have hn := rdU16_lt h1
  refine .nat rdU16_takes fun high r2 _ l2 => ?_
  refine .u32s fun tl r3 l3 htl => ?_
  refine .u32s fun so r4 l4 hso => ?_
  refine .ite (fun _ => .err ecl_timelineAfterNull) fun _ => ?_
  refine (eclNumTimelines_ends fmt.kind (firstZero tl)).step fun numTl hk _ => ?_
  rw [hk]; dsimp only
  refine (readScriptsAt_ends fmt.ecl bs so [] (fun _ h => nomatch h)).step fun subs hsubs ⟨hl1, hall1⟩ => ?_
  rw [hsubs]; dsimp only
  refine (readScriptsAt_ends fmt.tl bs (tl.take numTl) [] (fun _ h => nomatch h)).step fun tls htls ⟨hl2, hall2⟩ => ?_
  rw [htls]; dsimp only
  rw [List.length_nil, Nat.zero_add] at hl1 hl2
  rw [hso] at hl1
  rw [List.length_take] at hl2
  -- both offset arrays lie in `r2`, which starts 4 bytes into `r0`
  have hhdr : r2.length + 4 ≤ bs.length := Nat.le_trans (Nat.le_of_eq (by rw [l1, l2])) l0
  have hS4 : 4 * subs.length ≤ r2.length := by
    rw [hl1, l3, l4]; exact Nat.le_trans (Nat.le_add_left ..) (Nat.le_add_right ..)
  have hT4 : 4 * tls.length ≤ r2.length := by
    rw [hl2, l3, ← htl]; exact Nat.le_trans (Nat.mul_le_mul_left 4 (Nat.min_le_right ..)) (Nat.le_add_left ..)
  exact .ok ⟨hl1 ▸ Nat.le_of_lt_succ hn, Nat.le_trans (Nat.add_le_add_right hS4 4) hhdr, hall1,
    Nat.le_trans (Nat.add_le_add_right hT4 4) hhdr, hall2⟩

/-- **old ECL**: every game (TH06-TH095) and in fact every format description.  The model follows the tree as repaired in
8c247ce: a timeline array starting with a zero offset (TH07/TH08/TH095), on which an unchecked `num_timelines -= 1`
underflows, is answered with a diagnostic (`ecl_read_formerly_panicking_input`). -/
theorem ecl_read_no_panic (fmt : EclFmt) (bs : Bytes) : (readEcl fmt bs).isPanic = false :=
  (readEcl_ends fmt bs).isPanic

/-- 68 zero bytes as a TH07 ECL file, an input on which an unchecked `num_timelines -= 1` panics: the reader answers with
a diagnostic (replayed on the implementation: `truecl decompile -g 7` prints "timeline table has no entries ..." and
exits 1) -/
theorem ecl_read_formerly_panicking_input : readEcl eclTh07 (List.replicate 68 0) = .err emptyTimelineTable := by
  decide +kernel

theorem ecl_read_total (fmt : EclFmt) (bs : Bytes) :
    (∃ e, readEcl fmt bs = .ok e) ∨ ∃ c ∈ eclReadErrs, readEcl fmt bs = .err c :=
  (readEcl_ends fmt bs).total

/-- **old ECL: what `read_olde_ecl` builds is bounded by the input**, per sub (65535: the 16-bit count). -/
theorem ecl_read_alloc_bound (fmt : EclFmt) (bs : Bytes) (e : EclFile) (h : readEcl fmt bs = .ok e) :
    e.subs.length ≤ 65535 ∧ 4 * e.subs.length + 4 ≤ bs.length ∧ (∀ s ∈ e.subs, sizeSum fmt.ecl s ≤ bs.length) ∧
    4 * e.timelines.length + 4 ≤ bs.length ∧ (∀ s ∈ e.timelines, sizeSum fmt.tl s ≤ bs.length) :=
  (readEcl_ends fmt bs).of_ok h

def numQuadsOf (objects : List (Nat × Object)) : Nat := (objects.map (·.2.quads.length)).sum

/-- a TH10-layout STD file with 4 object offsets that all point at one object of 3 quads -/
def sharedStd : Bytes :=
  u16 4 ++ u16 3 ++ u32 276 ++ u32 292 ++ u32 0 ++ List.replicate 128 0 ++ u32s [160, 160, 160, 160]
    ++ (u16 0 ++ u16 0 ++ List.replicate 24 0 ++ (List.replicate 3 (i16 0 ++ u16 28 ++ List.replicate 24 0)).flatten ++ i16 (-1) ++ u16 4)
    ++ List.replicate 16 255 ++ List.replicate 20 255

def readsAs (n q : Nat) (o : Outcome StdFile) : Bool :=
  match o with
  | .ok f => f.objects.length == n && numQuadsOf f.objects == q
  | _ => false

/-- **Amplification witness**: the 312-byte file `sharedStd` stores 3 quads and reads as 4 objects with
12 quads: each of the `n` table entries materialises the shared object again (n x q quads from
4 n + 28 q bytes of input).  On the implementation: 8000 entries x 400 quads = 43 kB of input,
150 MB allocated; 65535 x 500 (276 kB) ends in SIGABRT. -/
theorem std_alloc_amplification :
    sharedStd.length = 312 ∧ readsAs 4 12 (readStd (fun _ => true) .f10 sharedStd) = true := by
  decide +kernel


theorem sum_le_length_mul (l : List Nat) (B : Nat) (h : ∀ x ∈ l, x ≤ B) : l.sum ≤ l.length * B := by
  induction l with
  | nil => simp
  | cons a r ih =>
    have ha := h a (List.mem_cons_self ..)
    have := ih (fun x hx => h x (List.mem_cons_of_mem _ hx))
    simp only [List.sum_cons, List.length_cons, Nat.add_mul, Nat.one_mul]
    omega

/-- **STD: total allocation `<= c * input length`, with `c = 65535 / 28`** (number of object table
entries x quads per byte): `28 * (number of quads built) <= 65535 * len`.  The factor is the number of table entries,
each of which can materialise the same object again (`std_alloc_amplification` shows it for four entries), which is why
a 276 kB file can exhaust memory. -/
theorem std_read_alloc_bound_total (decOk : Bytes → Bool) (fmt : StdFmt) (bs : Bytes) (f : StdFile)
    (h : readStd decOk fmt bs = .ok f) : 28 * numQuadsOf f.objects ≤ 65535 * bs.length := by
  obtain ⟨hn, _, hall, _, _⟩ := std_read_alloc_bound decOk fmt bs f h
  have hs := sum_le_length_mul (f.objects.map (·.2.quads.length)) (bs.length / 28) (by
    intro x hx
    obtain ⟨o, ho, rfl⟩ := List.mem_map.1 hx
    have := hall o ho
    omega)
  rw [List.length_map] at hs
  calc 28 * numQuadsOf f.objects ≤ 28 * (f.objects.length * (bs.length / 28)) := Nat.mul_le_mul_left _ hs
    _ = f.objects.length * (28 * (bs.length / 28)) := Nat.mul_left_comm ..
    _ ≤ f.objects.length * bs.length := Nat.mul_le_mul_left _ (Nat.mul_div_le ..)
    _ ≤ 65535 * bs.length := Nat.mul_le_mul_right _ hn

end TruthModel.C16
