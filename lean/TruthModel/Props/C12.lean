import TruthModel.Lemmas.Abi
import TruthModel.Props.C12Parts
/-
C12 — argument encoding and decoding are inverse for every instruction signature.

Model: `TruthModel/Model/Abi.lean`.  `decode_encode` and its companions quantify over every signature
(`Abi = List Enc`, the full encoding enum), every argument list and every furigana state; there is no
bound on sizes except the 16 non-padding parameters the property itself names (the mask is a `u16`).
The blob direction (`encode_decode_partial`) is for signatures without string and `arg0` parameters
(`strFree`, `noArg0`, `maskOk`: Lemmas/Abi.lean) and `encode_decode_full_false` shows why;
`misfit_diagnosed` is stated for languages with registers (`encodeArgs true`).
-/
open TruthModel TruthModel.Abi
namespace TruthModel.C12

/-- register flag per non-padding parameter, in order -/
def regFlags : Abi → List Arg → List Bool
  | [], _ => []
  | e :: es, args =>
    if e.isPadding then regFlags es args else
    match args with
    | [] => []
    | a :: as => (a.isReg && !e.alwaysImmediate) :: regFlags es as

/-- Bit `k` of the mask the encoder builds belongs to the `k`-th non-padding parameter: it is set
iff that argument is a register and the encoding is not always immediate. -/
theorem mask_bits_positions (es : Abi) (k0 : Nat) (args : List Arg) (st : EncState) (o : EncOut)
    (h : encLoop k0 es args st = .ok o) (k : Nat) :
    o.mask.testBit k = (regFlags es args).getD k false := by
  fun_induction encLoop k0 es args st generalizing o k with
  | case1 => cases h; exact Nat.zero_testBit k
  | case2 k0 e es args st hp o2 h2 ih =>
    cases h
    simp only [regFlags, hp, if_true]
    exact ih o2 h2 k
  | case3 _ _ _ _ _ _ hne => exact (hne o h).elim
  | case4 | case5 | case8 | case9 => cases h
  | case6 k0 e es st hp a as _ _ _ bytes st1 _ o2 h2 ih =>
    cases h
    simp only [regFlags, hp, Bool.false_eq_true, if_false]
    show ((if (a.isReg && !e.alwaysImmediate) = true then 1 else 0) + 2 * o2.mask).testBit k = _
    cases k with
    | zero =>
      rw [Nat.testBit_zero, Nat.add_mul_mod_self_left, List.getD_cons_zero]
      cases (a.isReg && !e.alwaysImmediate) <;> rfl
    | succ k =>
      rw [Nat.testBit_succ, Nat.add_mul_div_left _ _ (by decide : 0 < 2), List.getD_cons_succ, ← ih o2 h2 k]
      cases (a.isReg && !e.alwaysImmediate) <;> exact congrArg (Nat.testBit · k) (Nat.zero_add _)
  | case7 _ _ _ _ _ _ _ _ _ _ _ hne => exact (hne o h).elim

/-- nothing is lost by storing the mask in the `u16` -/
theorem encLoop_mask_lt (es : Abi) (k : Nat) (args : List Arg) (st : EncState) (o : EncOut)
    (h : encLoop k es args st = .ok o) : o.mask < 2 ^ (16 - k) := by
  fun_induction encLoop k es args st generalizing o with
  | case1 => cases h; exact Nat.pow_pos (by decide)
  | case2 k e es args st hp o2 h2 ih => cases h; exact ih o2 h2
  | case3 _ _ _ _ _ _ hne => exact (hne o h).elim
  | case4 | case5 | case8 | case9 => cases h
  | case6 k e es st hp a as hfull _ bit bytes st1 _ o2 h2 ih =>
    cases h
    have hm := ih o2 h2
    show bit + 2 * o2.mask < 2 ^ (16 - k)
    have hbit : bit ≤ 1 := by show (if _ then 1 else 0) ≤ 1; split <;> decide
    by_cases hk : 16 ≤ k
    · -- no bits left: the argument is not a register, and neither is anything after it
      have hr : a.isReg = false := by simpa [hk] using hfull
      rw [Nat.sub_eq_zero_of_le (Nat.le_succ_of_le hk)] at hm
      rw [Nat.sub_eq_zero_of_le hk, (Nat.lt_one_iff.mp hm : o2.mask = 0)]
      show (if (a.isReg && !e.alwaysImmediate) = true then 1 else 0) + 2 * 0 < 2 ^ 0
      rw [hr, Bool.false_and]; decide
    · have : 2 ^ (16 - k) = 2 ^ (16 - (k + 1)) * 2 :=
        (Nat.two_pow_pred_mul_two (Nat.sub_pos_of_lt (Nat.lt_of_not_le hk))).symm
      have h2 : 2 + 2 * o2.mask ≤ 2 * 2 ^ (16 - (k + 1)) := by
        rw [Nat.add_comm, ← Nat.mul_succ]; exact Nat.mul_le_mul_left 2 (Nat.succ_le_of_lt hm)
      rw [this, Nat.mul_comm _ 2]
      exact Nat.lt_of_lt_of_le (Nat.add_lt_add_right (Nat.lt_succ_of_le hbit) _) h2
  | case7 _ _ _ _ _ _ _ _ _ _ _ hne => exact (hne o h).elim

/-- register flag the decoder gives to the non-padding parameters, in order -/
def decFlags : Abi → Nat → List Bool
  | [], _ => []
  | e :: es, m => if e.isPadding then decFlags es m else (!e.alwaysImmediate && m.testBit 0) :: decFlags es (m / 2)

theorem decLoop_spec {es : Abi} {rest : Bytes} {mask : Nat} {a0 : Option Int} {o : DecOut}
    (h : decLoop es rest mask a0 = .ok o) :
    argsWF es o.args = true ∧ (dropPadding es o.args).map Arg.isReg = decFlags es mask ∧
      o.arg0 = if es.any Enc.isArg0 then none else a0 := by
  fun_induction decLoop es rest mask a0 generalizing o with
  | case1 => cases h; exact ⟨rfl, rfl, rfl⟩
  | case3 e es rest mask a0 hp _ o2 h2 ih =>
    cases h
    obtain ⟨hwf, hflags, harg⟩ := ih h2
    cases e <;> cases hp
    exact ⟨by simp only [argsWF, argWF, Bool.not_false, Bool.true_and, hwf],
      by simp only [dropPadding, Enc.isPadding, if_true, decFlags]; exact hflags, harg⟩
  | case4 _ _ _ _ _ _ _ hne => exact (hne o h).elim
  | case5 e es rest mask a0 hp a w rest1 a01 h1 o2 h2 ih =>
    cases h
    obtain ⟨hreg, hwf1, ha01⟩ := decodeOne_spec (by intro hi; simp [hi]) h1
    obtain ⟨hwf, hflags, harg⟩ := ih h2
    refine ⟨by simp only [argsWF, hwf1, Bool.true_and, hwf], ?_, ?_⟩
    · simp only [dropPadding, hp, Bool.false_eq_true, if_false, List.map_cons, decFlags, hreg, hflags, Nat.testBit_zero,
        Bool.beq_eq_decide_eq]
    · rw [ha01] at harg
      cases he : e.isArg0 <;> cases hes : es.any Enc.isArg0 <;> simpa [he, hes] using harg
  | case6 _ _ _ _ _ _ _ _ _ _ _ hne => exact (hne o h).elim
  | case2 | case7 | case8 => cases h

/-- decode side of `mask_bits_positions` (with `decFlags_getD`): the `k`-th non-padding parameter is
read as a register iff its encoding may be one and bit `k` of the stored mask is set -/
theorem decLoop_reg_bits (es : Abi) : ∀ (rest : Bytes) (mask : Nat) (a0 : Option Int) (o : DecOut),
    decLoop es rest mask a0 = .ok o → (dropPadding es o.args).map Arg.isReg = decFlags es mask :=
  fun _ _ _ _ h => (decLoop_spec h).2.1

theorem decFlags_getD (es : Abi) : ∀ (m k : Nat),
    (decFlags es m).getD k false =
      (match (es.filter Enc.contributes)[k]? with
       | some e => !e.alwaysImmediate && m.testBit k
       | none => false) := by
  intro m k
  fun_induction decFlags es m generalizing k with
  | case1 => rfl
  | case2 e es m hp ih =>
    rw [filter_contributes_pad hp]
    exact ih k
  | case3 e es m hp ih =>
    rw [filter_contributes_arg hp]
    cases k with
    | zero => rfl
    | succ k => rw [List.getD_cons_succ, ih k, Nat.testBit_succ]; rfl

/-! `encodeArgs`, `ArgsOk` and the decoder treat an `arg0` head the same way: its argument goes to the
header field, the loop sees the rest of the signature and of the arguments. -/

theorem encodeArgs_plain (hasRegs : Bool) (st : EncState) {abi : Abi} (args : List Arg)
    (h : ∀ e ∈ abi, e.isArg0 = false) :
    encodeArgs hasRegs st abi args =
      if !hasRegs && args.any Arg.isReg then .err "non-constant expression in language without registers"
      else encodePlain st abi args none := by
  cases abi with
  | nil => rfl
  | cons e es => simp only [encodeArgs, h e List.mem_cons_self, Bool.false_eq_true, if_false]

theorem ArgsOk_plain (st : EncState) {abi : Abi} (args : List Arg) (h : ∀ e ∈ abi, e.isArg0 = false) :
    ArgsOk st abi args = argsOkLoop st abi args := by
  cases abi with
  | nil => rfl
  | cons e es => simp only [ArgsOk, h e List.mem_cons_self, Bool.false_eq_true, if_false]

theorem ArgsOk_arg0 {st : EncState} {e : Enc} {es : Abi} {args : List Arg} (h0 : e.isArg0 = true) :
    ArgsOk st (e :: es) args = true ↔
      ∃ v as, args = .int v false :: as ∧ fitsInt .w2 true v = true ∧ argsOkLoop st es as = true ∧
        as.any Arg.isReg = false := by
  cases e with
  | int iw signed a0 imm =>
    simp only [ArgsOk, h0, if_true]
    split
    · simp only [Bool.and_eq_true, Bool.not_eq_true']
      constructor
      · rintro ⟨⟨h1, h2⟩, h3⟩; exact ⟨_, _, rfl, h1, h2, h3⟩
      · rintro ⟨v, as, heq, h1, h2, h3⟩; cases heq; exact ⟨⟨h1, h2⟩, h3⟩
    · rename_i hne
      simp only [Bool.false_eq_true, false_iff, not_exists]
      intro v as h
      exact hne _ _ _ _ _ _ rfl h.1
  | _ => cases h0

theorem encodeArgs_arg0 (hasRegs : Bool) (st : EncState) {e : Enc} (es : Abi) (v : Int) (as : List Arg)
    (h0 : e.isArg0 = true) :
    encodeArgs hasRegs st (e :: es) (.int v false :: as) =
      if !hasRegs && as.any Arg.isReg then .err "non-constant expression in language without registers"
      else if !fitsInt .w2 true v then .err "integer argument does not fit"
      else encodePlain st es as (some v) := by
  simp only [encodeArgs, h0, if_true, List.any_cons, Arg.isReg, Bool.false_or, Bool.false_eq_true, if_false,
    expectInt]

/-- the decoder hands the header field to an `arg0` head, and spends a mask bit on it -/
theorem decLoop_arg0 {e : Enc} {es : Abi} {blob : Bytes} {mask : Nat} (v : Int) {o : DecOut} (h0 : e.isArg0 = true)
    (h : decLoop es blob (mask / 2) none = .ok o) :
    decLoop (e :: es) blob mask (some v) =
      .ok { o with args := .int v (!e.alwaysImmediate && mask % 2 == 1) :: o.args } := by
  cases e with
  | int iw signed a0 imm =>
    cases a0 with
    | true => simp only [decLoop, Enc.isPadding, Bool.false_eq_true, if_false, decodeOne, h, List.nil_append]
    | false => cases h0
  | _ => cases h0

theorem validAbi_arg0_cases {abi : Abi} (hv : validAbi abi = true) :
    (∀ e ∈ abi, e.isArg0 = false) ∨
      ∃ e es, abi = e :: es ∧ e.isArg0 = true ∧ ∀ e' ∈ es, e'.isArg0 = false := by
  have ha0 := validAbi_arg0_tail abi hv
  cases abi with
  | nil => exact Or.inl fun _ h => nomatch h
  | cons e es =>
    cases h0 : e.isArg0 with
    | true => exact Or.inr ⟨e, es, rfl, h0, ha0⟩
    | false => exact Or.inl (List.forall_mem_cons.mpr ⟨h0, ha0⟩)

theorem encodePlain_roundtrip (st : EncState) (es : Abi) (args : List Arg) (a0 : Option Int)
    (hn : (es.filter Enc.contributes).length ≤ 16) (hattr : ∀ e ∈ es, e.strAttrsOk = true)
    (hbe : blobEndLast es = true) (hok : argsOkLoop st es args = true) :
    ∃ blob mask st', encodePlain st es args a0 = .ok (⟨blob, mask, a0⟩, [], st') ∧
      (args.any Arg.isReg = false → mask = 0) ∧ ReadsBack es blob mask args := by
  obtain ⟨o, ho, hw, hz, hd⟩ := decLoop_encLoop es 0 args st (by rw [Nat.zero_add]; exact hn) hattr hbe hok
  have hm : o.mask % 65536 = o.mask := Nat.mod_eq_of_lt (encLoop_mask_lt es 0 args st o ho)
  exact ⟨o.blob, o.mask, o.st, by simp only [encodePlain, ho, hm, hw], hz, hd⟩

theorem encodeArgs_no_registers (st : EncState) (abi : Abi) (args : List Arg)
    (h : args.any Arg.isReg = true) :
    encodeArgs false st abi args = .err "non-constant expression in language without registers" := by
  simp only [encodeArgs, h, Bool.not_false, Bool.and_self, if_true]

theorem encode_roundtrip (hasRegs : Bool) (st : EncState) (abi : Abi) (args : List Arg)
    (hv : validAbi abi = true) (hn : (abi.filter Enc.contributes).length ≤ 16)
    (ha : ArgsOk st abi args = true) (hr : (!hasRegs && args.any Arg.isReg) = false) :
    ∃ raw st', encodeArgs hasRegs st abi args = .ok (raw, [], st') ∧ decompileCall abi raw = .ok (args, []) := by
  have hbe := validAbi_blobEndLast hv
  have hattr := validAbi_strAttrs hv
  rcases validAbi_arg0_cases hv with hall | ⟨e, es, rfl, h0, _⟩
  · rw [ArgsOk_plain st args hall] at ha
    obtain ⟨blob, mask, st2, hp, _, hd⟩ := encodePlain_roundtrip st abi args none hn hattr hbe ha
    obtain ⟨full, hdec, hdp, hnz⟩ := hd none
    exact ⟨_, st2, by rw [encodeArgs_plain hasRegs st args hall, hr]; exact hp,
      decompileCall_of_decLoop hdec hdp hnz⟩
  · obtain ⟨v, as, rfl, hfit, hloop, hnoreg⟩ := (ArgsOk_arg0 h0).mp ha
    have hp0 := isPadding_of_isArg0 h0
    rw [filter_contributes_arg (by rw [hp0]; exact Bool.false_ne_true), List.length_cons] at hn
    simp only [blobEndLast, Bool.and_eq_true] at hbe
    obtain ⟨blob, mask, st2, hp, hz, hd⟩ := encodePlain_roundtrip st es as (some v) (Nat.le_of_succ_le hn)
      (fun e he => hattr e (List.mem_cons_of_mem _ he)) hbe.2 hloop
    cases hz hnoreg
    obtain ⟨full, hdec, hdp, hnz⟩ := hd none
    simp only [List.any_cons, Arg.isReg, Bool.false_or] at hr
    refine ⟨_, st2, by rw [encodeArgs_arg0 hasRegs st es v as h0, hr, hfit]; exact hp,
      decompileCall_of_decLoop (full := .int v false :: full) (a0 := none) ?_ ?_ ?_⟩
    · rw [decLoop_arg0 (mask := 0) v h0 hdec]; simp
    · simp only [dropPadding, hp0, Bool.false_eq_true, if_false, hdp]
    · simp only [nonzeroPadding, hp0, Bool.false_and, Bool.false_or, hnz]

/-- **decode ∘ encode = id, no warnings.**  For every valid signature with at most 16 non-padding
parameters, every furigana state and every `ArgsOk` argument list: what `encode_args` produces is
decoded by `decode_args_with_abi` + the padding filter to exactly the argument list. -/
theorem decode_encode (hasRegs : Bool) (st : EncState) (abi : Abi) (args : List Arg)
    (raw : Raw) (w : List String) (st' : EncState)
    (hv : validAbi abi = true) (hn : (abi.filter Enc.contributes).length ≤ 16)
    (ha : ArgsOk st abi args = true)
    (he : encodeArgs hasRegs st abi args = .ok (raw, w, st')) :
    decompileCall abi raw = .ok (args, []) ∧ w = [] := by
  cases hr : (!hasRegs && args.any Arg.isReg) with
  | true =>
    simp only [Bool.and_eq_true, Bool.not_eq_true'] at hr
    rw [hr.1, encodeArgs_no_registers st abi args hr.2] at he
    cases he
  | false =>
    obtain ⟨raw', st2, he', hd⟩ := encode_roundtrip hasRegs st abi args hv hn ha hr
    rw [he'] at he
    cases he
    exact ⟨hd, rfl⟩

/-- under the same hypotheses the encoder does succeed (so `decode_encode` is not vacuous) -/
theorem encode_ok (hasRegs : Bool) (st : EncState) (abi : Abi) (args : List Arg)
    (hv : validAbi abi = true) (hn : (abi.filter Enc.contributes).length ≤ 16)
    (ha : ArgsOk st abi args = true)
    (hr : hasRegs = true ∨ args.any Arg.isReg = false) :
    ∃ raw st', encodeArgs hasRegs st abi args = .ok (raw, [], st') := by
  obtain ⟨raw, st', he, _⟩ := encode_roundtrip hasRegs st abi args hv hn ha
    (by rcases hr with h | h <;> simp [h])
  exact ⟨raw, st', he⟩

/-- the hypotheses of `decode_encode` on a non-trivial input -/
example :
    let abi : Abi := [.int .w4 true false false, .padding true, .int .w2 true false false, .float false,
      .str (.toBlobEnd 4) ⟨0x77, 7, 16⟩ true]
    let args : List Arg := [.int 10000 true, .int (-32768) false, .float 0x3f800000 false, .str [0x7C, 0x83, 0x5C]]
    validAbi abi = true ∧ (abi.filter Enc.contributes).length ≤ 16 ∧ ArgsOk none abi args = true := by
  decide +kernel

/-- **encode (decode (encode args)) = encode args**: on the image of the encoder, re-encoding
the decoded arguments reproduces blob, mask, arg0 and furigana state. -/
theorem encode_decode_image (hasRegs : Bool) (st : EncState) (abi : Abi) (args : List Arg)
    (raw : Raw) (w : List String) (st' : EncState)
    (hv : validAbi abi = true) (hn : (abi.filter Enc.contributes).length ≤ 16)
    (ha : ArgsOk st abi args = true)
    (he : encodeArgs hasRegs st abi args = .ok (raw, w, st')) :
    ∃ args', decompileCall abi raw = .ok (args', []) ∧ encodeArgs hasRegs st abi args' = .ok (raw, [], st') := by
  obtain ⟨hd, hw⟩ := decode_encode hasRegs st abi args raw w st' hv hn ha he
  exact ⟨args, hd, by rw [he, hw]⟩

/-- encode ∘ decode = id on fixed-width signatures, for any number of parameters: a mask that fits the `u16` has no
register bit beyond the sixteenth parameter, which is all the encoder asks for -/
theorem encode_decode_fixed (st : EncState) (abi : Abi) (raw : Raw) (full : List Arg)
    (hsf : strFree abi = true) (hna : noArg0 abi = true)
    (hd : decodeArgs abi raw = .ok (full, []))
    (hp : nonzeroPadding abi full = false)
    (hm : maskOk abi raw.mask = true) (hm16 : raw.mask < 65536) (ha0 : raw.arg0 = none) :
    encodeArgs true st abi (dropPadding abi full) = .ok (raw, [], st) := by
  obtain ⟨blob, mask, arg0⟩ := raw
  subst ha0
  simp only [decodeArgs] at hd
  revert hd
  cases h : decLoop abi blob mask none with
  | err c | panic p => nofun
  | ok o =>
    intro hd
    simp only [Outcome.ok.injEq, Prod.mk.injEq] at hd
    obtain ⟨rfl, hwarn⟩ := hd
    have hrest : o.rest = [] := by
      cases hr : o.rest with
      | nil => rfl
      | cons x xs => simp [hr] at hwarn
    obtain ⟨blob', hblob, henc⟩ := encLoop_decLoop abi 0 blob mask none o st hm16 hsf hna h hp hm
    rw [hrest, List.append_nil] at hblob
    subst hblob
    rw [encodeArgs_plain true st _ fun e he => by simpa using List.all_eq_true.mp hna e he]
    simp only [Bool.not_true, Bool.false_and, Bool.false_eq_true, if_false, encodePlain, henc,
      Nat.mod_eq_of_lt hm16]

set_option linter.unusedVariables false in
/-- **encode ∘ decode = id on fixed-width signatures** (no string, no `arg0`): a blob / mask that
decodes without any warning, with zero padding bytes and register bits only on parameters that can
be registers, is reproduced exactly, without warnings, by compiling the decoded arguments. -/
theorem encode_decode_partial (st : EncState) (abi : Abi) (raw : Raw) (full : List Arg)
    (hsf : strFree abi = true) (hna : noArg0 abi = true)
    (hn : (abi.filter Enc.contributes).length ≤ 16)
    (hd : decodeArgs abi raw = .ok (full, []))
    (hp : nonzeroPadding abi full = false)
    (hm : maskOk abi raw.mask = true) (hm16 : raw.mask < 65536) (ha0 : raw.arg0 = none) :
    encodeArgs true st abi (dropPadding abi full) = .ok (raw, [], st) :=
  encode_decode_fixed st abi raw full hsf hna hd hp hm hm16 ha0

/-- the hypotheses of `encode_decode_partial` on a non-trivial instruction -/
example :
    let abi : Abi := [.int .w4 true false false, .padding true, .int .w2 false false false, .float false]
    let raw : Raw := ⟨[0x10, 0x27, 0, 0, 0, 0, 0, 0, 0xFF, 0xFF, 0, 0, 0x80, 0x3F], 1, none⟩
    strFree abi = true ∧ noArg0 abi = true ∧ maskOk abi raw.mask = true ∧
    decodeArgs abi raw = .ok ([.int 10000 true, .int 0 false, .int 65535 false, .float 0x3F800000 false], []) := by
  decide +kernel

/-- The statement for the whole encoding enum: strings need, in addition, canonical padding (the
length read is exactly the padded length of text + NUL + pending furigana bytes, the bytes after
the NUL are those furigana bytes followed by zeros).  Not proved for signatures with strings or
`arg0`; `decode_encode`/`encode_decode_image` cover exactly the blobs the compiler itself
writes, and the two theorems below show why "decodes without warning" alone is not enough. -/
def encode_decode_full : Prop :=
  ∀ (st : EncState) (abi : Abi) (raw : Raw) (full : List Arg), validAbi abi = true →
    decodeArgs abi raw = .ok (full, []) → nonzeroPadding abi full = false →
    raw.mask < 65536 →
    ∃ st', encodeArgs true st abi (dropPadding abi full) = .ok (raw, [], st')

/-- a register bit on an `imm` parameter is dropped by the decoder without warning
("TODO: Add a way to fallback to @mask for bad mask bits" in `decode_args_with_abi`) -/
theorem mask_bit_on_immediate_lost :
    decompileCall [.int .w4 true false true] ⟨[1, 0, 0, 0], 1, none⟩ = .ok ([.int 1 false], []) ∧
    encodeArgs true none [.int .w4 true false true] [.int 1 false] = .ok (⟨[1, 0, 0, 0], 0, none⟩, [], none) := by
  decide +kernel

/-- a block-padded string with more (or less) padding than the encoder would write decodes
without warning and is re-encoded with canonical padding -/
theorem overpadded_string_normalised :
    decompileCall [.str (.toBlobEnd 4) ⟨0, 0, 0⟩ false] ⟨[0x61, 0, 0, 0, 0, 0, 0, 0], 0, none⟩ = .ok ([.str [0x61]], []) ∧
    encodeArgs true none [.str (.toBlobEnd 4) ⟨0, 0, 0⟩ false] [.str [0x61]] = .ok (⟨[0x61, 0, 0, 0], 0, none⟩, [], none) := by
  decide +kernel

theorem encode_decode_full_false : ¬ encode_decode_full := by
  intro h
  obtain ⟨st', hst⟩ := h none [.int .w4 true false true] ⟨[1, 0, 0, 0], 1, none⟩ [.int 1 false]
    (by decide +kernel) (by decide +kernel) (by decide +kernel) (by decide +kernel)
  have h2 : dropPadding [.int .w4 true false true] [.int 1 false] = [.int 1 false] := by decide +kernel
  rw [h2, mask_bit_on_immediate_lost.2] at hst
  simp at hst

theorem xor_involutive (m : ByteMask) (bs : Bytes) : applyMask m (applyMask m bs) = bs :=
  Abi.xor_involutive m bs

example : applyMask ⟨0x77, 7, 16⟩ [0x41, 0x42, 0x43] = [0x36, 0x3C, 0xD6] := by decide +kernel

/-- the mask never changes the length (so masking a NUL to a non-NUL byte cannot shift fields) -/
theorem mask_preserves_length (m : ByteMask) (bs : Bytes) : (applyMask m bs).length = bs.length :=
  applyMask_length m bs

theorem trim_after_pad (s : Bytes) (k : Nat) (warn : Bool) (h : s.contains 0 = false) :
    trimFirstNul (s ++ 0 :: zeros k) warn = (s, []) :=
  Abi.trim_after_pad s k warn h

example : trimFirstNul ([0x61, 0x62] ++ 0 :: zeros 5) true = ([0x61, 0x62], []) := by decide +kernel

set_option linter.unusedVariables false in
/-- a length-prefixed string is written as its total length (a multiple of the block size that
leaves room for the NUL) followed by exactly that many bytes -/
theorem pascal_length (st : EncState) (bs : Nat) (mask : ByteMask) (furibug : Bool) (s out : Bytes)
    (st2 : EncState) (hbs : bs ≠ 0) (hok : strLayoutOk st (.pascal bs) furibug s = true)
    (he : encodeStr st (.pascal bs) mask furibug s = .ok (out, st2)) :
    4 ≤ out.length ∧ leNat (out.take 4) = out.length - 4 ∧ (out.length - 4) % bs = 0 ∧
      s.length + 1 ≤ out.length - 4 := by
  rw [encodeStr_eq] at he
  revert he
  cases hp : strPad (.pascal bs) (s ++ nulOf (.pascal bs) ++ fbOf st furibug) with
  | err c | panic p => nofun
  | ok e3 =>
    intro he
    cases he
    obtain ⟨k, hk, hkle, hmod⟩ := strPad_form hp
    have hlen : (leBytes 4 e3.length ++ applyMask mask e3).length - 4 = e3.length := by
      rw [List.length_append, leBytes_length, applyMask_length, Nat.add_sub_cancel_left]
    have hlt : e3.length < 256 ^ 4 := hk ▸ pascal_fits hok hkle
    refine ⟨by rw [List.length_append, leBytes_length]; exact Nat.le_add_right _ _, ?_, by rw [hlen]; exact hmod, ?_⟩
    · rw [hlen, List.take_left' (leBytes_length _ _), leNat_leBytes, Nat.mod_eq_of_lt hlt]
    · rw [hlen, hk, List.length_append, List.length_append, List.length_append]
      exact Nat.le_trans (Nat.le_add_right _ _) (Nat.le_add_right _ _)

/-! What the property asks of the encoder ("values that do not fit their declared width, strings that
do not fit their buffer, registers where only immediates are allowed are diagnosed rather than
silently changed") is `misfit_diagnosed` below.  In front of it: what the model (which follows `encode_args` /
`string_from_attrs` of the tree as it stands) does in the four places where a misfit could be silent: an integer
outside its field is an error (not an `as` cast), `bs=0` is rejected by the validator (no division by zero), a
register beyond the 16 mask bits is an error (its bit cannot fall off), `nulless` excludes `furibug`. -/

theorem int_misfit_is_error (st : EncState) (w : IntW) (signed imm : Bool) (v : Int) (reg : Bool)
    (hw : w ≠ .w4) (h : fitsInt w signed v = false) :
    encodeOne st (.int w signed false imm) (.int v reg) = .err "integer argument does not fit" := by
  cases w <;> simp_all [encodeOne, expectInt]

example : compileCall true none [.int .w2 true false false] [.int 70000 false]
    = .err "integer argument does not fit" := by decide +kernel

/-- the `arg0` header field is an `i16`: anything else is an error -/
theorem arg0_misfit_is_error (st : EncState) (w : IntW) (signed imm : Bool) (es : Abi) (v : Int)
    (as : List Arg) (h : fitsInt .w2 true v = false) :
    encodeArgs true st (.int w signed true imm :: es) (.int v false :: as)
      = .err "integer argument does not fit" := by
  simp [encodeArgs, Enc.isArg0, Arg.isReg, expectInt, h]

theorem validAbi_rejects_zero_block (abi : Abi) (m : ByteMask) (f : Bool)
    (h : .str (.toBlobEnd 0) m f ∈ abi ∨ .str (.pascal 0) m f ∈ abi) : validAbi abi = false := by
  cases hv : validAbi abi with
  | false => rfl
  | true =>
    have hattr := validAbi_strAttrs hv
    rcases h with h | h <;> exact absurd (hattr _ h) nofun

example : validAbi [.str (.toBlobEnd 0) ⟨0, 0, 0⟩ false] = false
    ∧ validAbi [.int .w4 true false false, .str (.pascal 0) ⟨1, 2, 3⟩ true] = false := by decide +kernel

theorem validAbi_rejects_nulless_furibug (abi : Abi) (len : Nat) (m : ByteMask)
    (h : .str (.fixed len true) m true ∈ abi) : validAbi abi = false := by
  cases hv : validAbi abi with
  | false => rfl
  | true => exact absurd (validAbi_strAttrs hv _ h) nofun

example : validAbi [.str (.fixed 4 false) ⟨0, 0, 0⟩ true, .str (.fixed 8 true) ⟨0, 0, 0⟩ true] = false := by decide +kernel

/-- **Every register flag reaches the file**: whenever the loop of `encode_args` succeeds (`encodePlain`: on the
signature behind an `arg0` head, if there is one), bit `j` of the stored mask is exactly the register flag of the
`j`-th non-padding parameter of that signature, for every `j`. -/
theorem register_flags_never_lost (st : EncState) (es : Abi) (args : List Arg) (a0 : Option Int)
    (raw : Raw) (w : List String) (st' : EncState)
    (h : encodePlain st es args a0 = .ok (raw, w, st')) (j : Nat) :
    raw.mask.testBit j = (regFlags es args).getD j false := by
  obtain ⟨o, h1, rfl, _⟩ := encodePlain_ok h
  rw [Nat.mod_eq_of_lt (encLoop_mask_lt es 0 args st o h1)]
  exact mask_bits_positions es 0 args st o h1 j

/-- "too many arguments in instruction!"; immediates beyond the 16 mask bits are fine -/
theorem reg_beyond_16_is_error (k : Nat) (e : Enc) (es : Abi) (a : Arg) (as : List Arg) (st : EncState)
    (hk : 16 ≤ k) (hp : e.isPadding = false) (hr : a.isReg = true) :
    encLoop k (e :: es) (a :: as) st = .err "too many arguments in instruction" := by
  simp [encLoop, hp, hr, hk]

example :
    encodeArgs true none (List.replicate 17 (.int .w4 true false false))
        (List.replicate 16 (.int 1 false) ++ [.int 2 true]) = .err "too many arguments in instruction" ∧
    (match encodeArgs true none (List.replicate 17 (.int .w4 true false false)) (List.replicate 17 (.int 1 false)) with
     | .ok (raw, w, _) => raw.mask == 0 && w.isEmpty
     | _ => false) = true := by
  decide +kernel

/-- Latent: with an `arg0` parameter the decoder consumes a mask bit for it, the encoder does
not.  Unreachable through the real formats (only TH06/TH07 timelines have `arg0`, and they have
no registers), reachable with `TestLanguage`; this is why `ArgsOk` forbids registers next to
an `arg0` parameter. -/
theorem arg0_shifts_mask :
    validAbi [.int .w2 true true false, .int .w4 true false false] = true ∧
    encodeArgs true none [.int .w2 true true false, .int .w4 true false false] [.int 5 false, .int 7 true]
      = .ok (⟨[7, 0, 0, 0], 1, some 5⟩, [], none) ∧
    decompileCall [.int .w2 true true false, .int .w4 true false false] ⟨[7, 0, 0, 0], 1, some 5⟩
      = .ok ([.int 5 true, .int 7 false], []) := by
  decide +kernel

/-- the buffer has to hold the NUL and the pending furigana bytes as well -/
theorem misfit_diagnosed_partial (st : EncState) (len : Nat) (nulless : Bool) (mask : ByteMask)
    (furibug : Bool) (s : Bytes)
    (h : s.length + (if nulless then 0 else 1) + (if furibug then (st.getD []).length else 0) > len) :
    encodeStr st (.fixed len nulless) mask furibug s = .err "string argument too large for buffer" :=
  encodeStr_too_large st len nulless mask furibug s h

example : encodeStr none (.fixed 4 false) ⟨0, 0, 0⟩ false [0x61, 0x62, 0x63, 0x64]
    = .err "string argument too large for buffer" := by decide +kernel

/-- what the front end guarantees about one argument of a call that passed `checkCall`: the
parameter's type, a register only where the signature allows one, an `i32`, a NUL-free string -/
def argTyped (e : Enc) (a : Arg) : Bool :=
  a.ty == e.ty && (e.regOk || !a.isReg) &&
  match a with
  | .int v _ => i32Range v
  | .str s => !s.contains 0
  | .float _ _ => true

/-- a length-prefixed string stays below 2^32 bytes (the prefix is a `u32`) -/
def argSane (st : EncState) : Enc → Arg → Bool
  | .str (.pascal bs) _ furibug, .str s =>
    decide (s.length + 1 + (if furibug then (st.getD []).length else 0) + bs < 4294967296)
  | _, _ => true

/-- the call as the loop sees it: arity, `argTyped`, `argSane` (furigana state threaded) -/
def callTyped : EncState → Abi → List Arg → Bool
  | _, [], args => args.isEmpty
  | st, e :: es, args =>
    if e.isPadding then callTyped st es args else
    match args with
    | [] => false
    | a :: as => argTyped e a && argSane st e a && callTyped (stateAfter st e a) es as

theorem strPad_no_panic (size : StrSize) (mask : ByteMask) (furibug : Bool) (e2 : Bytes) (q : String)
    (hattr : Enc.strAttrsOk (.str size mask furibug) = true) : strPad size e2 ≠ .panic q := by
  intro hpd
  cases size with
  | fixed len nl => simp only [strPad] at hpd; split at hpd <;> cases hpd
  | toBlobEnd bs | pascal bs =>
    have : bs ≠ 0 := bne_iff_ne.mp hattr
    simp only [strPad, this, if_false] at hpd; split at hpd <;> cases hpd

/-- a typed, sane argument never makes `encodeOne` panic; if it is not `argOk` the result is an
error, or the register-in-immediate warning -/
theorem typed_arg_diagnosed {st : EncState} {e : Enc} {a : Arg}
    (ht : argTyped e a = true) (hs : argSane st e a = true) (hattr : e.strAttrsOk = true)
    (h0 : e.isArg0 = false) (hp : e.isPadding = false) :
    (∀ p, encodeOne st e a ≠ .panic p) ∧
    (argOk st e a = false → (∃ c, encodeOne st e a = .err c) ∨ (e.alwaysImmediate && a.isReg) = true) := by
  simp only [argTyped, Bool.and_eq_true, beq_iff_eq, Bool.or_eq_true, Bool.not_eq_true'] at ht
  obtain ⟨⟨hty, hreg⟩, hval⟩ := ht
  cases e with
  | int w s z imm =>
    cases z with
    | true => cases h0
    | false =>
      cases a with
      | int v reg =>
        refine ⟨fun p => by simp only [encodeOne, expectInt]; split <;> nofun, fun hbad => ?_⟩
        simp only [] at hval
        simp only [argOk, hval, Bool.and_true, Bool.and_eq_false_iff] at hbad
        rcases hbad with hfit | hri
        · have hw : w ≠ .w4 := by
            intro hw; subst hw; rw [fitsInt, hval] at hfit; cases hfit
          exact Or.inl ⟨_, int_misfit_is_error st w s imm v reg hw hfit⟩
        · simp only [Bool.not_eq_false', Bool.and_eq_true] at hri
          exact Or.inr (by rw [Enc.alwaysImmediate, Arg.isReg, hri.1, hri.2]; rfl)
      | float _ _ | str _ => cases hty
  | jumpOffset | jumpTime =>
    cases a with
    | int v reg =>
      have : reg = false := by simpa [Enc.regOk, Arg.isReg] using hreg
      simp only [] at hval
      exact ⟨fun p => by simp [encodeOne, expectInt], fun hbad => by simp [argOk, hval, this] at hbad⟩
    | float _ _ | str _ => cases hty
  | padding w => cases hp
  | float imm =>
    cases a with
    | int _ _ | str _ => cases hty
    | float b reg =>
      refine ⟨fun p => by simp [encodeOne, expectFloat], fun hbad => Or.inr ?_⟩
      simp only [argOk, Bool.not_eq_false', Bool.and_eq_true] at hbad
      rw [Enc.alwaysImmediate, Arg.isReg, hbad.1, hbad.2]; rfl
  | str size mask furibug =>
    cases a with
    | int _ _ | float _ _ => cases hty
    | str s =>
      have hnul : s.contains 0 = false := by simpa only [Bool.not_eq_true'] using hval
      constructor
      · intro p
        simp only [encodeOne, expectString, encodeStr_eq]
        cases hpd : strPad size (s ++ nulOf size ++ fbOf st furibug) with
        | ok e3 | err c => nofun
        | panic q => exact absurd hpd (strPad_no_panic size mask furibug _ q hattr)
      · intro hbad
        simp only [argOk, strLayoutOk, hnul, Bool.not_false, Bool.true_and] at hbad
        rcases size with ⟨len, nl⟩ | bs | bs
        · exact Or.inl ⟨_, misfit_diagnosed_partial st len nl mask furibug s
            (Nat.not_le.mp (of_decide_eq_false hbad))⟩
        · cases hbad
        · exact absurd (of_decide_eq_true hs) (of_decide_eq_false hbad)

/-- outcome of the loop on a typed call: never a panic; if the arguments are not `good`, an error or at
least one warning -/
def Diagnosed (good : Bool) : Outcome EncOut → Prop
  | .panic _ => False
  | .err _ => True
  | .ok o => good = false → o.warnings ≠ []

theorem encLoop_diagnosed (es : Abi) (k : Nat) (args : List Arg) (st : EncState)
    (hes : ∀ e ∈ es, e.isArg0 = false ∧ e.strAttrsOk = true) (ht : callTyped st es args = true) :
    Diagnosed (argsOkLoop st es args) (encLoop k es args st) := by
  fun_induction encLoop k es args st with
  | case1 _ args st =>
    simp only [callTyped] at ht
    simp [Diagnosed, argsOkLoop, ht]
  | case2 k e es args st hp o h2 ih =>
    simp only [callTyped, hp, if_true] at ht
    have := ih (List.forall_mem_cons.mp hes).2 ht
    rw [h2] at this
    simp only [argsOkLoop, hp, if_true]
    exact this
  | case3 k e es args st hp hne ih =>
    simp only [callTyped, hp, if_true] at ht
    simpa only [argsOkLoop, hp, if_true] using
      ih (List.forall_mem_cons.mp hes).2 ht
  | case4 k e es st hp => simp [callTyped, hp] at ht
  | case5 | case8 => trivial
  | case6 k e es st hp a as _ warn bit bytes st1 h1 o h2 ih =>
    simp only [callTyped, hp, Bool.false_eq_true, if_false, Bool.and_eq_true] at ht
    obtain ⟨⟨hta, hsa⟩, htr⟩ := ht
    rw [stateAfter_eq h1] at htr
    have hrec := ih (List.forall_mem_cons.mp hes).2 htr
    rw [h2] at hrec
    intro hbad
    simp only [argsOkLoop, hp, Bool.false_eq_true, if_false, stateAfter_eq h1,
      Bool.and_eq_false_iff] at hbad
    show (if warn = true then _ else []) ++ o.warnings ≠ []
    rcases hbad with hb | hb
    · rcases (typed_arg_diagnosed hta hsa (hes e List.mem_cons_self).2
        (hes e List.mem_cons_self).1 (Bool.eq_false_iff.mpr hp)).2 hb with ⟨c, hc⟩ | hw
      · rw [h1] at hc; cases hc
      · show (if (e.alwaysImmediate && a.isReg) = true then _ else []) ++ o.warnings ≠ []
        rw [hw]; exact nofun
    · exact fun h => hrec hb (List.append_eq_nil_iff.mp h).2
  | case7 k e es st hp a as _ bytes st1 h1 hne ih =>
    simp only [callTyped, hp, Bool.false_eq_true, if_false, Bool.and_eq_true] at ht
    rw [stateAfter_eq h1] at ht
    have hrec := ih (List.forall_mem_cons.mp hes).2 ht.2
    cases h2 : encLoop (k + 1) es as st1 with
    | ok o => exact (hne o h2).elim
    | err c => trivial
    | panic p => rw [h2] at hrec; exact hrec
  | case9 k e es st hp a as _ p h1 =>
    simp only [callTyped, hp, Bool.false_eq_true, if_false, Bool.and_eq_true] at ht
    exact (typed_arg_diagnosed ht.1.1 ht.1.2 (hes e List.mem_cons_self).2 (hes e List.mem_cons_self).1
      (Bool.eq_false_iff.mpr hp)).1 p h1

/-- the whole call, `arg0` parameter included (an immediate `i32`) -/
def CallTyped (st : EncState) (abi : Abi) (args : List Arg) : Bool :=
  match abi with
  | [] => callTyped st [] args
  | e :: es =>
    if e.isArg0 then
      match args with
      | .int v false :: as => i32Range v && callTyped st es as
      | _ => false
    else callTyped st (e :: es) args

theorem CallTyped_plain (st : EncState) {abi : Abi} (args : List Arg) (h : ∀ e ∈ abi, e.isArg0 = false) :
    CallTyped st abi args = callTyped st abi args := by
  cases abi with
  | nil => rfl
  | cons e es => simp only [CallTyped, h e List.mem_cons_self, Bool.false_eq_true, if_false]

theorem CallTyped_arg0 {st : EncState} {e : Enc} {es : Abi} {args : List Arg} (h0 : e.isArg0 = true)
    (h : CallTyped st (e :: es) args = true) :
    ∃ v as, args = .int v false :: as ∧ callTyped st es as = true := by
  simp only [CallTyped, h0, if_true] at h
  split at h
  · exact ⟨_, _, rfl, (Bool.and_eq_true_iff.mp h).2⟩
  · cases h

/-- **Misfits are diagnosed, and nothing panics.**  For every valid signature and every call
whose arguments have the parameters' types (registers only where `checkCall` lets them through,
`i32` integers, NUL-free strings): `encode_args` never panics, and if the argument list is not
`ArgsOk` the result is an error or carries at least one warning.  Stated for a language with registers
(`encodeArgs true`; without them a register is the error of `encodeArgs_no_registers`).  (With an `arg0`
parameter no argument may be a register: see `arg0_shifts_mask`; the real timelines have no registers.) -/
theorem misfit_diagnosed (st : EncState) (abi : Abi) (args : List Arg)
    (hv : validAbi abi = true) (ht : CallTyped st abi args = true)
    (harg0 : abi.any Enc.isArg0 = true → args.any Arg.isReg = false) :
    match encodeArgs true st abi args with
    | .ok (_, w, _) => ArgsOk st abi args = false → w ≠ []
    | .err _ => True
    | .panic _ => False := by
  have hattr := validAbi_strAttrs hv
  rcases validAbi_arg0_cases hv with hall | ⟨e, es, rfl, h0, htail⟩
  · rw [CallTyped_plain st args hall] at ht
    have hloop := encLoop_diagnosed abi 0 args st (fun e he => ⟨hall e he, hattr e he⟩) ht
    rw [encodeArgs_plain true st args hall, ArgsOk_plain st args hall]
    simp only [Bool.not_true, Bool.false_and, Bool.false_eq_true, if_false, encodePlain]
    cases h : encLoop 0 abi args st with
    | ok o => rw [h] at hloop; exact hloop
    | err c => trivial
    | panic p => rw [h] at hloop; exact hloop
  · obtain ⟨v, as, rfl, htyped⟩ := CallTyped_arg0 h0 ht
    have hnoreg : as.any Arg.isReg = false := by simpa [Arg.isReg] using harg0 (by simp [h0])
    have hloop := encLoop_diagnosed es 0 as st
      (fun e he => ⟨htail e he, hattr e (List.mem_cons_of_mem _ he)⟩) htyped
    rw [encodeArgs_arg0 true st es v as h0]
    simp only [Bool.not_true, Bool.false_and, Bool.false_eq_true, if_false]
    cases hfit : fitsInt .w2 true v with
    | false => trivial
    | true =>
      simp only [Bool.not_true, Bool.false_eq_true, if_false, encodePlain]
      cases h : encLoop 0 es as st with
      | ok o =>
        rw [h] at hloop
        intro hbad
        refine hloop ?_
        -- the header field fits and nothing is a register: `ArgsOk` is `argsOkLoop` on the rest
        cases hl : argsOkLoop st es as with
        | false => rfl
        | true => rw [(ArgsOk_arg0 h0).mpr ⟨v, as, rfl, hfit, hl, hnoreg⟩] at hbad; cases hbad
      | err c => trivial
      | panic p => rw [h] at hloop; exact hloop

/-- the hypotheses of `misfit_diagnosed` on calls that are not `ArgsOk`, for three reasons -/
example :
    let abi : Abi := [.int .w1 false false false, .padding true, .float true, .str (.fixed 4 false) ⟨7, 1, 2⟩ false]
    validAbi abi = true ∧
    CallTyped none abi [.int 300 false, .float 0 false, .str [0x61]] = true ∧
    ArgsOk none abi [.int 300 false, .float 0 false, .str [0x61]] = false ∧
    CallTyped none abi [.int 3 false, .float 0 true, .str [0x61]] = true ∧
    ArgsOk none abi [.int 3 false, .float 0 true, .str [0x61]] = false ∧
    CallTyped none abi [.int 3 true, .float 0 false, .str [0x61, 0x62, 0x63, 0x64]] = true ∧
    ArgsOk none abi [.int 3 true, .float 0 false, .str [0x61, 0x62, 0x63, 0x64]] = false := by
  decide +kernel

/-- `checkCall` (arity, types, constant positions) lets a typed call through (not conversely: `callTyped` also
asks `argSane`) -/
theorem callTyped_checks (es : Abi) (st : EncState) (args : List Arg) (h : callTyped st es args = true) :
    args.length = (es.filter Enc.contributes).length ∧
    checkTypes (es.filter Enc.contributes) args = .ok () ∧
    checkConst (es.filter Enc.contributes) args = .ok () := by
  fun_induction callTyped st es args with
  | case1 st args =>
    rw [List.isEmpty_iff] at h
    subst h
    exact ⟨rfl, rfl, rfl⟩
  | case2 st e es args hp ih =>
    rw [filter_contributes_pad hp]
    exact ih h
  | case3 st e es hp => cases h
  | case4 st e es hp a as ih =>
    simp only [Bool.and_eq_true] at h
    obtain ⟨⟨hta, _⟩, htr⟩ := h
    obtain ⟨h1, h2, h3⟩ := ih htr
    simp only [argTyped, Bool.and_eq_true, beq_iff_eq, Bool.or_eq_true, Bool.not_eq_true'] at hta
    have hreg : (!e.regOk && a.isReg) = false := by
      rcases hta.1.2 with h | h <;> simp [h]
    rw [filter_contributes_arg hp]
    exact ⟨by rw [List.length_cons, List.length_cons, h1],
      by simp only [checkTypes, hta.1.1, beq_self_eq_true, if_true, h2],
      by simp only [checkConst, hreg, Bool.false_eq_true, if_false, h3]⟩

theorem callTyped_checkCall (st : EncState) (abi : Abi) (args : List Arg)
    (h : callTyped st abi args = true) : checkCall abi args = .ok () := by
  obtain ⟨h1, h2, h3⟩ := callTyped_checks abi st args h
  simp [checkCall, h1, h2, h3]

/-- a register in a position that only takes constants (`o`, `t`, `arg0`) is rejected before
lowering: the first such position in the (non-padding) parameter list decides -/
theorem const_position_rejects_register (e : Enc) (a : Arg) (es : Abi) (as : List Arg)
    (h1 : e.regOk = false) (h2 : a.isReg = true) :
    checkConst (e :: es) (a :: as) = .err "argument must be a compile-time constant" := by
  simp [checkConst, h1, h2]

theorem imm_register_warns (st : EncState) (w : IntW) (signed : Bool) (v : Int)
    (hfit : fitsInt w signed v = true) :
    ∃ raw st', encodeArgs true st [.int w signed false true] [.int v true]
      = .ok (raw, ["non-constant expression in immediate argument"], st') ∧ raw.mask = 0 := by
  refine ⟨⟨leBytes w.bytes (wrapTo w.bytes v), 0, none⟩, st, ?_, rfl⟩
  simp [encodeArgs, Enc.isArg0, encodePlain, encLoop, Enc.isPadding, encodeOne, expectInt,
    Enc.alwaysImmediate, Arg.isReg, hfit]

/-- `validAbi` on a signature it accepts and on five it rejects, each for one rule (the last for the attribute rule
"`arg0` only on a field of at most two bytes", not one of the four rules of `validate`) -/
example : validAbi [.int .w4 true false false, .jumpOffset, .jumpTime] = true
    ∧ validAbi [.jumpTime] = false
    ∧ validAbi [.jumpOffset, .jumpOffset] = false
    ∧ validAbi [.int .w4 true false false, .int .w2 true true false] = false
    ∧ validAbi [.str (.toBlobEnd 4) ⟨0, 0, 0⟩ false, .int .w4 true false false] = false
    ∧ validAbi [.int .w4 true true false] = false := by decide +kernel

end TruthModel.C12
