import TruthModel.Props.C16Files
import TruthModel.Model.FilesAnm
/-
C16 for the ANM container (`readAnm`, `Model/FilesAnm.lean`): every byte string, any version, with or without image data,
ends in a file, one of six diagnostics, or the one panic the reader can reach, the `u32` script counter of `read_entry`, which
needs an input of at least 185 364 bytes (`8 * (2^32 - 1) < len * len`: a script costs 8 bytes of table in its entry and every
entry starts at its own offset).  Never "fuel", never "loop in entries": `next_offset` is unsigned, so the chain only moves
forward and every entry needs its 64-byte header inside the file.  What is built is bounded by the input part by part
(`EntryBound`), not linearly: entries may share their texture, script table entries their script (`Props/C16AnmAmpl.lean`).
Each reader has one statement `X_ends` (`Ends`, `Lemmas/Readers.lean`; `EndsC` where the script counter is in reach).
-/
namespace TruthModel.C16
open TruthModel TruthModel.InstrIO TruthModel.Files

/-- the bytes a header field takes, as `rdField` / `wrField` read the width code: 2 is a `u16`, every other code a `u32` -/
def fieldWidth (w : Nat) : Nat := if w = 2 then 2 else 4

def widthsSum (ws : List Nat) : Nat := (ws.map fieldWidth).sum

theorem rdField_len {w : Nat} {bs : Bytes} {v : Nat} {r : Bytes} (h : rdField w bs = some (v, r)) :
    bs.length = r.length + fieldWidth w := by
  unfold rdField at h
  unfold fieldWidth
  split at h
  · rename_i hw; rw [if_pos hw]; exact rdU16_len h
  · rename_i hw; rw [if_neg hw]; exact rdU32_len h

theorem rdFields_len {ws : List Nat} {bs : Bytes} {vs : List Nat} {r : Bytes} (h : rdFields ws bs = some (vs, r)) :
    bs.length = r.length + widthsSum ws ∧ vs.length = ws.length := by
  fun_induction rdFields ws bs generalizing vs r with
  | case1 => cases h; exact ⟨rfl, rfl⟩
  | case2 => cases h
  | case3 => cases h
  | case4 w ws bs v r1 h1 vs' r2 h2 ih =>
    cases h
    have := rdField_len h1
    obtain ⟨hl, hv⟩ := ih h2
    exact ⟨by rw [this, hl, Nat.add_assoc, Nat.add_comm (widthsSum ws)]; rfl, congrArg (· + 1) hv⟩

def anmReadErrs : List String := [eofErr, badSize, readPastEnd, undecodable, badMagic, anmInconsistent]

theorem eofErr_mem_anm : eofErr ∈ anmReadErrs := by simp only [anmReadErrs, List.mem_cons, true_or]

theorem undecodable_mem_anm : undecodable ∈ anmReadErrs := by simp only [anmReadErrs, List.mem_cons, true_or, or_true]

theorem badMagic_mem_anm : badMagic ∈ anmReadErrs := by simp only [anmReadErrs, List.mem_cons, true_or, or_true]

theorem anmInconsistent_mem_anm : anmInconsistent ∈ anmReadErrs := by simp only [anmReadErrs, List.mem_cons, true_or, or_true]

theorem readAnmHeader_ends (fmt : AnmFmt) (bs : Bytes) :
    Ends anmReadErrs (fun p => bs.length = p.2.length + 64) (readAnmHeader fmt bs) := by
  unfold readAnmHeader
  split
  · split
    · exact eofErr_mem_anm
    · next hv =>
      exact .ok (rdFields_len hv).1
  · split
    · exact eofErr_mem_anm
    · next hv =>
      exact .ok (rdFields_len hv).1

theorem rdScriptTableAux_len (n : Nat) (acc : List (Nat × Nat)) (bs : Bytes) (l : List (Nat × Nat)) (r : Bytes)
    (h : rdScriptTableAux n acc bs = some (l, r)) : bs.length = r.length + 8 * n ∧ l.length = acc.length + n := by
  fun_induction rdScriptTableAux n acc bs with
  | case1 => cases h; simp
  | case2 => cases h
  | case3 => cases h
  | case4 n acc bs id r1 h1 off r2 h2 ih =>
    obtain ⟨hl, hn⟩ := ih h
    exact ⟨by rw [rdU32_len h1, rdU32_len h2, hl, Nat.mul_succ, Nat.add_assoc, Nat.add_assoc],
      hn.trans (by rw [List.length_cons, Nat.add_assoc, Nat.add_comm 1])⟩

theorem stripTrailingZeros_length (x : Bytes) : (Abi.stripTrailingZeros x).length ≤ x.length := by
  unfold Abi.stripTrailingZeros
  rw [List.length_reverse]
  have := (List.dropWhile_sublist (fun b : UInt8 => b == 0) (l := x.reverse)).length_le
  rw [List.length_reverse] at this
  exact this

theorem readCStr16Aux_ends (fuel : Nat) (acc bs : Bytes) (hf : bs.length < fuel) :
    Ends anmReadErrs (fun p => p.1.length ≤ acc.length + bs.length) (readCStr16Aux fuel acc bs) := by
  fun_induction readCStr16Aux fuel acc bs with
  | case1 => exact absurd hf (Nat.not_lt_zero _)
  | case2 => exact eofErr_mem_anm
  | case3 fuel acc bs blk r hb hlast =>
    have := stripTrailingZeros_length (acc ++ blk)
    obtain ⟨hl, hbl⟩ := rdBytes_len hb
    rw [List.length_append] at this
    exact .ok (Nat.le_trans this (Nat.add_le_add_left (by rw [hbl, hl]; exact Nat.le_add_left _ _) _))
  | case4 fuel acc bs blk r hb hlast ih =>
    obtain ⟨hl, hbl⟩ := rdBytes_len hb
    refine (ih (Nat.lt_of_lt_of_le (Nat.lt_add_of_pos_right (by decide)) (hl ▸ Nat.le_of_lt_succ hf))).mono (fun _ h => h)
      fun p h => ?_
    rw [List.length_append, hbl] at h
    exact Nat.le_trans h (by rw [hl, Nat.add_assoc, Nat.add_comm 16]; exact Nat.le_refl _)

theorem readAnmStr_ends (decOk : Bytes → Bool) (bs : Bytes) :
    Ends anmReadErrs (fun s => s.length ≤ bs.length) (readAnmStr decOk bs) := by
  unfold readAnmStr
  refine (readCStr16Aux_ends (bs.length + 1) [] bs (Nat.lt_succ_self _)).step fun ⟨s, r⟩ hq this => ?_
  rw [hq]; dsimp only
  split
  · exact .ok (by simpa using this)
  · exact undecodable_mem_anm

theorem imInsert_length (k : Nat) (v : Sprite) : ∀ l : List (Nat × Sprite), (imInsert k v l).length ≤ l.length + 1 := by
  intro l
  induction l with
  | nil => simp [imInsert]
  | cons x xs ih =>
    obtain ⟨k', v'⟩ := x
    rw [imInsert]
    split
    · simp
    · exact Nat.succ_le_succ ih

theorem readSpritesAux_ends (file : Bytes) (pos : Nat) (offs : List Nat) (acc : List (Nat × Sprite)) :
    Ends anmReadErrs (fun res => res.length ≤ acc.length + offs.length) (readSpritesAux file pos offs acc) := by
  fun_induction readSpritesAux file pos offs acc with
  | case1 acc => exact .ok (Nat.le_refl _)
  | case2 => exact eofErr_mem_anm
  | case3 off offs acc s r hs ih =>
    refine ih.mono (fun _ h => h) fun res h => ?_
    rw [List.length_cons, Nat.add_comm offs.length 1, ← Nat.add_assoc]
    exact Nat.le_trans h (Nat.add_le_add_right (imInsert_length (spriteKey s) s acc) _)

/-- the one panic `read_entry` can reach: the overflow of `*next_script_index += 1` -/
def anmCounterSite : String := "src/formats/anm/read_write.rs: attempt to add with overflow"

def OnlyCounter {α} (o : Outcome α) : Prop := ∀ p, o = .panic p → p = anmCounterSite

theorem onlyCounter_of_no_panic {α} {o : Outcome α} (h : o.isPanic = false) : OnlyCounter o := by
  intro p hp; rw [hp] at h; cases h

/-- `Ends anmReadErrs Q` for the readers that count scripts: their one panic is the counter, reached only under `C` -/
def EndsC {α} (C : Prop) (Q : α → Prop) : Outcome α → Prop
  | .ok a => Q a
  | .err c => c ∈ anmReadErrs
  | .panic p => p = anmCounterSite ∧ C

namespace EndsC
variable {α : Type} {C C' : Prop} {Q : α → Prop} {o : Outcome α}

theorem of_ok {a : α} (h : EndsC C Q o) (e : o = .ok a) : Q a := by subst e; exact h

theorem errIn (h : EndsC C Q o) : ErrIn anmReadErrs o := by intro c e; subst e; exact h

theorem of_panic {p : String} (h : EndsC C Q o) (e : o = .panic p) : p = anmCounterSite ∧ C := by subst e; exact h

theorem mono {Q₂ : α → Prop} (h : EndsC C Q o) (hC : C → C') (hQ : ∀ a, Q a → Q₂ a) : EndsC C' Q₂ o := by
  cases o with
  | ok a => exact hQ a h
  | err c => exact h
  | panic p => exact ⟨h.1, hC h.2⟩

end EndsC

theorem Ends.errC {α β} {Q : α → Prop} {o : Outcome α} {C : Prop} {Q' : β → Prop} {c : String}
    (h : Ends anmReadErrs Q o) (e : o = .err c) : EndsC C Q' (.err c : Outcome β) := h.errIn c e

theorem Ends.panicC {α β} {Q : α → Prop} {o : Outcome α} {C : Prop} {Q' : β → Prop} {p : String}
    (h : Ends anmReadErrs Q o) (e : o = .panic p) : EndsC C Q' (.panic p : Outcome β) := (h.ne_panic p e).elim

/-- `Ends.step` inside a reader that counts scripts -/
theorem Ends.stepC {α β} {Q : α → Prop} {x : Outcome α} {C : Prop} {Q' : β → Prop} {m : Outcome β}
    (hx : Ends anmReadErrs Q x) (hok : ∀ a, x = .ok a → Q a → EndsC C Q' m)
    (herr : ∀ c, x = .err c → m = .err c := by exact fun c hc => by rw [hc]) : EndsC C Q' m := by
  cases h : x with
  | ok a => exact hok a h (hx.of_ok h)
  | err c => rw [herr c h]; exact hx.errC h
  | panic p => exact (hx.ne_panic p h).elim

theorem readAnmScriptsAux_ends (f : Fmt) (file : Bytes) (pos : Nat) (allOffs : List Nat)
    (tab : List (Nat × Nat)) (idx : Nat) (acc : List (Nat × AnmScript)) (hacc : ∀ s ∈ acc, sizeSum f s.2.instrs ≤ file.length) :
      EndsC (4294967295 < idx + tab.length)
        (fun res => res.length = acc.length + tab.length ∧ ∀ s ∈ res, sizeSum f s.2.instrs ≤ file.length)
        (readAnmScriptsAux f file pos allOffs tab idx acc) := by
  fun_induction readAnmScriptsAux f file pos allOffs tab idx acc with
  | case1 idx acc => exact ⟨by simp, fun s hs => hacc s (List.mem_reverse.1 hs)⟩
  | case2 id off rest idx acc hge => exact ⟨rfl, Nat.lt_of_le_of_lt hge (Nat.lt_add_of_pos_right (Nat.succ_pos _))⟩
  | case3 id off rest idx acc hge c hq => exact ((readInstrsEnd_ends ..).mono (instrReadErrs_sub _) fun _ h => h).errC hq
  | case4 id off rest idx acc hge p hq => exact ((readInstrsEnd_ends ..).mono (instrReadErrs_sub _) fun _ h => h).panicC hq
  | case5 id off rest idx acc hge is hi ih =>
    have hq := Nat.le_trans ((readInstrsEnd_ends ..).of_ok hi) (seek_length_le file (pos + off))
    refine (ih (List.forall_mem_cons.2 ⟨hq, hacc⟩)).mono
      (fun hc => by rw [List.length_cons, Nat.add_comm rest.length, ← Nat.add_assoc]; exact hc) fun res hr => ?_
    exact ⟨hr.1.trans (by rw [List.length_cons, List.length_cons, Nat.add_assoc, Nat.add_comm 1]), hr.2⟩

theorem readTexture_ends (wi : Bool) (bs : Bytes) :
    Ends anmReadErrs (fun p => ∀ d, p.2 = some d → d.length + 16 ≤ bs.length) (readTexture wi bs) := by
  unfold readTexture
  split
  · exact eofErr_mem_anm
  · next h1 =>
    split
    · exact badMagic_mem_anm
    · split
      · exact eofErr_mem_anm
      · next vs r2 h2 =>
        split
        · split
          · exact eofErr_mem_anm
          · next h3 =>
            intro d hd
            cases hd
            obtain ⟨h3l, h3d⟩ := rdBytes_len h3
            -- 4 bytes of magic, 12 of fields, then the data
            rw [(rdBytes_len h1).1, (rdFields_len h2).1, h3l, h3d, Nat.add_assoc, Nat.add_assoc]
            exact Nat.le_add_left _ _
        · exact fun d hd => nomatch hd

theorem readAnmPath2_ends (decOk : Bytes → Bool) (file : Bytes) (pos sec : Nat) :
    Ends anmReadErrs (fun p => ∀ s, p = some s → s.length ≤ file.length) (readAnmPath2 decOk file pos sec) := by
  unfold readAnmPath2
  refine .ite (fun _ s hs => nomatch hs) fun _ => ?_
  refine (readAnmStr_ends decOk (seek file (pos + sec))).step fun s' hq h => ?_
  rw [hq]
  intro s hs
  cases hs
  exact Nat.le_trans h (seek_length_le file _)

theorem readAnmTexture_ends (wi : Bool) (file : Bytes) (pos thtx : Nat) :
    Ends anmReadErrs (fun p => ∀ d, p.2 = some d → d.length + 16 ≤ file.length) (readAnmTexture wi file pos thtx) := by
  unfold readAnmTexture
  refine .ite (fun _ d hd => nomatch hd) fun _ => ?_
  refine (readTexture_ends wi (seek file (pos + thtx))).step fun t hq h => ?_
  rw [hq]
  intro d hd
  exact Nat.le_trans (h d hd) (seek_length_le file (pos + thtx))

/-- what a successfully read entry says about the input: its header lies inside the file, and every
part of it is bounded by the file -/
structure EntryBound (f : Fmt) (file : Bytes) (pos : Nat) (e : AnmEntry) : Prop where
  header : pos + 64 ≤ file.length
  path : e.path.length ≤ file.length
  path2 : ∀ p, e.path2 = some p → p.length ≤ file.length
  sprites : 4 * e.sprites.length + 64 ≤ file.length
  scripts : 8 * e.scripts.length + 64 ≤ file.length
  script : ∀ s ∈ e.scripts, sizeSum f s.2.instrs ≤ file.length
  data : ∀ d, e.texData = some d → d.length + 16 ≤ file.length

/-- when `read_entry` reaches the script counter, the entry's header and script table lie inside the file, so the counter had
already reached `u32::MAX` minus an eighth of the file length -/
theorem readAnmEntry_ends (decOk : Bytes → Bool) (fmt : AnmFmt) (wi : Bool) (file : Bytes) (pos idx : Nat) :
    EndsC (pos + 64 ≤ file.length ∧ 8 * 4294967295 + 64 < 8 * idx + file.length) (fun p => EntryBound fmt.instr file pos p.1)
      (readAnmEntry decOk fmt wi file pos idx) := by
  unfold readAnmEntry
  refine (readAnmHeader_ends fmt (seek file pos)).stepC fun ⟨hd, r⟩ hq hH => ?_
  rw [hq]; dsimp only
  have h1 : (seek file pos).length = r.length + 64 := hH
  rw [seek, List.length_drop] at h1
  obtain ⟨hhdr, hr⟩ : pos + 64 ≤ file.length ∧ r.length + 64 ≤ file.length := by omega
  clear h1
  split
  · exact eofErr_mem_anm
  next so r2 hso =>
  have h2 := rdU32s_len hso
  split
  · exact eofErr_mem_anm
  next st r3 hst =>
  have h3 := rdScriptTableAux_len _ _ _ _ _ hst
  rw [h2.1, h3.1] at hr
  have hso4 : 4 * so.length + 64 ≤ file.length :=
    h2.2 ▸ Nat.le_trans (Nat.add_le_add_right (Nat.le_add_left _ _) _) hr
  have hst8 : 8 * st.length + 64 ≤ file.length := by
    rw [h3.2, List.length_nil, Nat.zero_add]
    exact Nat.le_trans (Nat.add_le_add_right (Nat.le_trans (Nat.le_add_left _ _) (Nat.le_add_right _ _)) _) hr
  clear h2 h3 hr
  refine (readAnmStr_ends decOk (seek file (pos + hd.nameOffset))).stepC fun path hpath hP => ?_
  rw [hpath]; dsimp only
  refine (readAnmPath2_ends decOk file pos hd.secNameOffset).stepC fun path2 hpath2 hP2 => ?_
  rw [hpath2]; dsimp only
  refine (readSpritesAux_ends file pos so []).stepC fun sprites hsprites hS => ?_
  rw [hsprites]; dsimp only
  have hSc := readAnmScriptsAux_ends fmt.instr file pos (anmAllOffsets hd so st) st idx [] (fun s hs => nomatch hs)
  split
  · next hq => exact hSc.errIn _ hq
  · next hq => exact ⟨(hSc.of_panic hq).1, hhdr,
      Nat.lt_of_lt_of_le (Nat.add_lt_add_right (Nat.mul_lt_mul_of_pos_left (hSc.of_panic hq).2 (by decide)) 64)
        (by rw [Nat.mul_add, Nat.add_assoc]; exact Nat.add_le_add_left hst8 _)⟩
  next scripts hscripts =>
  split
  · exact anmInconsistent_mem_anm
  refine (readAnmTexture_ends wi file pos hd.thtxOffset).stepC fun ⟨tm, td⟩ htex hT => ?_
  rw [htex]
  have hsp : sprites.length ≤ so.length := by simpa using hS
  obtain ⟨hsl, hsall⟩ := hSc.of_ok hscripts
  rw [List.length_nil, Nat.zero_add] at hsl
  exact ⟨hhdr, Nat.le_trans hP (seek_length_le file _), hP2,
    Nat.le_trans (Nat.add_le_add_right (Nat.mul_le_mul_left 4 hsp) 64) hso4, hsl ▸ hst8, hsall, hT⟩

theorem readAnmEntry_ok {decOk : Bytes → Bool} {fmt : AnmFmt} {wi : Bool} {file : Bytes} {pos idx : Nat} {e : AnmEntry} {next : Nat}
    (h : readAnmEntry decOk fmt wi file pos idx = .ok (e, next)) : EntryBound fmt.instr file pos e :=
  (readAnmEntry_ends decOk fmt wi file pos idx).of_ok h

theorem readAnmEntry_scripts_length {decOk : Bytes → Bool} {fmt : AnmFmt} {wi : Bool} {file : Bytes} {pos idx : Nat} {e : AnmEntry} {next : Nat}
    (h : readAnmEntry decOk fmt wi file pos idx = .ok (e, next)) : 8 * e.scripts.length + 64 ≤ file.length :=
  (readAnmEntry_ok h).scripts

/-- `hJ`: every entry before `pos` started at its own offset and had at most `len / 8` scripts; with it the counter panic
implies `8 * (2^32 - 1) < len * len` -/
theorem readAnmLoop_ends (decOk : Bytes → Bool) (fmt : AnmFmt) (wi : Bool) (file : Bytes)
    (fuel : Nat) (seen : List Nat) (pos idx : Nat) (acc : List AnmEntry) (hfuel : 0 < fuel) (hlen : file.length < fuel + pos)
    (hseen : ∀ s ∈ seen, s < pos) (hJ : 8 * idx ≤ pos * file.length) (hacc : acc.length ≤ pos)
    (hall : ∀ e ∈ acc, ∃ q, EntryBound fmt.instr file q e) :
    EndsC (8 * 4294967295 < file.length * file.length)
      (fun res => res.length + 63 ≤ file.length ∧ ∀ e ∈ res, ∃ q, EntryBound fmt.instr file q e)
      (readAnmLoop decOk fmt wi file fuel seen pos idx acc) := by
  fun_induction readAnmLoop decOk fmt wi file fuel seen pos idx acc with
  | case1 => exact absurd hfuel (Nat.lt_irrefl 0)
  | case2 fuel seen pos idx acc hc => exact absurd (hseen _ (List.contains_iff_mem.1 hc)) (Nat.lt_irrefl _)
  | case3 fuel seen pos idx acc hc c hq => exact (readAnmEntry_ends ..).errIn _ hq
  | case4 fuel seen pos idx acc hc p hq =>
    obtain ⟨hp, hpos, hcount⟩ := (readAnmEntry_ends ..).of_panic hq
    have hmul : pos * file.length + file.length ≤ file.length * file.length := by
      rw [← Nat.succ_mul]
      exact Nat.mul_le_mul_right _ (Nat.le_trans (Nat.add_le_add_left (show 1 ≤ 64 by decide) pos) hpos)
    exact ⟨hp, Nat.lt_of_lt_of_le (Nat.lt_of_le_of_lt (Nat.le_add_right _ 64) hcount)
      (Nat.le_trans (Nat.add_le_add_right hJ _) hmul)⟩
  | case5 fuel seen pos idx acc hc e hq =>
    have hb := readAnmEntry_ok hq
    refine ⟨?_, fun e' he' => List.forall_mem_cons.2 ⟨⟨pos, hb⟩, hall⟩ e' (List.mem_reverse.1 he')⟩
    rw [List.length_reverse, List.length_cons, Nat.add_assoc]
    exact Nat.le_trans (Nat.add_le_add_right hacc 64) hb.header
  | case6 fuel seen pos idx acc hc e next hq hnext ih =>
    have hb := readAnmEntry_ok hq
    have hnext : 1 ≤ next := Nat.pos_of_ne_zero hnext
    -- the header of this entry lies inside the file, so more than 63 units of fuel are left
    have h64 : pos + 64 < pos + (fuel + 1) := Nat.add_comm (fuel + 1) pos ▸ Nat.lt_of_le_of_lt hb.header hlen
    have hstep : fuel + 1 + pos ≤ fuel + (pos + next) := by
      rw [Nat.add_assoc, Nat.add_comm 1 pos]
      exact Nat.add_le_add_left (Nat.add_le_add_left hnext pos) fuel
    refine ih (Nat.lt_of_succ_lt_succ (Nat.lt_trans (by decide) (Nat.lt_of_add_lt_add_left h64))) (Nat.lt_of_lt_of_le hlen hstep)
      (List.forall_mem_cons.2 ⟨Nat.lt_add_of_pos_right hnext, fun s hs => Nat.lt_of_lt_of_le (hseen s hs) (Nat.le_add_right _ _)⟩)
      ?_ (Nat.add_le_add hacc hnext) (List.forall_mem_cons.2 ⟨⟨pos, hb⟩, hall⟩)
    -- the scripts of this entry took 8 bytes of table each, and the entry starts at least one position further
    rw [Nat.add_mul, Nat.mul_add]
    exact Nat.add_le_add hJ (Nat.le_trans (Nat.le_trans (Nat.le_add_right _ 64) hb.scripts) (Nat.le_mul_of_pos_left _ hnext))

theorem stripSprites_length : ∀ (l : List (Nat × Sprite)) (auto : UInt32), (stripSprites auto l).1.length = l.length := by
  intro l
  induction l with
  | nil => intro _; rfl
  | cons x xs ih => intro auto; obtain ⟨n, s⟩ := x; simp only [stripSprites, List.length_cons, ih]

theorem stripEntries_bound (f : Fmt) (file : Bytes) (es : List AnmEntry) (auto : UInt32)
    (hall : ∀ e ∈ es, ∃ q, EntryBound f file q e) : ∀ e ∈ stripEntries auto es, ∃ q, EntryBound f file q e := by
  fun_induction stripEntries auto es with
  | case1 => exact fun e he => nomatch he
  | case2 auto x xs s ih =>
    obtain ⟨⟨q, hb⟩, hxs⟩ := List.forall_mem_cons.1 hall
    exact List.forall_mem_cons.2 ⟨⟨q, { hb with sprites := by simp only [s, stripSprites_length]; exact hb.sprites }⟩, ih hxs⟩

theorem stripEntries_length : ∀ (es : List AnmEntry) (auto : UInt32), (stripEntries auto es).length = es.length := by
  intro es
  induction es with
  | nil => intro _; rfl
  | cons x xs ih => intro auto; simp only [stripEntries, List.length_cons, ih]

theorem anm_read_ends (decOk : Bytes → Bool) (fmt : AnmFmt) (wi : Bool) (bs : Bytes) :
    EndsC (8 * 4294967295 < bs.length * bs.length)
      (fun f => f.entries.length + 63 ≤ bs.length ∧ ∀ e ∈ f.entries, ∃ q, EntryBound fmt.instr bs q e)
      (readAnm decOk fmt wi bs) := by
  unfold readAnm
  have h := readAnmLoop_ends decOk fmt wi bs (bs.length + 1) [] 0 0 [] (Nat.succ_pos _) (Nat.lt_succ_self _) (fun s hs => nomatch hs) (by simp)
    (Nat.le_refl _) (fun e he => nomatch he)
  split
  · next hq => exact h.errIn _ hq
  · next hq => exact h.of_panic hq
  · next es hq =>
    obtain ⟨hl, hall⟩ := h.of_ok hq
    exact ⟨by simp only [stripEntries_length]; exact hl, stripEntries_bound _ _ _ _ hall⟩

/-- **ANM: the only panic arm `read_anm` can reach is the `u32` script counter** (`*next_script_index += 1`),
for EVERY byte string, every version, with and without image data - and only on an input of at least
185 364 bytes (`8 * (2^32 - 1) < len * len`). -/
theorem anm_read_panic_only_counter (decOk : Bytes → Bool) (fmt : AnmFmt) (wi : Bool) (bs : Bytes) (p : String)
    (h : readAnm decOk fmt wi bs = .panic p) : p = anmCounterSite ∧ 8 * 4294967295 < bs.length * bs.length :=
  (anm_read_ends decOk fmt wi bs).of_panic h

/-- the unconditional statement; what is missing: a proof that no file makes the reader parse
2^32 - 1 scripts (each needs 8 bytes of script table in its entry, but entries may overlap) -/
def anm_read_no_panic_full : Prop :=
  ∀ (decOk : Bytes → Bool) (fmt : AnmFmt) (wi : Bool) (bs : Bytes), (readAnm decOk fmt wi bs).isPanic = false

/-- **ANM: no panic for any byte string of at most 185 363 bytes.** -/
theorem anm_read_no_panic_partial (decOk : Bytes → Bool) (fmt : AnmFmt) (wi : Bool) (bs : Bytes)
    (hlen : bs.length * bs.length ≤ 8 * 4294967295) : (readAnm decOk fmt wi bs).isPanic = false := by
  cases h : readAnm decOk fmt wi bs with
  | ok f => rfl
  | err c => rfl
  | panic p =>
    exact absurd (anm_read_panic_only_counter decOk fmt wi bs p h).2 (Nat.not_lt.2 hlen)

theorem anm_read_err (decOk : Bytes → Bool) (fmt : AnmFmt) (wi : Bool) (bs : Bytes) :
    ErrIn anmReadErrs (readAnm decOk fmt wi bs) := (anm_read_ends decOk fmt wi bs).errIn

/-- **ANM: every byte string gives a file, one of six diagnostics, or the counter panic.** -/
theorem anm_read_total (decOk : Bytes → Bool) (fmt : AnmFmt) (wi : Bool) (bs : Bytes) :
    (∃ f, readAnm decOk fmt wi bs = .ok f) ∨ (∃ c ∈ anmReadErrs, readAnm decOk fmt wi bs = .err c) ∨
      (readAnm decOk fmt wi bs = .panic anmCounterSite ∧ 8 * 4294967295 < bs.length * bs.length) := by
  cases h : readAnm decOk fmt wi bs with
  | ok f => exact .inl ⟨f, rfl⟩
  | err c => exact .inr (.inl ⟨c, anm_read_err decOk fmt wi bs c h, rfl⟩)
  | panic p =>
    obtain ⟨hp, hl⟩ := anm_read_panic_only_counter decOk fmt wi bs p h
    subst hp
    exact .inr (.inr ⟨rfl, hl⟩)

/-- **Entry-chain termination**: the fuel of the entry loop (input length + 1) is never exhausted. -/
theorem anm_entry_chain_terminates (decOk : Bytes → Bool) (fmt : AnmFmt) (wi : Bool) (bs : Bytes) :
    readAnm decOk fmt wi bs ≠ .err "fuel" := by
  intro h
  have := anm_read_err decOk fmt wi bs _ h
  revert this
  decide +kernel

/-- **The cycle check of `read_entry` is dead code**: "loop in entries" is never reported, because
`next_offset` is an unsigned offset from the current entry - the chain can only move forward. -/
theorem anm_entry_loop_check_dead (decOk : Bytes → Bool) (fmt : AnmFmt) (wi : Bool) (bs : Bytes) :
    readAnm decOk fmt wi bs ≠ .err anmLoop := by
  intro h
  have := anm_read_err decOk fmt wi bs _ h
  revert this
  decide +kernel

/-- the linear bound, with the constants the search oracle applies to the heap of the real reader (64 x input + 64 MiB):
FALSE (`anm_read_alloc_bound_full_false` in `Props/C16AnmAmpl.lean`) -/
def anm_read_alloc_bound_full : Prop :=
  ∀ (decOk : Bytes → Bool) (fmt : AnmFmt) (wi : Bool) (bs : Bytes) (f : AnmFile),
    readAnm decOk fmt wi bs = .ok f → anmCost fmt f ≤ 64 * bs.length + 67108864

/-- **ANM: what `read_anm` builds, part by part**: at most `len - 63` entries (every entry has its
64-byte header inside the file, at its own offset), and in every entry the path, the sprite table
(4 bytes per sprite), the script table (8 bytes per script), every single script and the texture data
are bounded by the input length.  The product of these bounds is what an input can make the reader
allocate: see `anm_alloc_amplification_texture` / `_script`. -/
theorem anm_read_alloc_bound_partial (decOk : Bytes → Bool) (fmt : AnmFmt) (wi : Bool) (bs : Bytes) (f : AnmFile)
    (h : readAnm decOk fmt wi bs = .ok f) :
    f.entries.length + 63 ≤ bs.length ∧ ∀ e ∈ f.entries, ∃ q, EntryBound fmt.instr bs q e :=
  (anm_read_ends decOk fmt wi bs).of_ok h

end TruthModel.C16
