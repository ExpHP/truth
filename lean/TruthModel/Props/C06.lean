import TruthModel.Lemmas.BlocksMain
import TruthModel.Lemmas.BlocksRun
/- C06 — turning blocks into labels and jumps preserves behaviour. -/
namespace TruthModel.C06
open TruthModel.Blocks

/-- The property as stated (no side condition but `st.time ≤ 0`, which the start of a script meets):
every terminating run of the reference interpreter (`Big none` = everything `AstVm::_run` does) on a script
body is a run of the flat machine on the desugared body, with the same instruction log, time, real time and registers.

**False of the unchanged code** (three families of inputs, the three C06 entries of
`known_findings.json`): `times(n)` with `n < 0` (the VM's
`for _ in 0..n` runs zero times, the count jump wraps around), `times(C = ..)` whose counter is
not positive at a decrement under the `--C > 0` count jump, and an absolute time label that goes
backwards (the VM resets `time` at block boundaries, the jumps do not). -/
def C06_full : Prop :=
  ∀ (k : CJ) (prog : List Stmt) (st st' : St) (tm : Nat → Int32),
    st.time ≤ 0 → Big none (.blk 0 prog) st (.done st') →
    ∃ tm', Exec (desugarA k prog) 0 ⟨st, tm⟩ (desugarA k prog).length ⟨st', tm'⟩

/-- **Proved part**: the whole statement language (time labels anywhere, free blocks, `if`/`unless`
chains, `loop`, `while`, `do-while`, `times` with and without counter under both count-jump
flavours, `break` at any depth), every initial state with `st.time ≤ 0` (as in `C06_full`) — under two more
hypotheses, which exclude the three families above:

* `MonoL 0 prog` excludes the third: no time label makes the lexical time go backwards;
* `Big (some k)` excludes the first two: no negative `times` count, and under `--C > 0` no counter
  that is not positive after a decrement (rules `timesNeg`, `againTimesS`).

The flat run touches only generated temporaries (`tm` to `tm'`); the final state is literally `st'`. -/
theorem desugar_sound_partial (k : CJ) (prog : List Stmt) (st st' : St) (tm : Nat → Int32)
    (hmono : MonoL 0 prog) (ht : st.time ≤ 0) (h : Big (some k) (.blk 0 prog) st (.done st')) :
    ∃ tm', Exec (desugarA k prog) 0 ⟨st, tm⟩ (desugarA k prog).length ⟨st', tm'⟩ := by
  obtain ⟨tm', _, hx⟩ := sim_body k prog h hmono ht tm
  exact ⟨tm', hx.toExec_whole⟩

/-- The `brk` outcome at the top: for a body that ends in a `break` outside every loop, the flat code runs
to the `goto` of that `break` and, IF its target resolves, to where it lands.  `desugarA` starts both the
`break` target and the gensym counter at 0, so the target is `label 0`: absent, or the first generated label
(`@loop_end#` of the first loop, the end label of the first chain).  Such programs are rejected before this pass. -/
theorem desugar_sound_break (k : CJ) (prog : List Stmt) (st st' : St) (tm : Nat → Int32)
    (hmono : MonoL 0 prog) (ht : st.time ≤ 0) (h : Big (some k) (.blk 0 prog) st (.brk st')) :
    ∃ tm', ∀ J fsJ, jumpS (desugarA k prog) 0 ⟨st', tm'⟩ = some (J, fsJ) →
      ExecS (desugarA k prog) (desugarA k prog) ⟨st, tm⟩ J fsJ := by
  obtain ⟨tm', _, hx⟩ := sim_body k prog h hmono ht tm
  exact ⟨tm', hx⟩

/-- The times used above are the ones the real pipeline computes: the time pass (`annot`, the model
of `time_and_difficulty::run`) over the statement list `desugar k prog` (the object compared with
`passes::desugar_blocks::run` on every run) gives `desugarA k prog`. -/
theorem desugar_times (k : CJ) (prog : List Stmt) : annot 0 (desugar k prog) = desugarA k prog :=
  (timed_bookend (timedL k 0 0 0 prog)).1

theorem desugar_sound_pipeline_partial (k : CJ) (prog : List Stmt) (st st' : St) (tm : Nat → Int32)
    (hmono : MonoL 0 prog) (ht : st.time ≤ 0) (h : Big (some k) (.blk 0 prog) st (.done st')) :
    ∃ tm', Exec (annot 0 (desugar k prog)) 0 ⟨st, tm⟩ (annot 0 (desugar k prog)).length ⟨st', tm'⟩ := by
  rw [desugar_times]; exact desugar_sound_partial k prog st st' tm hmono ht h

/-- The executable interpreter `runS` — the function whose output is compared with the real
`AstVm` (time, real time, instruction log, registers, iteration limit, panics) on every run —
refines the relation `Big none` in which `C06_full` is stated. -/
theorem runS_sound (max : Nat) (prog : List Stmt) (regs : Nat → Int32) (st' : St) (it' : Nat)
    (h : runS max prog regs = .done st' it') : Big none (.blk 0 prog) (St.init regs) (.done st') :=
  runSM_sound none max prog regs st' it' h

/-- End to end on the executable side: if the interpreter with the two guards of mode `some k`
terminates normally on a program whose time labels never go backwards, the flat machine runs the
desugared program (statement list -> time pass) from the same registers to the same state. -/
theorem desugar_sound_exec_partial (k : CJ) (max : Nat) (prog : List Stmt) (regs : Nat → Int32) (st' : St)
    (it' : Nat) (tm : Nat → Int32) (hmono : MonoL 0 prog) (h : runSM (some k) max prog regs = .done st' it') :
    ∃ tm', Exec (annot 0 (desugar k prog)) 0 ⟨St.init regs, tm⟩ (annot 0 (desugar k prog)).length ⟨st', tm'⟩ :=
  desugar_sound_pipeline_partial k prog _ st' tm hmono (Int.le_refl _) (runSM_sound (some k) max prog regs st' it' h)

/-- Generated labels are unique: every label is defined at most once in the output (so that
"the first label of that name" is *the* label), for the whole statement language. -/
theorem desugar_labels_unique (k : CJ) (prog : List Stmt) : (labelsOf (desugarA k prog)).Nodup :=
  (freshB k 0 0 0 prog).nodup

/-- The output is flat.  Its statements are of type `FStmt`, which has no block-carrying
constructor, and nothing is lost or reordered: the calls and time labels of the output are exactly
the calls and time labels of the source in textual order (`keepL`), for the whole language. -/
theorem desugar_flat (k : CJ) (prog : List Stmt) :
    (desugar k prog).filter FStmt.isCallOrTime = keepL prog :=
  (kept_bookend 0 (endL 0 prog) (desugarL k 0 0 0 prog)).trans (keptL k 0 0 0 prog)

def wNeg : List Stmt := [.times none (.lit (-1)) [.call 11 [.lit 1]]]

theorem wNeg_code : desugarA .gt wNeg =
    [(0, .nop), (0, .decl 1), (0, .assign (.tmp 1) (.lit (-1))), (0, .label 3), (0, .nop), (0, .call 11 [.lit 1]), (0, .nop),
     (0, .cntjmp .gt (.tmp 1) 3), (0, .label 2), (0, .scopeEnd 1), (0, .label 0), (0, .nop)] := by
  rfl

/-- **The property as stated is false** (model level; the same input is replayed on the real
implementation by the harness on every run, `known-discrepancy-witness`): for
`times(-1) { ins_11(1); }` the reference interpreter logs nothing, the desugared program under
the `--C > 0` count jump logs the call once. -/
theorem C06_full_false : ¬ C06_full := by
  intro h
  have hbig : Big none (.blk 0 wNeg) (St.init fun _ => 0) (.done ((St.init fun _ => 0).setTime 0)) := by
    refine Big.blk 0 wNeg _ (St.init fun _ => 0) ((St.init fun _ => 0).setTime 0) _ (wait_self rfl) ?_ (wait_self rfl)
    exact Big.timesNeg 0 _ _ [] _ (St.init fun _ => 0) _ rfl (wait_self rfl) (by decide) (Big.nil _ _)
  obtain ⟨tm', hex⟩ := h .gt wNeg _ _ (fun _ => 0) (Int.le_refl _) hbig
  have hrun : ∃ fs2, Exec (desugarA .gt wNeg) 0 ⟨St.init fun _ => 0, fun _ => 0⟩ 12 fs2 ∧ fs2.st.log.length = 1 := by
    rw [wNeg_code]
    refine ⟨_, Exec.step _ _ _ _ _ _ rfl (Exec.step _ _ _ _ _ _ rfl (Exec.step _ _ _ _ _ _ rfl (Exec.step _ _ _ _ _ _ rfl
      (Exec.step _ _ _ _ _ _ rfl (Exec.step _ _ _ _ _ _ rfl (Exec.step _ _ _ _ _ _ rfl (Exec.step _ _ _ _ _ _ rfl
      (Exec.step _ _ _ _ _ _ rfl (Exec.step _ _ _ _ _ _ rfl (Exec.step _ _ _ _ _ _ rfl (Exec.step _ _ _ _ _ _ rfl
      (Exec.refl _ _)))))))))))), rfl⟩
  obtain ⟨fs2, hrun, hlen⟩ := hrun
  have := (Exec.det_terminal hex hrun rfl rfl).2
  rw [← this] at hlen
  simp [St.init, St.setTime] at hlen

/-! ### non-vacuity: a program with a taken `if`, a time label and a call satisfies the hypotheses -/

def exProg : List Stmt := [.cond (.elif true (.lit 1) [.trel 5, .call 11 [.lit 7]] .none)]

theorem exProg_mono : MonoL 0 exProg := by
  simp [exProg, MonoL, MonoS, MonoC, wrap32]

/-- a decidable property of the state a concrete run ends in, by evaluating the run -/
theorem done_of_decide {r : Res} {Q : St → Prop} [DecidablePred Q] :
    (match r with | .done st _ => decide (Q st) | _ => false) = true →
    (match r with | .done st _ => Q st | _ => False) := by
  cases r with
  | done st it => exact of_decide_eq_true
  | _ => exact fun h => nomatch h

theorem exProg_runs : (match runSM (some .ne) 20 exProg (fun _ => 0) with
    | .done st _ => st.log.length = 1 ∧ st.rtime = 5
    | _ => False) :=
  done_of_decide (r := runSM (some .ne) 20 exProg fun _ => 0) (Q := fun st => st.log.length = 1 ∧ st.rtime = 5)
    (by decide +kernel)

example : ∃ st' tm', st'.log.length = 1 ∧ st'.rtime = 5 ∧
    Exec (annot 0 (desugar .ne exProg)) 0 ⟨St.init (fun _ => 0), fun _ => 0⟩
      (annot 0 (desugar .ne exProg)).length ⟨st', tm'⟩ := by
  have h := exProg_runs
  split at h
  · rename_i st it heq
    obtain ⟨tm', hx⟩ := desugar_sound_exec_partial .ne 20 exProg _ st it (fun _ => 0) exProg_mono heq
    exact ⟨st, tm', h.1, h.2, hx⟩
  · exact h.elim

example : (labelsOf (desugarA .gt wNeg)) = [3, 2, 0] := by rw [wNeg_code]; rfl

end TruthModel.C06
