import TruthModel.Model.MsgTable
/-
C18, MSG script table: the `indices` the debug info gives for a script are exactly the entries of the
written table that point at that script — for every sparse table (gaps, `default`, any `table_len`).
-/
namespace TruthModel.C18
open TruthModel.MsgTable

theorem mem_indicesFrom (n : Nat) (es : List Entry) (k i : Nat) :
    i ∈ indicesFrom n k es ↔ ∃ j, i = k + j ∧ ∃ h : j < es.length, (es[j]).script = some n := by
  fun_induction indicesFrom n k es with
  | case1 k => exact ⟨nofun, fun ⟨j, _, hj, _⟩ => nomatch hj⟩
  | case2 k e es he ih =>
    rw [List.mem_cons, ih]
    constructor
    · rintro (rfl | ⟨j, rfl, hj, hs⟩)
      · exact ⟨0, rfl, Nat.zero_lt_succ _, he⟩
      · exact ⟨j + 1, Nat.add_right_comm k 1 j, Nat.succ_lt_succ hj, hs⟩
    · rintro ⟨j, rfl, hj, hs⟩
      cases j with
      | zero => exact .inl rfl
      | succ j => exact .inr ⟨j, (Nat.add_right_comm k 1 j).symm, Nat.lt_of_succ_lt_succ hj, hs⟩
  | case3 k e es he ih =>
    rw [ih]
    constructor
    · rintro ⟨j, rfl, hj, hs⟩; exact ⟨j + 1, Nat.add_right_comm k 1 j, Nat.succ_lt_succ hj, hs⟩
    · rintro ⟨j, rfl, hj, hs⟩
      cases j with
      | zero => exact absurd hs he
      | succ j => exact ⟨j, (Nat.add_right_comm k 1 j).symm, Nat.lt_of_succ_lt_succ hj, hs⟩

theorem mem_indicesOf (dense : List Entry) (n i : Nat) :
    i ∈ indicesOf dense n ↔ ∃ h : i < dense.length, (dense[i]).script = some n := by
  unfold indicesOf
  rw [mem_indicesFrom]
  constructor
  · rintro ⟨j, rfl, hj, hs⟩; exact ⟨by simpa using hj, by simpa using hs⟩
  · rintro ⟨h, hs⟩; exact ⟨i, by simp, h, hs⟩

theorem indicesFrom_sorted (n : Nat) (es : List Entry) (k : Nat) : (indicesFrom n k es).Pairwise (· < ·) := by
  induction es generalizing k with
  | nil => simp [indicesFrom]
  | cons e es ih =>
    unfold indicesFrom
    split
    · refine List.pairwise_cons.mpr ⟨?_, ih (k + 1)⟩
      intro i hi
      obtain ⟨j, rfl, _⟩ := (mem_indicesFrom n es (k + 1) i).mp hi
      exact Nat.le_add_right _ _
    · exact ih (k + 1)

theorem indices_sorted (dense : List Entry) (n : Nat) : (indicesOf dense n).Pairwise (· < ·) :=
  indicesFrom_sorted n dense 0

@[simp] theorem densify_length (s : Sparse) : s.densify.length = s.len := by simp [Sparse.densify]

theorem densify_get (s : Sparse) (i : Nat) (h : i < s.densify.length) : s.densify[i] = s.entryAt i := by
  simp [Sparse.densify]

@[simp] theorem written_length (off : Nat → Nat) (dense : List Entry) : (written off dense).length = dense.length := by
  simp [written]

/-- **The property for MSG.**  Script offsets are non-zero and different scripts start at different offsets
(every script is written after the table, one after the other, and none is empty: each has at least its
end marker); then the indices the debug info lists for script `n` are exactly the entries of the
*written* table whose offset is the offset of `n`. -/
theorem msg_export_indices (off : Nat → Nat) (hz : ∀ n, off n ≠ 0) (hinj : ∀ a b, off a = off b → a = b)
    (s : Sparse) (n i : Nat) :
    i ∈ indicesOf s.densify n ↔ ∃ h : i < (written off s.densify).length, ((written off s.densify)[i]).1 = off n := by
  rw [mem_indicesOf]
  constructor
  · rintro ⟨h, hs⟩
    refine ⟨by simpa using h, ?_⟩
    simp [written, hs]
  · rintro ⟨h, hw⟩
    have h' : i < s.densify.length := by simpa using h
    refine ⟨h', ?_⟩
    simp only [written, List.getElem_map] at hw
    cases hsc : (s.densify[i]).script with
    | none => rw [hsc] at hw; exact absurd hw.symm (hz n)
    | some m => rw [hsc] at hw; rw [hinj m n hw]

/-- an entry filled in from a named `default` is listed (what a table walked in its sparse form would miss) -/
theorem default_entry_listed (s : Sparse) (n i : Nat) (hi : i < s.len) (hgap : s.table.lookup i = none)
    (hd : s.default.script = some n) : i ∈ indicesOf s.densify n := by
  rw [mem_indicesOf]
  refine ⟨by simpa using hi, ?_⟩
  rw [densify_get]
  simp [Sparse.entryAt, hgap, hd]

theorem entry_beyond_len_not_listed (s : Sparse) (n i : Nat) (hi : s.len ≤ i) : i ∉ indicesOf s.densify n := by
  rw [mem_indicesOf]
  rintro ⟨h, _⟩
  exact Nat.not_lt.mpr hi (by simpa using h)

/-- every script of the source that the table names is exported, with all the entries that name it -/
theorem exports_complete (dense : List Entry) (scripts : List Nat) (n i : Nat) (hn : n ∈ scripts)
    (h : i ∈ indicesOf dense n) : (n, indicesOf dense n) ∈ exports dense scripts := by
  unfold exports
  rw [List.mem_filterMap]
  refine ⟨n, hn, ?_⟩
  cases hx : indicesOf dense n with
  | nil => rw [hx] at h; cases h
  | cons a as => rfl

/-- an exported entry is a script of the source with the non-empty list of the entries that name it -/
theorem exports_sound (dense : List Entry) (scripts : List Nat) (n : Nat) (is : List Nat)
    (h : (n, is) ∈ exports dense scripts) : n ∈ scripts ∧ is = indicesOf dense n ∧ is ≠ [] := by
  unfold exports at h
  rw [List.mem_filterMap] at h
  obtain ⟨m, hm, hx⟩ := h
  cases hi : indicesOf dense m with
  | nil => rw [hi] at hx; cases hx
  | cons a as =>
    rw [hi] at hx
    simp only [Option.some.injEq, Prod.mk.injEq] at hx
    obtain ⟨rfl, rfl⟩ := hx
    exact ⟨hm, hi.symm, by simp⟩

theorem implicitLen_covers (t : List (Nat × Entry)) (k : Nat) (e : Entry) (h : (k, e) ∈ t) : k < implicitLen t := by
  induction t with
  | nil => cases h
  | cons kv rest ih =>
    unfold implicitLen
    rcases List.mem_cons.mp h with rfl | h
    · exact Nat.lt_of_lt_of_le (Nat.lt_succ_self _) (Nat.le_max_left _ _)
    · exact Nat.lt_of_lt_of_le (ih h) (Nat.le_max_right _ _)

/-- non-vacuity: a table with a gap filled by a named default, cut by `table_len`, under offsets 100 + 10 n -/
example :
    let s : Sparse := { tableLen := some 5, table := [(0, ⟨some 0, 0⟩), (2, ⟨some 1, 0⟩), (7, ⟨some 1, 0⟩)], default := ⟨some 0, 0⟩ }
    indicesOf s.densify 0 = [0, 1, 3, 4] ∧ indicesOf s.densify 1 = [2] ∧
    (written (fun n => 100 + 10 * n) s.densify).map (·.1) = [100, 100, 110, 100, 100] ∧
    exports s.densify [0, 1, 2] = [(0, [0, 1, 3, 4]), (1, [2])] := by decide +kernel

end TruthModel.C18
