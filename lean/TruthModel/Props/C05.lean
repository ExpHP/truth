import TruthModel.Model.Regs
/-
C05 — scratch registers never collide with registers the script uses: theorems about `Regs.assign`
(the model of `assign_registers`), for every `LowerStmt` stream, hook table and parameter list.
-/
namespace TruthModel.C05
open TruthModel TruthModel.Regs

/-- `r` occurs syntactically in the argument, at any depth of difficulty switches -/
inductive Mentions (r : Reg) : Arg → Prop
  | raw (ty : RTy) : Mentions r (.raw r ty)
  | switch (cs : List Arg) (a : Arg) : a ∈ cs → Mentions r a → Mentions r (.switch cs)

theorem mem_regs_iff (r : Reg) :
    (∀ a : Arg, r ∈ a.regs ↔ Mentions r a) ∧ (∀ cs : List Arg, r ∈ regsList cs ↔ ∃ a ∈ cs, Mentions r a) := by
  refine Arg.regs.mutual_induct _ _ (fun r' ty => ?_) (fun cs ih => ?_) (fun t h1 h2 => ?_) ?_ (fun a as iha ihas => ?_)
  · exact ⟨fun h => List.mem_singleton.mp h ▸ .raw ty, fun h => by cases h; exact List.mem_singleton_self r⟩
  · exact ⟨fun h => by obtain ⟨a, ha, hm⟩ := ih.mp h; exact .switch cs a ha hm,
      fun h => by cases h with | switch _ a ha hm => exact ih.mpr ⟨a, ha, hm⟩⟩
  · refine ⟨fun h => ?_, fun h => ?_⟩
    · cases t with
      | raw r' ty => exact absurd rfl (h1 r' ty)
      | switch cs => exact absurd rfl (h2 cs)
      | _ => cases h
    · cases h with
      | raw ty => exact absurd rfl (h1 r ty)
      | switch cs => exact absurd rfl (h2 cs)
  · exact ⟨fun h => (nomatch h), fun ⟨_, h, _⟩ => (nomatch h)⟩
  · rw [regsList, List.mem_append, iha, ihas]
    exact ⟨fun h => h.elim (fun h => ⟨a, List.mem_cons_self .., h⟩) fun ⟨b, hb, h⟩ => ⟨b, List.mem_cons_of_mem _ hb, h⟩,
      fun ⟨b, hb, h⟩ => (List.mem_cons.mp hb).elim (fun e => .inl (e ▸ h)) fun hb => .inr ⟨b, hb, h⟩⟩

theorem mem_mentioned_iff (r : Reg) (s : List Stmt) :
    r ∈ mentioned s ↔ ∃ st ∈ s, ∃ a ∈ st.args, Mentions r a := by
  simp only [mentioned, List.mem_flatMap, (mem_regs_iff r).1]

theorem explicit_deep_eq_mentioned (s : List Stmt) : explicit .deep s = mentioned s := rfl

theorem topRegs_subset_regs (a : Arg) : ∀ r ∈ a.topRegs, r ∈ a.regs := by
  cases a <;> intro r h <;> first | exact h | cases h

/-- what the unchanged code computes is contained in the specification; the other inclusion fails in general
(`topLevel_violates`) and is the hypothesis `hcover` of `assign_result_topLevel_partial` -/
theorem explicit_topLevel_subset (s : List Stmt) : ∀ r ∈ explicit .topLevel s, r ∈ mentioned s := by
  intro r h
  simp only [explicit, mentioned, List.mem_flatMap, Arg.explicitRegs] at *
  obtain ⟨st, hst, a, ha, hr⟩ := h
  exact ⟨st, hst, a, ha, topRegs_subset_regs a r hr⟩

theorem mem_of_lookup {live : List (Def × Reg)} {d : Def} {r : Reg} (h : lookup live d = some r) :
    (d, r) ∈ live := by
  fun_induction lookup live d with
  | case1 => cases h
  | case2 r' rest => cases h; exact List.mem_cons_self ..
  | case3 d' r' rest hne ih => exact List.mem_cons_of_mem _ (ih h)

theorem lookup_isSome_of_mem {live : List (Def × Reg)} {d : Def} {r : Reg} (h : (d, r) ∈ live) :
    (lookup live d).isSome := by
  fun_induction lookup live d with
  | case1 => cases h
  | case2 => rfl
  | case3 d' r' rest hne ih =>
    rcases List.mem_cons.mp h with e | h
    · cases e; exact absurd rfl hne
    · exact ih h

theorem mem_remove {live : List (Def × Reg)} {d : Def} {e : Def × Reg} :
    e ∈ remove live d ↔ e ∈ live ∧ e.1 ≠ d := by
  simp [remove]

theorem lookup_remove {live : List (Def × Reg)} {d d' : Def} {r : Reg} (h : lookup (remove live d) d' = some r) :
    lookup live d' = some r := by
  induction live with
  | nil => cases h
  | cons e rest ih =>
    obtain ⟨d0, r0⟩ := e
    rw [remove, List.filter_cons] at h
    rw [lookup]
    split at h
    · rw [lookup] at h
      split at h
      · rw [if_pos ‹_›]; exact h
      · rw [if_neg ‹_›]; exact ih h
    · -- the entry of `d` is gone, and `d'` is still there
      rename_i hd
      have hne : d0 ≠ d' := fun e =>
        (mem_remove.mp (mem_of_lookup h)).2 (e ▸ Decidable.of_not_not fun hn => hd (decide_eq_true hn))
      rw [if_neg hne]; exact ih h

def pools (st : State) : List Reg := st.poolInt ++ st.poolFloat

theorem mem_pools {st : State} {r : Reg} : r ∈ pools st ↔ ∃ ty, r ∈ st.pool ty :=
  ⟨fun h => (List.mem_append.mp h).elim (fun h => ⟨.int, h⟩) fun h => ⟨.float, h⟩,
    fun ⟨ty, h⟩ => by
      cases ty
      · exact List.mem_append_left _ h
      · exact List.mem_append_right _ h⟩

/-- The invariant of the scan (`ex`: the registers the body names explicitly, `ps`: the parameters).  Pool and live map share
no register; a register outside the parameters is bound to at most one live local, lies in the general-purpose table of
that local's type and is not in `ex`; parameter registers are bound to parameters only (the scan never hands them out, so
they are exempt from `inj` and `liveGood`). -/
structure Inv (h : Hooks) (tyOf : Def → RTy) (ex : List Reg) (ps : List Param) (st : State) : Prop where
  disjoint : ∀ r ∈ pools st, ∀ e ∈ st.live, e.2 ≠ r
  nodup : (pools st).Nodup
  inj : ∀ e1 ∈ st.live, ∀ e2 ∈ st.live, e1.2 = e2.2 → e1.2 ∉ paramRegs ps → e1.1 = e2.1
  poolGood : ∀ ty, ∀ r ∈ st.pool ty, r ∈ h.general ty ∧ r ∉ ex ∧ r ∉ paramRegs ps
  liveGood : ∀ e ∈ st.live, e.2 ∉ paramRegs ps → e.2 ∈ h.general (tyOf e.1) ∧ e.2 ∉ ex
  paramOnly : ∀ e ∈ st.live, e.2 ∈ paramRegs ps → e.1 ∈ paramDefs ps

/-- the general-purpose tables list every register once -/
def HooksOk (h : Hooks) : Prop := (h.general .int ++ h.general .float).Nodup

theorem mem_initLive {ps : List Param} {e : Def × Reg} (he : e ∈ initLive ps) :
    e.2 ∈ paramRegs ps ∧ e.1 ∈ paramDefs ps := by
  fun_induction initLive ps with
  | case1 => cases he
  | case2 p ps d hn ih =>
    rw [paramDefs, List.filterMap_cons, hn]
    rcases List.mem_cons.mp he with rfl | he
    · exact ⟨List.mem_cons_self .., List.mem_cons_self ..⟩
    · exact ⟨List.mem_cons_of_mem _ (ih he).1, List.mem_cons_of_mem _ (ih he).2⟩
  | case3 p ps hn ih =>
    rw [paramDefs, List.filterMap_cons, hn]
    exact ⟨List.mem_cons_of_mem _ (ih he).1, (ih he).2⟩

theorem mem_initPool {h : Hooks} {ex : List Reg} {ps : List Param} {ty : RTy} {r : Reg}
    (hr : r ∈ initPool h ex ps ty) : r ∈ h.general ty ∧ r ∉ ex ∧ r ∉ paramRegs ps := by
  simp [initPool] at hr
  exact ⟨hr.1, hr.2.1, hr.2.2⟩

theorem inv_init (h : Hooks) (tyOf : Def → RTy) (ex : List Reg) (ps : List Param) (hk : HooksOk h) :
    Inv h tyOf ex ps (init h ex ps) := by
  have hlive : ∀ e ∈ (init h ex ps).live, e.2 ∈ paramRegs ps ∧ e.1 ∈ paramDefs ps :=
    fun e he => mem_initLive (List.mem_reverse.mp he)
  have hpool : ∀ ty, ∀ r ∈ (init h ex ps).pool ty, r ∈ h.general ty ∧ r ∉ ex ∧ r ∉ paramRegs ps :=
    fun ty r hr => by cases ty <;> exact mem_initPool hr
  refine ⟨fun r hr e he heq => ?_, ?_, fun e1 he1 _ _ _ hnp => absurd (hlive e1 he1).1 hnp, hpool,
    fun e he hnp => absurd (hlive e he).1 hnp, fun e he _ => (hlive e he).2⟩
  · obtain ⟨ty, hr⟩ := mem_pools.mp hr
    exact (hpool ty r hr).2.2 (heq ▸ (hlive e he).1)
  · have : (pools (init h ex ps)).Sublist (h.general .int ++ h.general .float) :=
      List.Sublist.append List.filter_sublist List.filter_sublist
    exact this.nodup hk

/-- statements the invariant is preserved by: everything except freeing a parameter (which no
stream produced by the lowering contains: `ScopeEnd` is only inserted for declarations) -/
def StmtOk (ps : List Param) : Stmt → Prop
  | .free d => d ∉ paramDefs ps
  | _ => True

theorem stmtOk_nil (s : Stmt) : StmtOk [] s := by
  cases s with
  | free d => exact List.not_mem_nil
  | _ => trivial

theorem pool_setPool_same (st : State) (ty : RTy) (p : List Reg) : (st.setPool ty p).pool ty = p := by
  cases ty <;> rfl

theorem pool_setPool_other (st : State) {ty ty' : RTy} (p : List Reg) (hne : ty' ≠ ty) :
    (st.setPool ty p).pool ty' = st.pool ty' := by
  cases ty <;> cases ty' <;> simp_all [State.setPool, State.pool]

theorem live_setPool (st : State) (ty : RTy) (p : List Reg) : (st.setPool ty p).live = st.live := by
  cases ty <;> rfl

theorem mem_pool_setPool {st : State} {ty ty' : RTy} {p : List Reg} {r : Reg}
    (hr : r ∈ (st.setPool ty p).pool ty') : (ty' = ty ∧ r ∈ p) ∨ (ty' ≠ ty ∧ r ∈ st.pool ty') := by
  by_cases hty : ty' = ty
  · subst hty; rw [pool_setPool_same] at hr; exact Or.inl ⟨rfl, hr⟩
  · rw [pool_setPool_other st p hty] at hr; exact Or.inr ⟨hty, hr⟩

/-- the pools, up to order, are the pool of one type and a rest that `setPool` does not touch -/
theorem perm_pools (st : State) (ty : RTy) :
    ∃ rest, (pools st).Perm (st.pool ty ++ rest) ∧ ∀ p, (pools (st.setPool ty p)).Perm (p ++ rest) := by
  cases ty with
  | int => exact ⟨st.poolFloat, .refl _, fun _ => .refl _⟩
  | float => exact ⟨st.poolInt, List.perm_append_comm, fun _ => List.perm_append_comm⟩

theorem pools_pop {st : State} {ty : RTy} {r : Reg} {rest : List Reg} (hp : st.pool ty = r :: rest) :
    (pools st).Perm (r :: pools (st.setPool ty rest)) := by
  obtain ⟨other, h, hset⟩ := perm_pools st ty
  rw [hp] at h
  exact h.trans (.cons r (hset rest).symm)

theorem pools_push (st : State) (ty : RTy) (r : Reg) : (pools (st.setPool ty (r :: st.pool ty))).Perm (r :: pools st) := by
  obtain ⟨other, h, hset⟩ := perm_pools st ty
  exact (hset _).trans (.cons r h.symm)

section Step
variable {h : Hooks} {tyOf : Def → RTy} {ex clash : List Reg} {ps : List Param} {st st' : State}

theorem step_alloc_ok {d : Def} (hs : step h tyOf clash st (.alloc d) = .ok st') :
    ∃ r rest, st.pool (tyOf d) = r :: rest ∧ lookup st.live d = none ∧
      st' = { (st.setPool (tyOf d) rest) with
        live := (d, r) :: st.live, usedScratch := true,
        locals := ⟨d, tyOf d, r⟩ :: st.locals, out := .alloc d :: st.out } := by
  simp only [step] at hs
  cases hp : st.pool (tyOf d) with
  | nil => rw [hp] at hs; cases hs
  | cons r rest =>
    rw [hp] at hs
    cases hl : lookup st.live d with
    | some _ => simp only [hl, Option.isSome_some, if_true] at hs; cases hs
    | none =>
      simp only [hl, Option.isSome_none, Bool.false_eq_true, if_false] at hs
      by_cases hc : clash.contains r = true
      · rw [if_pos hc] at hs; cases hs
      · rw [if_neg hc] at hs; exact ⟨r, rest, rfl, rfl, (Outcome.ok.inj hs).symm⟩

theorem step_free_ok {d : Def} (hs : step h tyOf clash st (.free d) = .ok st') :
    ∃ r, lookup st.live d = some r ∧
      st' = { (st.setPool (tyOf d) (r :: st.pool (tyOf d))) with live := remove st.live d, out := .free d :: st.out } := by
  rw [step] at hs
  cases hl : lookup st.live d with
  | none => rw [hl] at hs; cases hs
  | some r => rw [hl] at hs; exact ⟨r, rfl, (Outcome.ok.inj hs).symm⟩

theorem antiScratch_flags (h : Hooks) (op : Nat) (st : State) (x : Stmt) :
    (fun st1 : State => { st1 with out := x :: st1.out }) (match h.antiScratch op with
        | some .thisFunction => { st with antiLocal := true }
        | some .waterElf => { st with antiGlobal := true }
        | none => st) =
      { st with antiLocal := st.antiLocal || h.antiScratch op == some .thisFunction,
                antiGlobal := st.antiGlobal || h.antiScratch op == some .waterElf, out := x :: st.out } := by
  obtain ⟨_, _, _, _, al, ag, _, _⟩ := st
  cases h.antiScratch op with
  | none => cases al <;> cases ag <;> rfl
  | some b => cases b <;> cases al <;> cases ag <;> rfl

theorem step_instr_ok {t : Int} {m op : Nat} {args : Option (List Arg)}
    (hs : step h tyOf clash st (.instr t m op args) = .ok st') :
    ∃ args', (args = none → args' = none) ∧ (∀ as, args = some as → ∃ as', rewriteList st.live as = some as' ∧ args' = some as') ∧
      st' = { st with antiLocal := st.antiLocal || h.antiScratch op == some .thisFunction,
                      antiGlobal := st.antiGlobal || h.antiScratch op == some .waterElf,
                      out := .instr t m op args' :: st.out } := by
  cases args with
  | none => rw [step] at hs; exact ⟨none, fun _ => rfl, nofun, (Outcome.ok.inj hs).symm.trans (antiScratch_flags ..)⟩
  | some as =>
    rw [step] at hs
    cases hr : rewriteList st.live as with
    | none => simp only [hr] at hs; cases hs
    | some as' =>
      simp only [hr] at hs
      exact ⟨some as', nofun, fun _ e => ⟨as', Option.some.inj e ▸ hr, rfl⟩, (Outcome.ok.inj hs).symm.trans (antiScratch_flags ..)⟩

theorem step_instr {st st' : State} {t : Int} {m op : Nat} {as : List Arg}
    (hs : step h tyOf clash st (.instr t m op (some as)) = .ok st') :
    ∃ as', rewriteList st.live as = some as' ∧ st'.out = .instr t m op (some as') :: st.out ∧ st'.live = st.live := by
  obtain ⟨_, _, hsome, rfl⟩ := step_instr_ok hs
  obtain ⟨as', hrw, rfl⟩ := hsome as rfl
  exact ⟨as', hrw, rfl, rfl⟩

theorem inv_congr {st1 : State} (h1 : st1.poolInt = st.poolInt) (h2 : st1.poolFloat = st.poolFloat)
    (h3 : st1.live = st.live) (hi : Inv h tyOf ex ps st) : Inv h tyOf ex ps st1 := by
  have hp : pools st1 = pools st := by rw [pools, pools, h1, h2]
  have hpool : ∀ ty, st1.pool ty = st.pool ty := fun ty => by cases ty <;> assumption
  exact ⟨by rw [hp, h3]; exact hi.disjoint, hp ▸ hi.nodup, by rw [h3]; exact hi.inj,
    fun ty => by rw [hpool]; exact hi.poolGood ty, by rw [h3]; exact hi.liveGood, by rw [h3]; exact hi.paramOnly⟩

theorem step_inv {s : Stmt} (hi : Inv h tyOf ex ps st) (hok : StmtOk ps s) (hs : step h tyOf clash st s = .ok st') :
    Inv h tyOf ex ps st' := by
  cases s with
  | alloc d =>
    obtain ⟨r, rest, hp, _, rfl⟩ := step_alloc_ok hs
    have hrpool : r ∈ st.pool (tyOf d) := hp ▸ List.mem_cons_self ..
    have hrgood := hi.poolGood _ r hrpool
    have hrp : r ∈ pools st := mem_pools.mpr ⟨_, hrpool⟩
    have hperm := pools_pop hp
    obtain ⟨hrnot, hnd⟩ := List.nodup_cons.mp (hperm.nodup_iff.mp hi.nodup)
    have hsub : ∀ x ∈ pools (st.setPool (tyOf d) rest), x ∈ pools st := fun x hx => hperm.mem_iff.mpr (List.mem_cons_of_mem _ hx)
    refine ⟨fun x hx => List.forall_mem_cons.mpr ⟨fun (heq : r = x) => hrnot (heq ▸ hx), hi.disjoint x (hsub x hx)⟩,
      hnd, ?_, ?_,
      List.forall_mem_cons.mpr ⟨fun _ => ⟨hrgood.1, hrgood.2.1⟩, hi.liveGood⟩,
      List.forall_mem_cons.mpr ⟨fun hp' => absurd hp' hrgood.2.2, hi.paramOnly⟩⟩
    · intro e1 he1 e2 he2 heq hnp
      rcases List.mem_cons.mp he1 with rfl | he1 <;> rcases List.mem_cons.mp he2 with rfl | he2
      · rfl
      · exact absurd heq.symm (hi.disjoint r hrp e2 he2)
      · exact absurd heq (hi.disjoint r hrp e1 he1)
      · exact hi.inj e1 he1 e2 he2 heq hnp
    · intro ty' x hx
      rcases mem_pool_setPool hx with ⟨rfl, hxr⟩ | ⟨_, hxr⟩
      · exact hi.poolGood _ x (hp ▸ List.mem_cons_of_mem _ hxr)
      · exact hi.poolGood _ x hxr
  | free d =>
    obtain ⟨r, hl, rfl⟩ := step_free_ok hs
    have hmem := mem_of_lookup hl
    have hnp : r ∉ paramRegs ps := fun hp' => hok (hi.paramOnly _ hmem hp')
    have hgood := hi.liveGood _ hmem hnp
    have hrnot : r ∉ pools st := fun hx => hi.disjoint r hx _ hmem rfl
    have hperm := pools_push st (tyOf d) r
    refine ⟨?_, hperm.nodup_iff.mpr (List.nodup_cons.mpr ⟨hrnot, hi.nodup⟩),
      fun e1 he1 e2 he2 => hi.inj e1 (mem_remove.mp he1).1 e2 (mem_remove.mp he2).1, ?_,
      fun e he => hi.liveGood e (mem_remove.mp he).1, fun e he => hi.paramOnly e (mem_remove.mp he).1⟩
    · intro x hx e he
      obtain ⟨he1, he2⟩ := mem_remove.mp he
      rcases List.mem_cons.mp (hperm.mem_iff.mp hx) with rfl | hx
      · -- the freed register is held by no other local: the live map is injective
        exact fun heq => he2 (hi.inj e he1 (d, x) hmem heq (heq ▸ hnp))
      · exact hi.disjoint x hx e he1
    · intro ty' x hx
      rcases mem_pool_setPool hx with ⟨rfl, hxr⟩ | ⟨_, hxr⟩
      · rcases List.mem_cons.mp hxr with rfl | hxr
        · exact ⟨hgood.1, hgood.2, hnp⟩
        · exact hi.poolGood _ x hxr
      · exact hi.poolGood _ x hxr
  | instr t m op args =>
    obtain ⟨_, _, _, rfl⟩ := step_instr_ok hs
    exact inv_congr (st := st) rfl rfl rfl hi
  | label t l =>
    cases hs
    exact inv_congr (st := st) rfl rfl rfl hi

end Step

/-- the loop of `assign_registers` preserves the invariant: from any state that has it, a run that succeeds ends in a state
that has it (stated for any start state and any stream, so it applies to every prefix of a run). -/
theorem assign_inv {h : Hooks} {tyOf : Def → RTy} {ex clash : List Reg} {ps : List Param} :
    ∀ (s : List Stmt) {st st' : State}, Inv h tyOf ex ps st → (∀ x ∈ s, StmtOk ps x) →
      run h tyOf clash st s = .ok st' → Inv h tyOf ex ps st' := by
  intro s st st' hi hok hr
  fun_induction run h tyOf clash st s with
  | case1 st => cases hr; exact hi
  | case2 st x rest st1 hs ih =>
    exact ih (step_inv hi (hok x (List.mem_cons_self ..)) hs) (fun y hy => hok y (List.mem_cons_of_mem _ hy)) hr
  | case3 | case4 => cases hr

/-- for every `alloc` that succeeds in a state satisfying the invariant, the chosen
register is general-purpose for the local's type, not explicitly used, not a parameter register and
not held by any live local. -/
theorem assign_result {h : Hooks} {tyOf : Def → RTy} {ex clash : List Reg} {ps : List Param} {st st' : State}
    {d : Def} (hi : Inv h tyOf ex ps st) (hs : step h tyOf clash st (.alloc d) = .ok st') :
    ∃ r, st'.live = (d, r) :: st.live ∧ st'.locals = ⟨d, tyOf d, r⟩ :: st.locals ∧
      r ∈ h.general (tyOf d) ∧ r ∉ ex ∧ r ∉ paramRegs ps ∧ ∀ e ∈ st.live, e.2 ≠ r := by
  obtain ⟨r, rest, hp, _, rfl⟩ := step_alloc_ok hs
  have hrpool : r ∈ st.pool (tyOf d) := by rw [hp]; simp
  have hg := hi.poolGood _ r hrpool
  exact ⟨r, rfl, rfl, hg.1, hg.2.1, hg.2.2, fun e he => hi.disjoint r (mem_pools.mpr ⟨_, hrpool⟩) e he⟩

def LocalOk (h : Hooks) (ex : List Reg) (ps : List Param) (l : LocalInfo) : Prop :=
  l ∈ initLocals ps ∨ (l.reg ∈ h.general l.ty ∧ l.reg ∉ ex ∧ l.reg ∉ paramRegs ps)

theorem step_locals {h : Hooks} {tyOf : Def → RTy} {ex clash : List Reg} {ps : List Param} {st st' : State}
    {s : Stmt} (hi : Inv h tyOf ex ps st) (hl : ∀ l ∈ st.locals, LocalOk h ex ps l)
    (hs : step h tyOf clash st s = .ok st') : ∀ l ∈ st'.locals, LocalOk h ex ps l := by
  cases s with
  | alloc d =>
    obtain ⟨r, _, hloc, hg, hne, hnp, _⟩ := assign_result hi hs
    rw [hloc]
    exact List.forall_mem_cons.mpr ⟨Or.inr ⟨hg, hne, hnp⟩, hl⟩
  | free d =>
    obtain ⟨r, _, rfl⟩ := step_free_ok hs
    cases tyOf d <;> exact hl
  | instr t m op args => obtain ⟨_, _, _, rfl⟩ := step_instr_ok hs; exact hl
  | label t l => cases hs; exact hl

theorem run_locals {h : Hooks} {tyOf : Def → RTy} {ex clash : List Reg} {ps : List Param} :
    ∀ (s : List Stmt) {st st' : State}, Inv h tyOf ex ps st → (∀ x ∈ s, StmtOk ps x) →
      (∀ l ∈ st.locals, LocalOk h ex ps l) → run h tyOf clash st s = .ok st' →
      ∀ l ∈ st'.locals, LocalOk h ex ps l := by
  intro s st st' hi hok hl hr
  fun_induction run h tyOf clash st s with
  | case1 st => cases hr; exact hl
  | case2 st x rest st1 hs ih =>
    exact ih (step_inv hi (hok x (List.mem_cons_self ..)) hs) (fun y hy => hok y (List.mem_cons_of_mem _ hy))
      (step_locals hi hl hs) hr
  | case3 | case4 => cases hr

/-- every entry of the debug-info `locals` of a successful `assign_registers` is
either a parameter or bound to a register that is general-purpose for its type, not explicitly used
and not a parameter register. -/
theorem assign_locals {m : ExplicitMode} {h : Hooks} {tyOf : Def → RTy} {ps : List Param} {s : List Stmt}
    {res : Result} (hk : HooksOk h) (hok : ∀ x ∈ s, StmtOk ps x) (ha : assign m h tyOf ps s = .ok res) :
    ∀ l ∈ res.locals, LocalOk h (explicit m s) ps l := by
  revert ha
  fun_cases assign m h tyOf ps s with
  | case1 | case3 | case4 => exact nofun
  | case2 ex st hr _ =>
    intro ha l hl
    cases ha
    exact run_locals s (inv_init h tyOf _ ps hk) hok (fun l' hl' => Or.inl (List.mem_reverse.mp hl')) hr l
      (List.mem_reverse.mp hl)

/-- with the repaired explicit-register scan (recursing into difficulty
switches) no compiler-chosen register is mentioned anywhere in the script.  This is property C05. -/
theorem assign_result_deep {h : Hooks} {tyOf : Def → RTy} {ps : List Param} {s : List Stmt} {res : Result}
    (hk : HooksOk h) (hok : ∀ x ∈ s, StmtOk ps x) (ha : assign .deep h tyOf ps s = .ok res) :
    ∀ l ∈ res.locals, l ∈ initLocals ps ∨
      (l.reg ∈ h.general l.ty ∧ l.reg ∉ mentioned s ∧ l.reg ∉ paramRegs ps) := by
  intro l hl
  have := assign_locals hk hok ha l hl
  rw [explicit_deep_eq_mentioned] at this
  exact this

/-- what is true of the unchanged code: the property holds for the streams in which every mentioned
register also occurs at the top level of some argument list -/
theorem assign_result_topLevel_partial {h : Hooks} {tyOf : Def → RTy} {ps : List Param} {s : List Stmt}
    {res : Result} (hk : HooksOk h) (hok : ∀ x ∈ s, StmtOk ps x)
    (hcover : ∀ r ∈ mentioned s, r ∈ explicit .topLevel s)
    (ha : assign .topLevel h tyOf ps s = .ok res) :
    ∀ l ∈ res.locals, l ∈ initLocals ps ∨
      (l.reg ∈ h.general l.ty ∧ l.reg ∉ mentioned s ∧ l.reg ∉ paramRegs ps) := by
  intro l hl
  rcases assign_locals hk hok ha l hl with h1 | ⟨h1, h2, h3⟩
  · exact Or.inl h1
  · exact Or.inr ⟨h1, fun hm => h2 (hcover _ hm), h3⟩

/-- the whole property for the code as it is; FALSE (see `topLevel_violates`) -/
def C05_full_topLevel : Prop :=
  ∀ (h : Hooks) (tyOf : Def → RTy) (ps : List Param) (s : List Stmt) (res : Result),
    HooksOk h → (∀ x ∈ s, StmtOk ps x) → assign .topLevel h tyOf ps s = .ok res →
    ∀ l ∈ res.locals, l ∈ initLocals ps ∨
      (l.reg ∈ h.general l.ty ∧ l.reg ∉ mentioned s ∧ l.reg ∉ paramRegs ps)

/-! ### the witness (TH07 ECL): `int x = I1 + 3; ins_10(x, 7); ins_10(I0:I0:I0:I2, 8);` -/

def th07 : Hooks where
  general
    | .int => [10000, 10001, 10002, 10003, 10012, 10013, 10014, 10015]
    | .float => [10004, 10005, 10006, 10007, 10008, 10009, 10010, 10011, 10072, 10074]
  antiScratch op := if op = 130 then some .waterElf else none

def witness : List Stmt := [
  .alloc 0,
  .instr 0 255 20 (some [.loc 0 .int, .raw 10001 .int, .imm (.int 3)]),
  .instr 0 255 10 (some [.loc 0 .int, .imm (.int 7)]),
  .instr 0 255 10 (some [.switch [.raw 10000 .int, .raw 10000 .int, .raw 10000 .int, .raw 10002 .int], .imm (.int 8)]),
  .free 0]

theorem th07_ok : HooksOk th07 := by unfold HooksOk; decide +kernel

/-- the debug-info `locals` of a run, for evaluation by `decide` -/
def localsOf : Outcome Result → Option (List LocalInfo)
  | .ok r => some r.locals
  | _ => none

theorem of_localsOf_eq_some {o : Outcome Result} {ls : List LocalInfo} (h : localsOf o = some ls) :
    ∃ res, o = .ok res ∧ res.locals = ls := by
  cases o with
  | ok res => exact ⟨res, rfl, Option.some.inj h⟩
  | err _ => cases h
  | panic _ => cases h

/-- **the unchanged code violates C05**: the model of the code as written binds the local to `I0`
(10000), which the script names inside a difficulty switch. -/
theorem topLevel_violates :
    ∃ res, assign .topLevel th07 (fun _ => .int) [] witness = .ok res ∧
      res.locals = [⟨0, .int, 10000⟩] ∧ (10000 : Reg) ∈ mentioned witness := by
  obtain ⟨res, ha, hl⟩ := of_localsOf_eq_some
    (show localsOf (assign .topLevel th07 (fun _ => .int) [] witness) = some [⟨0, .int, 10000⟩] by decide +kernel)
  exact ⟨res, ha, hl, by decide +kernel⟩

theorem C05_full_topLevel_false : ¬ C05_full_topLevel := by
  intro hf
  obtain ⟨res, ha, hl, hm⟩ := topLevel_violates
  have := hf th07 (fun _ => .int) [] witness res th07_ok (fun x _ => stmtOk_nil x) ha
    ⟨0, .int, 10000⟩ (by rw [hl]; simp)
  rcases this with h1 | ⟨_, h2, _⟩
  · simp [initLocals] at h1
  · exact h2 hm

/-- the repaired scan on the same witness picks `I3`, which is named nowhere -/
example : ∃ res, assign .deep th07 (fun _ => .int) [] witness = .ok res ∧ res.locals = [⟨0, .int, 10003⟩] :=
  of_localsOf_eq_some (by decide +kernel)

/-- (empty pool) no register of the needed type left means an error, whatever
else is live. -/
theorem assign_no_reuse_empty (h : Hooks) (tyOf : Def → RTy) (clash : List Reg) (st : State) (d : Def)
    (hp : st.pool (tyOf d) = []) : step h tyOf clash st (.alloc d) = .err errTooComplex := by
  simp [step, hp]

def isAlloc : Stmt → Bool
  | .alloc _ => true
  | _ => false

def isAnti (h : Hooks) : Stmt → Bool
  | .instr _ _ op _ => h.antiScratch op == some .thisFunction
  | _ => false

def isWaterElf (h : Hooks) : Stmt → Bool
  | .instr _ _ op _ => h.antiScratch op == some .waterElf
  | _ => false

theorem step_flags {h : Hooks} {tyOf : Def → RTy} {clash : List Reg} {st st' : State} {s : Stmt}
    (hs : step h tyOf clash st s = .ok st') :
    st'.usedScratch = (st.usedScratch || isAlloc s) ∧ st'.antiLocal = (st.antiLocal || isAnti h s) ∧
    st'.antiGlobal = (st.antiGlobal || isWaterElf h s) := by
  cases s with
  | alloc d =>
    obtain ⟨r, rest, _, _, rfl⟩ := step_alloc_ok hs
    cases tyOf d <;> exact ⟨(Bool.or_true _).symm, (Bool.or_false _).symm, (Bool.or_false _).symm⟩
  | free d =>
    obtain ⟨r, _, rfl⟩ := step_free_ok hs
    cases tyOf d <;> exact ⟨(Bool.or_false _).symm, (Bool.or_false _).symm, (Bool.or_false _).symm⟩
  | instr t m op args =>
    obtain ⟨_, _, _, rfl⟩ := step_instr_ok hs
    exact ⟨(Bool.or_false _).symm, rfl, rfl⟩
  | label t l =>
    cases hs
    exact ⟨(Bool.or_false _).symm, (Bool.or_false _).symm, (Bool.or_false _).symm⟩

theorem run_flags {h : Hooks} {tyOf : Def → RTy} {clash : List Reg} :
    ∀ (s : List Stmt) {st st' : State}, run h tyOf clash st s = .ok st' →
      st'.usedScratch = (st.usedScratch || s.any isAlloc) ∧ st'.antiLocal = (st.antiLocal || s.any (isAnti h)) ∧
      st'.antiGlobal = (st.antiGlobal || s.any (isWaterElf h)) := by
  intro s st st' hr
  fun_induction run h tyOf clash st s with
  | case1 st => cases hr; exact ⟨(Bool.or_false _).symm, (Bool.or_false _).symm, (Bool.or_false _).symm⟩
  | case2 st x rest st1 hs ih =>
    obtain ⟨a1, a2, a3⟩ := step_flags hs
    obtain ⟨b1, b2, b3⟩ := ih hr
    rw [b1, b2, b3, a1, a2, a3, List.any_cons, List.any_cons, List.any_cons, Bool.or_assoc, Bool.or_assoc, Bool.or_assoc]
    exact ⟨rfl, rfl, rfl⟩
  | case3 | case4 => cases hr

/-- (anti-scratch) a script that contains an instruction forbidding scratch use
and needs a register for anything never compiles to `ok`.  That the outcome then is the diagnostic, not a panic, is
`assign_anti_is_err`. -/
theorem assign_no_reuse_anti (m : ExplicitMode) (h : Hooks) (tyOf : Def → RTy) (ps : List Param) (s : List Stmt)
    (hanti : s.any (isAnti h) = true) (halloc : s.any isAlloc = true) :
    ∀ res, assign m h tyOf ps s ≠ .ok res := by
  intro res
  fun_cases assign m h tyOf ps s with
  | case1 | case3 | case4 => exact nofun
  | case2 ex st hr hc =>
    obtain ⟨h1, h2, _⟩ := run_flags s hr
    rw [h1, h2, hanti, halloc, Bool.or_true, Bool.or_true] at hc
    exact absurd rfl hc

/-- and in that case, if the loop itself runs through, the outcome is the diagnostic -/
theorem assign_anti_is_err (m : ExplicitMode) (h : Hooks) (tyOf : Def → RTy) (ps : List Param) (s : List Stmt)
    (st : State) (hr : run h tyOf (clashing (explicit m s) ps) (init h (explicit m s) ps) s = .ok st)
    (hanti : s.any (isAnti h) = true) (halloc : s.any isAlloc = true) :
    assign m h tyOf ps s = .err errDisabled := by
  obtain ⟨h1, h2, _⟩ := run_flags s hr
  simp only [assign, hr]
  rw [h1, h2, hanti, halloc]
  simp [init]

/-- the file-wide variant (`PersistentState::finish`): one sub with the Patchouli instruction and one
sub that used scratch registers reject the whole file -/
theorem finish_anti (subs : List Result) (a b : Result) (ha : a ∈ subs) (hb : b ∈ subs)
    (h1 : a.antiGlobal = true) (h2 : b.usedScratch = true) : finish subs = .err errDisabledFile := by
  have e1 : subs.any (·.antiGlobal) = true := List.any_eq_true.mpr ⟨a, ha, h1⟩
  have e2 : subs.any (·.usedScratch) = true := List.any_eq_true.mpr ⟨b, hb, h2⟩
  simp [finish, e1, e2]

mutual

def substArg (f : Def → Reg) : Arg → Arg
  | .loc d ty => .raw (f d) ty
  | .switch cs => .switch (substList f cs)
  | a => a
def substList (f : Def → Reg) : List Arg → List Arg
  | [] => []
  | a :: as => substArg f a :: substList f as
end

mutual
def hasLoc : Arg → Bool
  | .loc _ _ => true
  | .switch cs => hasLocList cs
  | _ => false
def hasLocList : List Arg → Bool
  | [] => false
  | a :: as => hasLoc a || hasLocList as
end

mutual

def locsOf : Arg → List Def
  | .loc d _ => [d]
  | .switch cs => locsOfList cs
  | _ => []
def locsOfList : List Arg → List Def
  | [] => []
  | a :: as => locsOf a ++ locsOfList as
end

/-- the register recorded for `d`.  The default `0` is never seen: `rewrite` succeeds only when every local of the argument
is in `live` (`rewrite_cases`), and only then `substArg (recorded live)` describes its result. -/
def recorded (live : List (Def × Reg)) (d : Def) : Reg := (lookup live d).getD 0

theorem rewriteList_cons_inv {live : List (Def × Reg)} {a : Arg} {as as' : List Arg} (h : rewriteList live (a :: as) = some as') :
    ∃ a' t', as' = a' :: t' ∧ a.rewrite live = some a' ∧ rewriteList live as = some t' := by
  simp only [rewriteList] at h
  split at h
  · rename_i a' h1
    split at h
    · rename_i t' h2
      cases h
      exact ⟨a', t', rfl, h1, h2⟩
    · cases h
  · cases h

theorem rewriteList_nil_inv {live : List (Def × Reg)} {as' : List Arg} (h : rewriteList live [] = some as') : as' = [] := by
  simp only [rewriteList, Option.some.injEq] at h; exact h.symm

/-- `rewrite` either replaces every `Local` by its recorded register and leaves none, or fails at a
local that has no register; the same for argument lists -/
theorem rewrite_cases (live : List (Def × Reg)) :
    (∀ a : Arg, (∀ a', a.rewrite live = some a' → a' = substArg (recorded live) a ∧ hasLoc a' = false) ∧
      (a.rewrite live = none → ∃ d ∈ locsOf a, lookup live d = none)) ∧
    (∀ as : List Arg,
      (∀ as', rewriteList live as = some as' → as' = substList (recorded live) as ∧ hasLocList as' = false) ∧
      (rewriteList live as = none → ∃ d ∈ locsOfList as, lookup live d = none)) := by
  refine Arg.rewrite.mutual_induct live _ _ ?_ ?_ ?_ ?_ ?_ ?_ ?_ ?_ ?_
  · intro d ty r hl
    rw [Arg.rewrite, hl]
    refine ⟨fun a' h => ?_, nofun⟩
    cases h
    rw [substArg, recorded, hl]
    exact ⟨rfl, rfl⟩
  · intro d ty hl
    rw [Arg.rewrite, hl]
    exact ⟨nofun, fun _ => ⟨d, List.mem_singleton_self d, hl⟩⟩
  · intro cs cs' hl ih
    rw [Arg.rewrite, hl]
    refine ⟨fun a' h => ?_, nofun⟩
    cases h
    obtain ⟨h1, h2⟩ := ih.1 cs' hl
    rw [substArg, hasLoc, h1]
    exact ⟨rfl, h1 ▸ h2⟩
  · intro cs hl ih
    rw [Arg.rewrite, hl]
    exact ⟨nofun, fun _ => ih.2 hl⟩
  · intro a h1 h2
    cases a with
    | loc d ty => exact absurd rfl (h1 d ty)
    | switch cs => exact absurd rfl (h2 cs)
    | _ => exact ⟨fun a' h => by cases h; exact ⟨rfl, rfl⟩, nofun⟩
  · exact ⟨fun as' h => by cases h; exact ⟨rfl, rfl⟩, nofun⟩
  · intro a as a' ha cs' has iha ihas
    rw [rewriteList, ha, has]
    refine ⟨fun as' h => ?_, nofun⟩
    cases h
    obtain ⟨h1, h2⟩ := iha.1 a' ha
    obtain ⟨h3, h4⟩ := ihas.1 cs' has
    rw [substList, hasLocList, h2, h4, ← h1, ← h3]
    exact ⟨rfl, rfl⟩
  · intro a as a' ha has _ ihas
    rw [rewriteList, ha, has]
    refine ⟨nofun, fun _ => ?_⟩
    obtain ⟨d, hd, hn⟩ := ihas.2 has
    exact ⟨d, List.mem_append_right _ hd, hn⟩
  · intro a as ha iha
    rw [rewriteList, ha]
    refine ⟨nofun, fun _ => ?_⟩
    obtain ⟨d, hd, hn⟩ := iha.2 ha
    exact ⟨d, List.mem_append_left _ hd, hn⟩

theorem rewrite_spec (live : List (Def × Reg)) : ∀ (a a' : Arg), a.rewrite live = some a' →
    a' = substArg (recorded live) a ∧ hasLoc a' = false :=
  fun a => ((rewrite_cases live).1 a).1

theorem rewrite_none (live : List (Def × Reg)) : ∀ (a : Arg), a.rewrite live = none →
    ∃ d ∈ locsOf a, lookup live d = none :=
  fun a => ((rewrite_cases live).1 a).2

theorem rewriteList_spec (live : List (Def × Reg)) : ∀ (as as' : List Arg), rewriteList live as = some as' →
    as' = substList (recorded live) as ∧ hasLocList as' = false :=
  fun as => ((rewrite_cases live).2 as).1

theorem rewriteList_none (live : List (Def × Reg)) : ∀ (as : List Arg), rewriteList live as = none →
    ∃ d ∈ locsOfList as, lookup live d = none :=
  fun as => ((rewrite_cases live).2 as).2

/-- an instruction is emitted with every `Local` argument - also inside
difficulty switches - replaced by the register recorded for that local, no `Local` is left, nothing
else changes; the only way this step fails is a local that has no register (never allocated, or
already freed), and then it is the index panic of the real code. -/
theorem rewrite_total (h : Hooks) (tyOf : Def → RTy) (clash : List Reg) (st : State)
    (t : Int) (m op : Nat) (as : List Arg) :
    (∃ st' as', step h tyOf clash st (.instr t m op (some as)) = .ok st' ∧
        st'.out = .instr t m op (some as') :: st.out ∧
        as' = substList (recorded st.live) as ∧ hasLocList as' = false) ∨
    (∃ site, step h tyOf clash st (.instr t m op (some as)) = .panic site ∧
        ∃ d ∈ locsOfList as, lookup st.live d = none) := by
  cases hr : rewriteList st.live as with
  | some as' =>
    left
    obtain ⟨h1, h2⟩ := rewriteList_spec st.live as as' hr
    refine ⟨_, as', by simp only [step, hr]; rfl, ?_, h1, h2⟩
    cases h.antiScratch op with
    | none => rfl
    | some b => cases b <;> rfl
  | none =>
    right
    exact ⟨"index out of bounds: local_regs[&def_id]", by simp only [step, hr], rewriteList_none st.live as hr⟩

def anm : Hooks where
  general
    | .int => [10000, 10001, 10002, 10003, 10008, 10009]
    | .float => [10004, 10005, 10006, 10007]
  antiScratch op := if op = 509 then some .thisFunction else none

example : HooksOk anm := by unfold HooksOk; decide +kernel

/-- a body with two nested locals, one temporary and a register named at top level -/
def sample : List Stmt := [
  .alloc 1, .instr 0 255 6 (some [.loc 1 .int, .raw 10000 .int]),
  .alloc 2, .instr 0 255 6 (some [.loc 2 .float, .switch [.loc 1 .int, .absent, .raw 10004 .float, .absent]]),
  .free 2, .alloc 3, .instr 0 255 7 (some [.loc 3 .int, .loc 1 .int]), .free 3, .free 1]

def sampleTy : Def → RTy := fun d => if d = 2 then .float else .int

example : localsOf (assign .deep anm sampleTy [] sample) =
    some [⟨1, .int, 10001⟩, ⟨2, .float, 10005⟩, ⟨3, .int, 10002⟩] := by decide +kernel

example : ∀ x ∈ sample, StmtOk [] x :=
  fun x _ => stmtOk_nil x

/-- EoSD: the parameter registers `I0`/`F0` are general-purpose and are kept out of the pool -/
def eosd : Hooks where
  general
    | .int => [-10001, -10002, -10003, -10004, -10009, -10010, -10011, -10012]
    | .float => [-10005, -10006, -10007, -10008]
  antiScratch op := if op = 130 then some .waterElf else none

example : HooksOk eosd := by unfold HooksOk; decide +kernel

example : localsOf (assign .deep eosd (fun _ => .int) [⟨some 7, -10001, .int⟩, ⟨none, -10005, .float⟩]
      [.alloc 1, .instr 0 255 4 (some [.loc 1 .int, .loc 7 .int]), .free 1]) =
    some [⟨7, .int, -10001⟩, ⟨1, .int, -10002⟩] := by decide +kernel

def errOf : Outcome Result → Option String
  | .err c => some c
  | _ => none

example : errOf (assign .deep anm (fun _ => .int) [] [.alloc 1, .instr 0 255 509 (some []), .free 1]) = some errDisabled := by decide +kernel

example : errOf (assign .deep { anm with general := fun _ => [10000] } (fun _ => .int) []
    [.alloc 1, .alloc 2]) = some errTooComplex := by decide +kernel

end TruthModel.C05
