import TruthModel.Props.C03Instr
import TruthModel.Lemmas.Readers
/-
C16 — any binary input ends in success or a diagnostic, never a crash.
Instruction level: for every byte string and every format, `readInstr` and the script loop never panic,
each parsed instruction consumes at least a header (so the fuel `bs.length + 1` is never exhausted),
and no parsed blob is longer than the input.
-/
namespace TruthModel.C16
open TruthModel TruthModel.InstrIO

def Takes {α : Type} (n : Nat) (rd : Bytes → Option (α × Bytes)) : Prop :=
  ∀ {bs v r}, rd bs = some (v, r) → ∃ p : Bytes, p.length = n ∧ bs = p ++ r

theorem Takes.len {α : Type} {n : Nat} {rd : Bytes → Option (α × Bytes)} (h : Takes n rd) {bs : Bytes} {v : α}
    {r : Bytes} (e : rd bs = some (v, r)) : bs.length = r.length + n := by
  obtain ⟨p, hp, rfl⟩ := h e
  rw [List.length_append, hp, Nat.add_comm]

theorem Takes.map {α β : Type} {n : Nat} {rd : Bytes → Option (α × Bytes)} (h : Takes n rd) (g : α → β) :
    Takes n fun bs => (rd bs).map fun (v, r) => (g v, r) := by
  intro bs v r e
  dsimp only at e
  cases e' : rd bs with
  | none => rw [e'] at e; cases e
  | some x => rw [e'] at e; cases e; exact h e'

theorem Takes.spec {α : Type} {n : Nat} {rd : Bytes → Option (α × Bytes)} (h : Takes n rd) (bs : Bytes) :
    rd bs = none ∨ ∃ v r, rd bs = some (v, r) ∧ ∃ p : Bytes, p.length = n ∧ bs = p ++ r := by
  cases e : rd bs with
  | none => exact .inl rfl
  | some x => exact .inr ⟨x.1, x.2, rfl, h e⟩

theorem rdU8_takes : Takes 1 rdU8 := by
  intro bs v r h
  match bs, h with
  | a :: _, h => cases h; exact ⟨[a], rfl, rfl⟩

theorem rdU16_takes : Takes 2 rdU16 := by
  intro bs v r h
  match bs, h with
  | a :: b :: _, h => cases h; exact ⟨[a, b], rfl, rfl⟩

theorem rdU32_takes : Takes 4 rdU32 := by
  intro bs v r h
  match bs, h with
  | a :: b :: c :: d :: _, h => cases h; exact ⟨[a, b, c, d], rfl, rfl⟩

theorem rdI16_takes : Takes 2 rdI16 := rdU16_takes.map (signed 16)
theorem rdI32_takes : Takes 4 rdI32 := rdU32_takes.map (signed 32)

theorem rdBytes_takes {n : Nat} {bs b r : Bytes} (h : rdBytes n bs = some (b, r)) : b.length = n ∧ bs = b ++ r := by
  unfold rdBytes at h
  split at h
  next hle => cases h; exact ⟨by rw [List.length_take]; exact Nat.min_eq_left hle, (List.take_append_drop n bs).symm⟩
  · cases h

theorem rdU8_spec (bs : Bytes) :
    rdU8 bs = none ∨ ∃ v r, rdU8 bs = some (v, r) ∧ ∃ p : Bytes, p.length = 1 ∧ bs = p ++ r := rdU8_takes.spec bs
theorem rdU16_spec (bs : Bytes) :
    rdU16 bs = none ∨ ∃ v r, rdU16 bs = some (v, r) ∧ ∃ p : Bytes, p.length = 2 ∧ bs = p ++ r := rdU16_takes.spec bs
theorem rdU32_spec (bs : Bytes) :
    rdU32 bs = none ∨ ∃ v r, rdU32 bs = some (v, r) ∧ ∃ p : Bytes, p.length = 4 ∧ bs = p ++ r := rdU32_takes.spec bs
theorem rdI16_spec (bs : Bytes) :
    rdI16 bs = none ∨ ∃ v r, rdI16 bs = some (v, r) ∧ ∃ p : Bytes, p.length = 2 ∧ bs = p ++ r := rdI16_takes.spec bs
theorem rdI32_spec (bs : Bytes) :
    rdI32 bs = none ∨ ∃ v r, rdI32 bs = some (v, r) ∧ ∃ p : Bytes, p.length = 4 ∧ bs = p ++ r := rdI32_takes.spec bs
theorem rdBytes_spec (n : Nat) (bs : Bytes) :
    rdBytes n bs = none ∨ ∃ b r, rdBytes n bs = some (b, r) ∧ b.length = n ∧ bs = b ++ r := by
  cases e : rdBytes n bs with
  | none => exact .inl rfl
  | some x => exact .inr ⟨x.1, x.2, rfl, rdBytes_takes e⟩

theorem rdU8_len {bs : Bytes} {v : Nat} {r : Bytes} (h : rdU8 bs = some (v, r)) : bs.length = r.length + 1 :=
  rdU8_takes.len h
theorem rdU16_len {bs : Bytes} {v : Nat} {r : Bytes} (h : rdU16 bs = some (v, r)) : bs.length = r.length + 2 :=
  rdU16_takes.len h
theorem rdU32_len {bs : Bytes} {v : Nat} {r : Bytes} (h : rdU32 bs = some (v, r)) : bs.length = r.length + 4 :=
  rdU32_takes.len h
theorem rdI16_len {bs : Bytes} {v : Int} {r : Bytes} (h : rdI16 bs = some (v, r)) : bs.length = r.length + 2 :=
  rdI16_takes.len h
theorem rdBytes_len {n : Nat} {bs b r : Bytes} (h : rdBytes n bs = some (b, r)) : bs.length = r.length + n ∧ b.length = n := by
  obtain ⟨hb, rfl⟩ := rdBytes_takes h
  exact ⟨by rw [List.length_append, hb, Nat.add_comm], hb⟩

/-! All readers share the `match` on a primitive read of each type of value, so one lemma per type takes this step
at the head of the goal: a short read is the diagnostic, otherwise what follows sees the read and that the rest is
`n` bytes shorter. -/

namespace Ends
variable {β : Type} {L : List String} {Q : β → Prop} {bs : Bytes} {n : Nat}

theorem nat {rd : Bytes → Option (Nat × Bytes)} {k : Nat → Bytes → Outcome β} (ht : Takes n rd)
    (hk : ∀ v r, rd bs = some (v, r) → bs.length = r.length + n → Ends (eofErr :: L) Q (k v r)) :
    Ends (eofErr :: L) Q (match (generalizing := false) rd bs with | none => .err eofErr | some (v, r) => k v r) := by
  cases e : rd bs with
  | none => exact .head _
  | some p => exact hk p.1 p.2 e (ht.len e)

theorem int {rd : Bytes → Option (Int × Bytes)} {k : Int → Bytes → Outcome β} (ht : Takes n rd)
    (hk : ∀ v r, rd bs = some (v, r) → bs.length = r.length + n → Ends (eofErr :: L) Q (k v r)) :
    Ends (eofErr :: L) Q (match (generalizing := false) rd bs with | none => .err eofErr | some (v, r) => k v r) := by
  cases e : rd bs with
  | none => exact .head _
  | some p => exact hk p.1 p.2 e (ht.len e)

theorem blob {k : Bytes → Bytes → Outcome β}
    (hk : ∀ b r, bs.length = r.length + n → b.length = n → Ends (eofErr :: L) Q (k b r)) :
    Ends (eofErr :: L) Q (match (generalizing := false) rdBytes n bs with | none => .err eofErr | some (b, r) => k b r) := by
  cases e : rdBytes n bs with
  | none => exact .head _
  | some p => exact hk p.1 p.2 (rdBytes_len e).1 (rdBytes_len e).2

end Ends

/-- `k` bytes of an instruction header have been read and `bs` follows them: the reader ends in one of its two
diagnostics, or in a result whose instruction (if there is one) lies in `bs` as the rest of the header, the blob,
the rest.  With `k = 0` this describes `readInstr f bs`. -/
def Parsed (f : Fmt) (k : Nat) (bs : Bytes) : Outcome (ReadRes × Bytes) → Prop :=
  Ends [eofErr, badSize] fun p => ∀ i, p.1 = .instr i ∨ p.1 = .maybeTerminal i →
    ∃ hdr : Bytes, hdr.length + k = headerSize f ∧ bs = hdr ++ (i.blob ++ p.2)

namespace Parsed
variable {f : Fmt} {k : Nat} {bs : Bytes}

theorem eof : Parsed f k bs (.err eofErr) := List.mem_cons_self ..

theorem badSize : Parsed f k bs (.err badSize) := List.mem_cons_of_mem _ (List.mem_cons_self ..)

theorem noInstr {res : ReadRes} (r : Bytes) (h : ∀ i, res ≠ .instr i ∧ res ≠ .maybeTerminal i) :
    Parsed f k bs (.ok (res, r)) :=
  fun i hi => hi.elim (fun e => ((h i).1 e).elim) (fun e => ((h i).2 e).elim)

theorem terminal (r : Bytes) : Parsed f k bs (.ok (.terminal, r)) :=
  noInstr r fun _ => ⟨ReadRes.noConfusion, ReadRes.noConfusion⟩

theorem instr {i : Instr} {r : Bytes} (hk : k = headerSize f) (hb : bs = i.blob ++ r) : Parsed f k bs (.ok (.instr i, r)) := by
  intro j hj
  rcases hj with hj | hj <;> cases hj
  exact ⟨[], (Nat.zero_add k).trans hk, hb⟩

theorem maybeTerminal {i : Instr} {r : Bytes} (hk : k = headerSize f) (hb : bs = i.blob ++ r) :
    Parsed f k bs (.ok (.maybeTerminal i, r)) := by
  intro j hj
  rcases hj with hj | hj <;> cases hj
  exact ⟨[], (Nat.zero_add k).trans hk, hb⟩

theorem ite {c : Prop} [Decidable c] {a b : Outcome (ReadRes × Bytes)} (ht : c → Parsed f k bs a)
    (hf : ¬ c → Parsed f k bs b) : Parsed f k bs (if c then a else b) := Ends.ite ht hf

theorem step {α : Type} {n : Nat} {rd : Bytes → Option (α × Bytes)} {v : α} {r : Bytes} {o : Outcome (ReadRes × Bytes)}
    (ht : Takes n rd) (e : rd bs = some (v, r)) (h : Parsed f (k + n) r o) : Parsed f k bs o := by
  obtain ⟨p, hp, rfl⟩ := ht e
  refine h.mono (fun _ h => h) fun _ hq i hi => ?_
  obtain ⟨hdr, hl, hb⟩ := hq i hi
  exact ⟨p ++ hdr, by rw [List.length_append, hp]; omega, by rw [hb, List.append_assoc]⟩

theorem nat {n : Nat} {rd : Bytes → Option (Nat × Bytes)} {K : Nat → Bytes → Outcome (ReadRes × Bytes)} (ht : Takes n rd)
    (hk : ∀ v r, Parsed f (k + n) r (K v r)) :
    Parsed f k bs (match (generalizing := false) rd bs with | none => .err eofErr | some (v, r) => K v r) :=
  Ends.nat ht fun v r e _ => step ht e (hk v r)

theorem int {n : Nat} {rd : Bytes → Option (Int × Bytes)} {K : Int → Bytes → Outcome (ReadRes × Bytes)} (ht : Takes n rd)
    (hk : ∀ v r, Parsed f (k + n) r (K v r)) :
    Parsed f k bs (match (generalizing := false) rd bs with | none => .err eofErr | some (v, r) => K v r) :=
  Ends.int ht fun v r e _ => step ht e (hk v r)

theorem blob {n : Nat} {K : Bytes → Bytes → Outcome (ReadRes × Bytes)} (hk : ∀ b r, Parsed f k (b ++ r) (K b r)) :
    Parsed f k bs (match (generalizing := false) rdBytes n bs with | none => .err eofErr | some (b, r) => K b r) := by
  cases e : rdBytes n bs with
  | none => exact eof
  | some p => obtain ⟨_, rfl⟩ := rdBytes_takes e; exact hk p.1 p.2

end Parsed

theorem readInstr_msg (bs : Bytes) : Parsed .msg 0 bs (readInstr .msg bs) := by
  match bs with
  | [] => exact .noInstr _ fun _ => ⟨ReadRes.noConfusion, ReadRes.noConfusion⟩
  | [_] => exact .eof
  | a :: b :: bs =>
    rw [C03.readInstr_msg_cons]
    generalize a :: b :: bs = bs
    refine .int rdI16_takes fun time r => .nat rdU8_takes fun opcode r => .nat rdU8_takes fun argsize r =>
      .blob fun blob r => ?_
    exact .ite (fun _ => .maybeTerminal rfl rfl) fun _ => .instr rfl rfl

theorem readInstr_anm07 (bs : Bytes) : Parsed .anm07 0 bs (readInstr .anm07 bs) := by
  simp only [readInstr]
  exact .nat rdU16_takes fun opcode r => .nat rdU16_takes fun size r => .ite (fun _ => .terminal _) fun _ =>
    .int rdI16_takes fun time r => .nat rdU16_takes fun mask r => .ite (fun _ => .badSize) fun _ =>
    .blob fun blob r => .instr rfl rfl

/-- the two STD readers differ in how the size is checked, not in their steps -/
theorem readInstr_std (f : Fmt) (hf : f = .std06 ∨ f = .std10) (bs : Bytes) : Parsed f 0 bs (readInstr f bs) := by
  rcases hf with rfl | rfl <;>
  · simp only [readInstr]
    exact .int rdI32_takes fun time r => .nat rdU16_takes fun opcode r => .nat rdU16_takes fun size r =>
      .ite (fun _ => .terminal _) fun _ => .ite (fun _ => .badSize) fun _ => .blob fun blob r => .instr rfl rfl

/-- the two old ECL formats share one reader and one header size -/
theorem readInstr_ecl (f : Fmt) (hf : f = .ecl06 ∨ f = .ecl07) (bs : Bytes) : Parsed f 0 bs (readInstr f bs) := by
  have hh : 12 = headerSize f := by rcases hf with rfl | rfl <;> rfl
  have hr : readInstr f bs = readInstr .ecl07 bs := by rcases hf with rfl | rfl <;> rfl
  rw [hr]
  simp only [readInstr]
  exact .int rdI32_takes fun time r => .nat rdU16_takes fun opcode r => .int rdI16_takes fun size r =>
    .nat rdU8_takes fun pad r => .nat rdU8_takes fun difficulty r => .nat rdU16_takes fun mask r =>
    .ite (fun _ => .badSize) fun _ => .blob fun blob r => .ite (fun _ => .terminal _) fun _ => .instr hh rfl

theorem readInstr_tl06 (bs : Bytes) : Parsed .tl06 0 bs (readInstr .tl06 bs) := by
  simp only [readInstr]
  exact .int rdI16_takes fun time r => .int rdI16_takes fun arg0 r => .ite (fun _ => .terminal _) fun _ =>
    .nat rdU16_takes fun opcode r => .int rdI16_takes fun size r => .ite (fun _ => .badSize) fun _ =>
    .blob fun blob r => .instr rfl rfl

theorem readInstr_tl08 (bs : Bytes) : Parsed .tl08 0 bs (readInstr .tl08 bs) := by
  simp only [readInstr]
  exact .int rdI32_takes fun time r => .nat rdU16_takes fun opcode r => .nat rdU8_takes fun size r =>
    .nat rdU8_takes fun difficulty r => .ite (fun _ => .terminal _) fun _ => .ite (fun _ => .badSize) fun _ =>
    .blob fun blob r => .instr rfl rfl

theorem readInstr_ends (f : Fmt) (bs : Bytes) : Parsed f 0 bs (readInstr f bs) := by
  cases f
  · exact readInstr_msg bs
  · exact readInstr_anm07 bs
  · exact readInstr_std _ (.inl rfl) bs
  · exact readInstr_std _ (.inr rfl) bs
  · exact readInstr_ecl _ (.inl rfl) bs
  · exact readInstr_ecl _ (.inr rfl) bs
  · exact readInstr_tl06 bs
  · exact readInstr_tl08 bs

theorem readInstr_shape (f : Fmt) (bs : Bytes) (res : ReadRes) (rest : Bytes) (i : Instr)
    (h : readInstr f bs = .ok (res, rest)) (hi : res = .instr i ∨ res = .maybeTerminal i) :
    ∃ hdr : Bytes, hdr.length = headerSize f ∧ bs = hdr ++ (i.blob ++ rest) :=
  (readInstr_ends f bs).of_ok h i hi

theorem readInstr_no_panic (f : Fmt) (bs : Bytes) : (readInstr f bs).isPanic = false :=
  (readInstr_ends f bs).isPanic

theorem readInstr_err (f : Fmt) (bs : Bytes) (c : String) (h : readInstr f bs = .err c) :
    c = eofErr ∨ c = badSize := by
  have := (readInstr_ends f bs).errIn c h
  simpa only [List.mem_cons, List.not_mem_nil, or_false] using this

theorem readInstr_consumes (f : Fmt) (bs : Bytes) (r : ReadRes) (rest : Bytes) (i : Instr)
    (h : readInstr f bs = .ok (r, rest)) (hi : r = .instr i ∨ r = .maybeTerminal i) :
    rest.length + headerSize f ≤ bs.length ∧ rest <:+ bs := by
  obtain ⟨hdr, hl, rfl⟩ := readInstr_shape f bs r rest i h hi
  constructor
  · rw [List.length_append, List.length_append, hl, Nat.add_comm]
    exact Nat.add_le_add_left (Nat.le_add_left ..) _
  · exact ⟨hdr ++ i.blob, by simp only [List.append_assoc]⟩

theorem readInstr_alloc_bound (f : Fmt) (bs : Bytes) (r : ReadRes) (rest : Bytes) (i : Instr)
    (h : readInstr f bs = .ok (r, rest)) (hi : r = .instr i ∨ r = .maybeTerminal i) :
    i.blob.length ≤ bs.length := by
  obtain ⟨hdr, hl, rfl⟩ := readInstr_shape f bs r rest i h hi
  rw [List.length_append, List.length_append]
  exact Nat.le_trans (Nat.le_add_right ..) (Nat.le_add_left ..)

theorem headerSize_pos (f : Fmt) : 0 < headerSize f := by cases f <;> decide

theorem readInstr_size {f : Fmt} {bs : Bytes} {res : ReadRes} {r : Bytes} {i : Instr}
    (h : readInstr f bs = .ok (res, r)) (hi : res = .instr i ∨ res = .maybeTerminal i) :
    instrSize f i + r.length = bs.length := by
  obtain ⟨hdr, hl, rfl⟩ := readInstr_shape f bs res r i h hi
  rw [List.length_append, List.length_append, hl, instrSize, Nat.add_assoc]

/-- bytes of a script as stored (headers + argument blobs): what the reader allocates for it, up to a constant per instruction -/
def sizeSum (f : Fmt) (is : List Instr) : Nat := (is.map (instrSize f)).sum

theorem sizeSum_cons (f : Fmt) (i : Instr) (is : List Instr) : sizeSum f (i :: is) = instrSize f i + sizeSum f is := by
  simp only [sizeSum, List.map_cons, List.sum_cons]

theorem sizeSum_reverse (f : Fmt) (is : List Instr) : sizeSum f is.reverse = sizeSum f is := by
  simp only [sizeSum, List.map_reverse, List.sum_reverse]

theorem sizeSum_commit_le (f : Fmt) (p : Option Instr) (acc : List Instr) : sizeSum f acc ≤ sizeSum f (Files.commit p acc) := by
  cases p with
  | none => exact Nat.le_refl _
  | some i => simp only [Files.commit, sizeSum_cons]; exact Nat.le_add_left _ _

/-- With more fuel than input (each iteration consumes at least a header) the script loop never ends in the
internal "fuel" diagnostic; `L` has to hold "read past end" only if there is an end offset. -/
theorem readInstrsEndAux_ends (f : Fmt) (e : Option Nat) {L : List String} (h1 : eofErr ∈ L) (h2 : badSize ∈ L)
    (h3 : e ≠ none → Files.readPastEnd ∈ L)
    (n : Nat) (pending : Option Instr) (acc : List Instr) (cur : Nat) (bs : Bytes) (hn : bs.length < n) :
      Ends L (fun is => sizeSum f is ≤ sizeSum f (Files.commit pending acc) + bs.length)
        (Files.readInstrsEndAux f e n pending acc cur bs) := by
  have stop : ∀ (pending : Option Instr) (acc : List Instr) (bs : Bytes),
      Ends L (fun is => sizeSum f is ≤ sizeSum f (Files.commit pending acc) + bs.length) (.ok acc.reverse) :=
    fun pending acc bs =>
      .ok (by rw [sizeSum_reverse]; exact Nat.le_trans (sizeSum_commit_le f pending acc) (Nat.le_add_right ..))
  have step : ∀ {i : Instr} {r bs : Bytes} {n : Nat}, instrSize f i + r.length = bs.length → bs.length < n + 1 → r.length < n :=
    fun hs hn => Nat.lt_of_lt_of_le
      (hs ▸ Nat.lt_add_of_pos_left (Nat.lt_of_lt_of_le (headerSize_pos f) (Nat.le_add_right ..))) (Nat.le_of_lt_succ hn)
  fun_induction Files.readInstrsEndAux f e n pending acc cur bs with
  | case1 => exact absurd hn (Nat.not_lt_zero _)
  | case2 => exact stop ..
  | case3 _ _ _ cur _ hc => exact .err (h3 (by rintro rfl; cases hc))
  | case4 => exact stop ..
  | case5 => exact stop ..
  | case6 n pending acc cur bs _ i r h ih =>
    have hs := readInstr_size h (.inl rfl)
    refine (ih (step hs hn)).mono (fun _ hc => hc) fun is his => Nat.le_trans his (Nat.le_of_eq ?_)
    show sizeSum f (i :: Files.commit pending acc) + r.length = _
    rw [sizeSum_cons, Nat.add_right_comm, hs, Nat.add_comm]
  | case7 n pending acc cur bs _ i r h ih =>
    have hs := readInstr_size h (.inr rfl)
    refine (ih (step hs hn)).mono (fun _ hc => hc) fun is his => Nat.le_trans his (Nat.le_of_eq ?_)
    show sizeSum f (i :: Files.commit pending acc) + r.length = _
    rw [sizeSum_cons, Nat.add_right_comm, hs, Nat.add_comm]
  | case8 _ _ _ _ bs _ c h =>
    rcases readInstr_err f bs c h with rfl | rfl
    · exact .err h1
    · exact .err h2
  | case9 _ _ _ _ bs _ s h => exact (readInstr_ends f bs).panic_of h

def instrReadErrs : List String := [eofErr, badSize, Files.readPastEnd]

theorem instrReadErrs_sub (L : List String) : ∀ c ∈ instrReadErrs, c ∈ eofErr :: badSize :: Files.readPastEnd :: L :=
  fun _ h => List.mem_append_left L h

/-- `readInstrs` is the loop without an end offset, where "read past end" cannot occur -/
theorem readInstrs_ends (f : Fmt) (bs : Bytes) :
    Ends [eofErr, badSize] (fun is => sizeSum f is ≤ bs.length) (readInstrs f bs) := by
  unfold readInstrs
  rw [← C03.readInstrsEndAux_none f _ none [] 0 bs]
  exact (readInstrsEndAux_ends f none (.head _) (.tail _ (.head _)) (fun h => (h rfl).elim) _ none [] 0 bs
    (Nat.lt_succ_self _)).mono (fun _ h => h)
    fun is h => by simpa only [Files.commit, sizeSum, List.map_nil, List.sum_nil, Nat.zero_add] using h

theorem readInstrs_fuel_suffices (f : Fmt) (bs : Bytes) : readInstrs f bs ≠ .err "fuel" := fun h =>
  absurd ((readInstrs_ends f bs).errIn _ h) (by decide)

theorem readInstrs_no_panic (f : Fmt) (bs : Bytes) : (readInstrs f bs).isPanic = false :=
  (readInstrs_ends f bs).isPanic

theorem readInstrs_total (f : Fmt) (bs : Bytes) :
    (∃ is, readInstrs f bs = .ok is) ∨ readInstrs f bs = .err eofErr ∨ readInstrs f bs = .err badSize := by
  rcases (readInstrs_ends f bs).total with h | ⟨c, hc, h⟩
  · exact .inl h
  · simp only [List.mem_cons, List.not_mem_nil, or_false] at hc
    rcases hc with rfl | rfl
    · exact .inr (.inl h)
    · exact .inr (.inr h)

end TruthModel.C16
