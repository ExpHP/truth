import TruthModel.Props.C03Anm
/-
C16, ANM container: the allocation of `read_anm` is not bounded by a reasonable multiple of the input.  `sharedTexAnm n k`: `n` TH11+
entry headers behind each other, all pointing at one 16-byte path block and one THTX section of `k` bytes; `read_anm` returns `n`
entries that each own a copy of the `k` bytes (`anm_shared_texture_reads`).  `n = 1500`, `k = 150000` (246 032 bytes; the file the
harness replays on the implementation: 394 MB of heap) refutes the bound the search oracle applies (`anm_read_alloc_bound_full_false`).
`sharedScriptAnm n k`: one entry whose `n` script table entries point at one script of `k` instructions, read as `n` scripts
(`anm_alloc_amplification_script`, by evaluation).  The entries of `sharedTexAnm` are read through the lemmas that invert what the
writer lays out (`readAnmEntry_of_parts`, `headerOk_of_bounds`, `readTexture_write`), hence the import of `Props/C03Anm.lean`.
-/
namespace TruthModel.C16
open TruthModel TruthModel.InstrIO TruthModel.Files TruthModel.C03

/-- header of entry `i` of `n` TH11+ entries that lie behind each other and share the path block and the THTX
section that follow the last header -/
def sharedTexHeader (n i : Nat) : AnmHeader :=
  { version := 7, numSprites := 0, numScripts := 0, rtWidth := 16, rtHeight := 16, rtFormat := 1, nameOffset := 64 * (n - i),
    secNameOffset := 0, colorkey := 0, offsetX := 0, offsetY := 0, memoryPriority := 0, thtxOffset := 64 * (n - i) + 16,
    hasData := 1, lowResScale := 0, nextOffset := if i + 1 < n then 64 else 0 }

def sharedTexHeaders (n : Nat) : Nat → Bytes
  | 0 => []
  | k + 1 => anmHeaderBytes anmV7 (sharedTexHeader n (n - (k + 1))) ++ sharedTexHeaders n k

/-- `n` entries, one texture of `k` bytes: `64 n + 32 + k` bytes of input -/
def sharedTexAnm (n k : Nat) : Bytes :=
  sharedTexHeaders n n ++ (0x61 :: Abi.zeros 15) ++ writeTexture ⟨7, 1, 1⟩ (List.replicate k 0x55)

theorem sharedTexHeaders_succ (n j : Nat) :
    sharedTexHeaders n (j + 1) = anmHeaderBytes anmV7 (sharedTexHeader n (n - (j + 1))) ++ sharedTexHeaders n j := rfl

theorem sharedTexHeaders_length (n : Nat) : ∀ j, (sharedTexHeaders n j).length = 64 * j := by
  intro j
  induction j with
  | zero => rfl
  | succ j ih => rw [sharedTexHeaders_succ, List.length_append, anmHeaderBytes_length, ih, Nat.mul_succ, Nat.add_comm]

theorem sharedTexHeaders_drop (n : Nat) : ∀ m j, (sharedTexHeaders n (j + m)).drop (64 * m) = sharedTexHeaders n j := by
  intro m
  induction m with
  | zero => intro j; rfl
  | succ m ih =>
    intro j
    have h1 : j + (m + 1) = (j + m) + 1 := rfl
    have h2 : 64 * (m + 1) = 64 + 64 * m := by rw [Nat.mul_succ, Nat.add_comm]
    rw [h1, sharedTexHeaders_succ, h2, ← List.drop_drop, List.drop_left' (anmHeaderBytes_length _ _), ih]

/-- the path block and the THTX section all entries share -/
def sharedTexTail (k : Nat) : Bytes := (0x61 :: Abi.zeros 15) ++ writeTexture ⟨7, 1, 1⟩ (List.replicate k 0x55)

theorem sharedTexAnm_eq (n k : Nat) : sharedTexAnm n k = sharedTexHeaders n n ++ sharedTexTail k := by
  simp only [sharedTexAnm, sharedTexTail, List.append_assoc]

theorem sharedTexAnm_length (n k : Nat) : (sharedTexAnm n k).length = 64 * n + 32 + k := by
  rw [sharedTexAnm_eq, List.length_append, sharedTexHeaders_length, sharedTexTail, List.length_append, writeTexture_length]
  simp [Abi.zeros]
  omega

theorem sharedTex_seek (n k i : Nat) (hi : i ≤ n) :
    seek (sharedTexAnm n k) (64 * i) = sharedTexHeaders n (n - i) ++ sharedTexTail k := by
  rw [sharedTexAnm_eq]
  unfold seek
  rw [List.drop_append_of_le_length (by rw [sharedTexHeaders_length]; exact Nat.mul_le_mul_left 64 hi)]
  have : sharedTexHeaders n n = sharedTexHeaders n ((n - i) + i) := by rw [Nat.sub_add_cancel hi]
  rw [this, sharedTexHeaders_drop]

def sharedTexEntry (k : Nat) : AnmEntry :=
  { specs := { rtWidth := 16, rtHeight := 16, rtFormat := 1 }, path := [0x61], texMeta := some ⟨7, 1, 1⟩,
    texData := some (List.replicate k 0x55) }

theorem sharedTex_entry (n k i idx : Nat) (hi : i < n) (hlen : 64 * n + 32 + k < 2 ^ 32) :
    readAnmEntry (fun _ => true) anmV7 true (sharedTexAnm n k) (64 * i) idx = .ok (sharedTexEntry k, if i + 1 < n then 64 else 0) := by
  have hs0 := sharedTex_seek n k i (Nat.le_of_lt hi)
  obtain ⟨j, hj⟩ : ∃ j, n - i = j + 1 := Nat.exists_eq_succ_of_ne_zero (Nat.sub_ne_zero_of_lt hi)
  have hji : n - (j + 1) = i := by rw [← hj, Nat.sub_sub_self (Nat.le_of_lt hi)]
  rw [hj, sharedTexHeaders_succ, hji, List.append_assoc] at hs0
  have hsn : seek (sharedTexAnm n k) (64 * i + 64 * (n - i)) = Abi.nullPad 16 [0x61] ++ writeTexture ⟨7, 1, 1⟩ (List.replicate k 0x55) := by
    have := sharedTex_seek n k n (Nat.le_refl _)
    rw [Nat.sub_self] at this
    rw [← Nat.mul_add, Nat.add_sub_of_le (Nat.le_of_lt hi), this]
    rfl
  have htexpos : seek (sharedTexAnm n k) (64 * i + (64 * (n - i) + 16)) = writeTexture ⟨7, 1, 1⟩ (List.replicate k 0x55) ++ [] := by
    rw [← Nat.add_assoc]
    exact (seek_step hsn (by decide)).trans (List.append_nil _).symm
  have hok : headerOk anmV7 (sharedTexHeader n i) = true := by
    have h2 : 64 * (n - i) + 16 < 4294967296 :=
      Nat.lt_of_le_of_lt (Nat.add_le_add (Nat.mul_le_mul_left 64 (Nat.sub_le n i)) (show 16 ≤ 32 by decide))
        (Nat.lt_of_le_of_lt (Nat.le_add_right _ k) hlen)
    -- the other fields are numerals
    have lt : ∀ {a b : Nat}, Nat.ble (a + 1) b = true → a < b := Nat.le_of_ble_eq_true
    exact headerOk_of_bounds rfl (lt rfl) (lt rfl) (lt rfl) (lt rfl) (lt rfl) (lt rfl) (lt rfl)
      (Nat.lt_of_le_of_lt (Nat.le_add_right _ _) h2) (lt rfl) (lt rfl) h2
      (show (if i + 1 < n then 64 else 0) < 4294967296 by split <;> decide) (lt rfl) (lt rfl)
  have hne : 64 * (n - i) + 16 ≠ 0 := Nat.succ_ne_zero _
  have hrtex : readAnmTexture true (sharedTexAnm n k) (64 * i) (sharedTexHeader n i).thtxOffset =
      .ok (some ⟨7, 1, 1⟩, some (List.replicate k 0x55)) := by
    simp only [readAnmTexture, sharedTexHeader, hne, if_false, htexpos,
      readTexture_write true ⟨7, 1, 1⟩ (List.replicate k 0x55) [] (by decide) (by decide) (by decide)
        (by rw [List.length_replicate]; exact Nat.lt_of_le_of_lt (Nat.le_add_left _ _) hlen), if_true]
  have hcons : ((decide ((sharedTexHeader n i).hasData = 0) || ([0x61] : Bytes).head? == some 0x40)
      != decide ((sharedTexHeader n i).thtxOffset = 0)) = false := by
    show ((decide ((1 : Nat) = 0) || _) != decide (64 * (n - i) + 16 = 0)) = false
    rw [decide_eq_false hne]
    rfl
  rw [readAnmEntry_of_parts (so := []) (st := []) (path2 := none) (sprites := []) (scripts := [])
    ((congrArg (readAnmHeader anmV7) hs0).trans (readAnmHeader_write anmV7 (sharedTexHeader n i) _ hok)) rfl rfl
    ((congrArg (readAnmStr fun _ => true) hsn).trans (readAnmStr_write (fun _ => true) [0x61] _ (by decide) rfl))
    rfl rfl rfl hcons hrtex]
  rfl

theorem sharedTex_loop (n k : Nat) (hlen : 64 * n + 32 + k < 2 ^ 32) :
    ∀ (j i : Nat), i + j = n → 1 ≤ j → ∀ (fuel : Nat) (seen : List Nat) (idx : Nat) (acc : List AnmEntry), j ≤ fuel →
      (∀ s ∈ seen, s < 64 * i) →
      readAnmLoop (fun _ => true) anmV7 true (sharedTexAnm n k) fuel seen (64 * i) idx acc =
        .ok (acc.reverse ++ List.replicate j (sharedTexEntry k)) := by
  intro j
  induction j with
  | zero => intro _ _ h; exact absurd h (Nat.not_succ_le_zero 0)
  | succ j ih =>
    intro i hij _ fuel seen idx acc hfuel hseen
    cases fuel with
    | zero => exact absurd hfuel (Nat.not_succ_le_zero j)
    | succ f =>
      have hnot : seen.contains (64 * i) = false :=
        Bool.eq_false_iff.2 fun hc => Nat.lt_irrefl _ (hseen _ (List.contains_iff_mem.1 hc))
      have hi : i < n := hij ▸ Nat.lt_add_of_pos_right (Nat.succ_pos j)
      rw [readAnmLoop, hnot]
      simp only [Bool.false_eq_true, if_false, sharedTex_entry n k i idx hi hlen]
      cases j with
      | zero =>
        have : ¬ (i + 1 < n) := hij ▸ Nat.lt_irrefl _
        simp only [this, if_false, if_true, List.reverse_cons, List.replicate]
      | succ j =>
        have hlt : i + 1 < n := hij ▸ Nat.add_lt_add_left (Nat.succ_lt_succ (Nat.succ_pos j)) i
        simp only [hlt, if_true, show (64 : Nat) ≠ 0 by decide, if_false]
        have hsc : (sharedTexEntry k).scripts.length = 0 := rfl
        rw [← Nat.mul_succ, hsc, ih (i + 1) ((Nat.succ_add i (j + 1)).trans hij) (Nat.succ_pos j) f _ _ _ (Nat.le_of_succ_le_succ hfuel)
          (by
            have hstep : 64 * i < 64 * (i + 1) := Nat.mul_lt_mul_of_pos_left (Nat.lt_succ_self i) (by decide)
            exact List.forall_mem_cons.2 ⟨hstep, fun s hs => Nat.lt_trans (hseen s hs) hstep⟩)]
        simp only [List.reverse_cons, List.append_assoc, List.singleton_append, List.replicate_succ]

theorem stripEntries_sharedTex (k : Nat) : ∀ (n : Nat) (auto : UInt32),
    stripEntries auto (List.replicate n (sharedTexEntry k)) = List.replicate n (sharedTexEntry k) := by
  intro n
  induction n with
  | zero => intro _; rfl
  | succ n ih =>
    intro auto
    have h1 : stripSprites auto (sharedTexEntry k).sprites = ([], auto) := rfl
    have h2 : ({ sharedTexEntry k with sprites := [] } : AnmEntry) = sharedTexEntry k := rfl
    simp only [List.replicate_succ, stripEntries, h1, h2, ih]

/-- **Amplification, for every size**: the file of `n` entry headers that share one THTX section of `k` bytes
(`64 n + 32 + k` bytes) is accepted by `read_anm` and read as `n` entries with `k` bytes of image data each. -/
theorem anm_shared_texture_reads (n k : Nat) (hn : 0 < n) (hlen : 64 * n + 32 + k < 2 ^ 32) :
    readAnm (fun _ => true) anmV7 true (sharedTexAnm n k) = .ok ⟨List.replicate n (sharedTexEntry k)⟩ := by
  have := sharedTex_loop n k hlen n 0 (Nat.zero_add n) hn ((sharedTexAnm n k).length + 1) [] 0 []
    (by rw [sharedTexAnm_length]; omega) (fun s hs => nomatch hs)
  simp only [Nat.mul_zero, List.reverse_nil, List.nil_append] at this
  unfold readAnm
  rw [this]
  simp only [stripEntries_sharedTex]

def texLens (o : Outcome AnmFile) : List Nat :=
  match o with
  | .ok f => f.entries.map fun e => match e.texData with | some d => d.length | none => 0
  | _ => []

/-- **Amplification witness (texture)**: the 264-byte file `sharedTexAnm 3 40` stores 40 bytes of image data and
reads as 3 entries with 40 bytes each: every entry materialises the shared THTX section again (`n x k` bytes
from `64 n + 32 + k` bytes of input).  On the implementation: 1500 entries x 150 kB = 246 kB of input,
394 MB allocated. -/
theorem anm_alloc_amplification_texture :
    (sharedTexAnm 3 40).length = 264 ∧ texLens (readAnm (fun _ => true) anmV7 true (sharedTexAnm 3 40)) = [40, 40, 40] :=
  ⟨sharedTexAnm_length 3 40, by rw [anm_shared_texture_reads 3 40 (by decide) (by decide)]; rfl⟩

theorem anmCost_sharedTex (n k : Nat) : anmCost anmV7 ⟨List.replicate n (sharedTexEntry k)⟩ = n * (65 + k) := by
  have : anmEntryCost anmV7.instr (sharedTexEntry k) = 65 + k := by
    simp [anmEntryCost, sharedTexEntry]
  simp only [anmCost, List.map_replicate, this, List.sum_replicate_nat]

/-- **the bound of the search oracle does not hold for `read_anm`**: 1500 entries sharing a texture of 150 000 bytes
(246 032 bytes of input) make the reader build 225 MB. -/
theorem anm_read_alloc_bound_full_false : ¬ anm_read_alloc_bound_full := by
  intro h
  have hr := anm_shared_texture_reads 1500 150000 (by decide) (by decide)
  have := h (fun _ => true) anmV7 true _ _ hr
  rw [anmCost_sharedTex, sharedTexAnm_length] at this
  exact absurd this (by decide)

def sharedScriptHeader (n : Nat) : AnmHeader :=
  { version := 7, numSprites := 0, numScripts := n, rtWidth := 16, rtHeight := 16, rtFormat := 1, nameOffset := 64 + 8 * n,
    secNameOffset := 0, colorkey := 0, offsetX := 0, offsetY := 0, memoryPriority := 0, thtxOffset := 0,
    hasData := 0, lowResScale := 0, nextOffset := 0 }

/-- one TH11+ entry whose `n` script table entries all point at one script of `k` instructions -/
def sharedScriptAnm (n k : Nat) : Bytes :=
  anmHeaderBytes anmV7 (sharedScriptHeader n)
    ++ ((List.range n).map fun i => u32 i ++ u32 (64 + 8 * n + 16)).flatten ++ (0x61 :: Abi.zeros 15)
    ++ (List.replicate k (u16 1 ++ u16 8 ++ u16 0 ++ u16 0)).flatten ++ writeTerminal .anm07

def scriptLens (o : Outcome AnmFile) : List Nat :=
  match o with
  | .ok f => (f.entries.map fun e => e.scripts.map fun s => s.2.instrs.length).flatten
  | _ => []

/-- **Amplification witness (script)**: the 152-byte file `sharedScriptAnm 4 4` stores one script of 4 instructions
and reads as 4 scripts of 4 instructions (`n x k` instructions from `80 + 8 n + 8 k + 8` bytes).  On the
implementation: 4000 table entries x 600 instructions = 37 kB of input, 165 MB allocated. -/
theorem anm_alloc_amplification_script :
    (sharedScriptAnm 4 4).length = 152 ∧ scriptLens (readAnm (fun _ => true) anmV7 true (sharedScriptAnm 4 4)) = [4, 4, 4, 4] := by
  decide +kernel

end TruthModel.C16
