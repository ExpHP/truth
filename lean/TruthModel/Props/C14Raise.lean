import TruthModel.Props.C14
/-
C14, decompile direction.  What `recognize_diff_switch` folds is a `Chain`: instructions whose difficulty parts are
the runs between increasing stops (`fold_spec`); `expandCore_eq` turns the folded statement back into those
instructions (`expand_folded`, `fold_lowers`), hence `recognize_sound`.  Conversely the copies of a `Canonical`
statement are a chain that the loop collects in full (`chain_of_stops`, `fold_of_chain`), hence `recognize_expand`.
-/
namespace TruthModel.C14
open TruthModel TruthModel.Diff TruthModel.DiffRaise

/-- invariant of the instructions collected by the loop of `recognize_diff_switch`: each one starts
at the difficulty where the previous one stopped, its difficulty part is exactly that contiguous run,
its default-on part, kind and time are those of the first, and none but the first has a label.  The first index
is `next_difficulty` on entry; the `Bool` says that an instruction has been gathered before
(`explicit_parts.len() > 0`) and exists only to switch on the no-label premise. -/
inductive Chain (d : Defs) (first : RInstr) : Nat → Bool → List Rung → Prop where
  | nil {next nz} : Chain d first next nz []
  | cons {next nz r rs} :
      r.start = next → r.start < r.stop → r.stop ≤ 8 →
      diffPart d r.instr.mask = rangeMask r.start r.stop →
      r.instr.mask &&& auxBits d = first.mask &&& auxBits d →
      sameKind r.instr first = true → r.instr.time = first.time →
      (nz = true → r.instr.label = false) →
      Chain d first r.stop true rs → Chain d first next nz (r :: rs)

theorem gather_chain (d : Defs) (first : RInstr) (l : List RInstr) (next n : Nat) :
    Chain d first next (decide (0 < n)) (gather d first l next n) ∧
    ∃ tl, l = (gather d first l next n).map (·.instr) ++ tl := by
  fun_induction gather d first l next n with
  | case1 => exact ⟨.nil, [], rfl⟩
  | case2 | case3 | case4 | case5 => exact ⟨.nil, _, rfl⟩
  | case6 i rest next n h1 h2 h3 h4 ih =>
    simp only [Bool.not_eq_true, Bool.or_eq_false_iff, Bool.not_eq_false', bne_eq_false_iff_eq, Bool.and_eq_true,
      beq_iff_eq] at h1 h3 h4
    obtain ⟨hr, hlen, h8⟩ := contiguous_is_range _ next h4.1 h4.2
    obtain ⟨ihc, tl, htl⟩ := ih
    refine ⟨.cons rfl (Nat.lt_add_of_pos_right hlen) h8 hr h1 h3.1 h3.2 (fun hn => ?_) (decide_eq_true (Nat.succ_pos n) ▸ ihc), tl,
      congrArg (i :: ·) htl⟩
    cases hl : i.label with
    | false => rfl
    | true => rw [hn, hl] at h2; exact absurd rfl h2

theorem numDifficulties_cons (r : Rung) {rs : List Rung} (hne : rs ≠ []) : numDifficulties (r :: rs) = numDifficulties rs := by
  obtain ⟨q, qs, rfl⟩ := List.exists_cons_of_ne_nil hne
  simp [numDifficulties, List.getLast?_cons_cons]

/-- what holds of every rung of a chain that begins at `next` and covers the difficulties up to `num` -/
structure InChain (d : Defs) (first : RInstr) (next num : Nat) (r : Rung) : Prop where
  le : next ≤ r.start
  lt : r.start < r.stop
  stop_le : r.stop ≤ num
  num_le : num ≤ 8
  diff : diffPart d r.instr.mask = rangeMask r.start r.stop
  aux : r.instr.mask &&& auxBits d = first.mask &&& auxBits d
  kind : sameKind r.instr first = true
  time : r.instr.time = first.time

theorem InChain.start_lt {d first next num r} (h : InChain d first next num r) : r.start < num :=
  Nat.lt_of_lt_of_le h.lt h.stop_le

theorem chain_mem {d first next nz rs} (h : Chain d first next nz rs) :
    ∀ r ∈ rs, InChain d first next (numDifficulties rs) r := by
  induction h with
  | nil => exact fun _ hr => nomatch hr
  | @cons next nz r rs h1 h2 h3 h4 h5 h6 h7 _ hc ih =>
    cases rs with
    | nil =>
      intro q hq
      cases List.mem_singleton.mp hq
      exact ⟨Nat.le_of_eq h1.symm, h2, Nat.le_refl _, h3, h4, h5, h6, h7⟩
    | cons q qs =>
      have hq := ih q (List.mem_cons_self ..)
      rw [numDifficulties_cons _ (List.cons_ne_nil _ _)]
      refine List.forall_mem_cons.mpr ⟨⟨Nat.le_of_eq h1.symm, h2, Nat.le_trans hq.le (Nat.le_of_lt hq.start_lt), hq.num_le,
        h4, h5, h6, h7⟩, fun p hp => ?_⟩
      exact { ih p hp with le := Nat.le_trans (h1 ▸ Nat.le_of_lt h2) (ih p hp).le }

theorem chain_num_le {d first next nz rs} (h : Chain d first next nz rs) : numDifficulties rs ≤ 8 := by
  cases rs with
  | nil => exact Nat.zero_le 8
  | cons r rs => exact (chain_mem h r (List.mem_cons_self ..)).num_le

theorem chain_sorted {d first next nz rs} (h : Chain d first next nz rs) : (rs.map (·.start)).Pairwise (· < ·) := by
  induction h with
  | nil => exact .nil
  | @cons next nz r rs h1 h2 h3 h4 h5 h6 h7 h8 hc ih =>
    refine List.pairwise_cons.mpr ⟨fun s hs => ?_, ih⟩
    obtain ⟨q, hq, rfl⟩ := List.mem_map.mp hs
    exact Nat.lt_of_lt_of_le h2 (chain_mem hc q hq).le

theorem chain_ranges {d first next nz rs} (h : Chain d first next nz rs) (hne : rs ≠ []) :
    ranges (rs.map (·.start) ++ [numDifficulties rs]) = rs.map (fun r => (r.start, r.stop)) := by
  induction h with
  | nil => exact absurd rfl hne
  | @cons next nz r rs h1 h2 h3 h4 h5 h6 h7 h8 hc ih =>
    cases hc with
    | nil => simp [ranges, numDifficulties]
    | @cons _ _ q qs g1 g2 g3 g4 g5 g6 g7 g8 gc =>
      rw [numDifficulties_cons _ (List.cons_ne_nil _ _)]
      have := ih (List.cons_ne_nil _ _)
      simp only [List.map_cons, List.cons_append, g1] at this
      simp only [List.map_cons, List.cons_append, ranges, this, g1]

theorem chain_tail_nolabel {d first next rs} (h : Chain d first next true rs) : ∀ r ∈ rs, r.instr.label = false := by
  generalize hnz : true = nz at h
  induction h with
  | nil => exact fun _ hr => nomatch hr
  | @cons next nz r rs h1 h2 h3 h4 h5 h6 h7 h8 hc ih => exact List.forall_mem_cons.mpr ⟨h8 hnz.symm, ih rfl⟩

theorem chain_rest_nolabel {d first next nz r rs} (h : Chain d first next nz (r :: rs)) : ∀ q ∈ rs, q.instr.label = false := by
  cases h with
  | cons _ _ _ _ _ _ _ _ hc => exact chain_tail_nolabel hc

theorem explicitMask_eq (rs : List Rung) :
    explicitMask rs = (rs.map (·.start)).foldl (fun m i => setBit m i true) 0#8 := by
  unfold explicitMask; rw [List.foldl_map]

theorem explicitMask_get (rs : List Rung) (i : Nat) (hi : i < 8) :
    (explicitMask rs).getLsbD i = decide (i ∈ rs.map (·.start)) := by
  rw [explicitMask_eq, getLsbD_ofList _ _ hi]

theorem chain_bitsOf_explicit {d first next nz rs} (h : Chain d first next nz rs) :
    bitsOf (explicitMask rs) = rs.map (·.start) := by
  rw [explicitMask_eq]
  refine bitsOf_ofList _ (chain_sorted h) ?_
  intro x hx
  obtain ⟨q, hq, rfl⟩ := List.mem_map.mp hx
  exact Nat.lt_of_lt_of_le (chain_mem h q hq).start_lt (chain_num_le h)

theorem lookup_zip_map {α β} (key : α → Nat) (f : α → β) (xs : List α) (hs : (xs.map key).Pairwise (· < ·))
    (x : α) (hx : x ∈ xs) : ((xs.map key).zip (xs.map f)).lookup (key x) = some (f x) := by
  induction xs with
  | nil => cases hx
  | cons y xs ih =>
    simp only [List.map_cons, List.pairwise_cons] at hs
    simp only [List.map_cons, List.zip_cons_cons, List.lookup_cons]
    rcases List.mem_cons.mp hx with e | e
    · subst e; simp
    · have : key y < key x := hs.1 (key x) (List.mem_map.mpr ⟨x, e, rfl⟩)
      have hne : (key x == key y) = false := beq_eq_false_iff_ne.mpr (Nat.ne_of_gt this)
      simp only [hne]
      exact ih hs.2 e

theorem lookup_zip_isSome {β} (ks : List Nat) (vs : List β) (hl : ks.length = vs.length) (i : Nat) :
    ((ks.zip vs).lookup i).isSome = decide (i ∈ ks) := by
  rw [Bool.eq_iff_iff, List.lookup_isSome_iff, decide_eq_true_eq]
  conv => rhs; rw [← List.map_fst_zip (Nat.le_of_eq hl), List.mem_map]
  exact ⟨fun ⟨p, hp, e⟩ => ⟨p, hp, (beq_iff_eq.mp e).symm⟩, fun ⟨p, hp, e⟩ => ⟨p, hp, beq_iff_eq.mpr e.symm⟩⟩

theorem range_map_getD (l : List Int32) : (List.range l.length).map (fun k => l.getD k 0) = l := by
  apply List.ext_getElem
  · simp
  · intro i h1 h2
    simp [List.getD_eq_getElem?_getD, List.getElem?_eq_getElem h2]

theorem toArg_sw (cs : List (Option Int32)) : toArg (.sw cs) = .sw (liftCases cs) := rfl

theorem switchFromExplicit_length {α} (num : Nat) (E : Mask) (vals : List α) :
    (switchFromExplicit num E vals).length = num := by
  rw [switchFromExplicit, List.length_map, List.length_range]

theorem switchFromExplicit_get {α} {num i : Nat} (E : Mask) (vals : List α) (hi : i < num) :
    (switchFromExplicit num E vals)[i]? = some (((bitsOf E).zip vals).lookup i) := by
  rw [switchFromExplicit, List.getElem?_map, List.getElem?_range hi, Option.map_some]

theorem switch_get {d first nz} (rs : List Rung) (hchain : Chain d first 0 nz rs) (k : Nat) (r : Rung) (hr : r ∈ rs) :
    (switchFromExplicit (numDifficulties rs) (explicitMask rs) (column rs k))[r.start]? = some (some (r.instr.args.getD k 0)) := by
  rw [switchFromExplicit_get _ _ (chain_mem hchain r hr).start_lt, chain_bitsOf_explicit hchain, column,
    lookup_zip_map (·.start) _ rs (chain_sorted hchain) r hr]

theorem switch_get_isSome {d first nz} (rs : List Rung) (hchain : Chain d first 0 nz rs) (k i : Nat) :
    ((switchFromExplicit (numDifficulties rs) (explicitMask rs) (column rs k))[i]?).join.isSome = decide (i ∈ rs.map (·.start)) := by
  by_cases hlt : i < numDifficulties rs
  · rw [switchFromExplicit_get _ _ hlt, Option.join_some, chain_bitsOf_explicit hchain]
    exact lookup_zip_isSome _ _ (by rw [column, List.length_map, List.length_map]) i
  · have hnot : i ∉ rs.map (·.start) := fun hm => by
      obtain ⟨q, hq, rfl⟩ := List.mem_map.mp hm
      exact hlt (chain_mem hchain q hq).start_lt
    rw [List.getElem?_eq_none (by rw [switchFromExplicit_length]; exact Nat.le_of_not_lt hlt), decide_eq_false hnot]
    rfl

/-- the `k`-th argument of the fold of the rungs `rs`, as `elaborate_diff_switches` sees it -/
abbrev foldedArg (cfg : Cfg) (op : Nat) (rs : List Rung) (k : Nat) : Arg :=
  toArg (switchOrScalar cfg op (numDifficulties rs) (explicitMask rs) k (column rs k))

/-- the raiser's `same_value` on decoded arguments is equality of the bit patterns, for floats too (the model
follows the tree as repaired in commit b717bca; `cfg.isFloat` therefore makes no difference to `valEq`) -/
theorem valEq_eq (cfg : Cfg) (op k : Nat) (a b : Int32) (h : valEq cfg op k a b = true) : a = b := by
  revert h
  fun_cases valEq cfg op k a b with
  | case1 => exact fun h => Int32.toBitVec_inj.mp (beq_iff_eq.mp h)
  | case2 => exact fun h => beq_iff_eq.mp h

theorem valEq_refl (cfg : Cfg) (op k : Nat) (a : Int32) : valEq cfg op k a a = true := by
  fun_cases valEq cfg op k a a <;> exact beq_self_eq_true _

theorem foldedArg_spec {d first nz} (cfg : Cfg) (op : Nat) (rs : List Rung) (hchain : Chain d first 0 nz rs) (k : Nat)
    (hne : rs ≠ []) :
    wfArg (numDifficulties rs) (foldedArg cfg op rs k) = true ∧
    (∀ i, explicitIn (foldedArg cfg op rs k) i = (isSw (foldedArg cfg op rs k) && decide (i ∈ rs.map (·.start)))) ∧
    ∀ r ∈ rs, selArg r.start (foldedArg cfg op rs k) = .ok (r.instr.args.getD k 0) := by
  unfold foldedArg switchOrScalar
  by_cases hall : ((column rs k).all fun c => valEq cfg op k c ((column rs k).headD 0)) = true
  · rw [if_pos hall]
    refine ⟨rfl, fun i => rfl, fun r hr => ?_⟩
    rw [valEq_eq cfg op k _ _ (List.all_eq_true.mp hall _ (List.mem_map.mpr ⟨r, hr, rfl⟩))]
    rfl
  · rw [if_neg hall, toArg_sw]
    have hlen := switchFromExplicit_length (numDifficulties rs) (explicitMask rs) (column rs k)
    refine ⟨?_, fun i => ?_, fun r hr => ?_⟩
    · obtain ⟨r, rs', rfl⟩ := List.exists_cons_of_ne_nil hne
      have hg := switch_get (r :: rs') hchain k r (List.mem_cons_self ..)
      cases hchain with
      | cons h1 =>
        rw [h1, ← List.head?_eq_getElem?] at hg
        refine wfArg_sw.mpr ⟨(List.length_map _).trans hlen, ?_, wfCases_flat _ _⟩
        rw [liftCases, List.head?_map, hg]
        rfl
    · rw [explicitIn, explicitInCases_flat, Bool.or_false, isSw, Bool.true_and, ← switch_get_isSome rs hchain k i,
        liftCases, List.getElem?_map]
      cases (switchFromExplicit (numDifficulties rs) (explicitMask rs) (column rs k))[i]? with
      | none => rfl
      | some o => cases o <;> rfl
    · rw [selArg_flat, selectCase, hlen, if_pos (chain_mem hchain r hr).start_lt, pick_self _ _ _ (switch_get rs hchain k r hr)]

theorem isSw_toArg (a : RArg) : isSw (toArg a) = a.isSw := by cases a <;> rfl

/-- mask arithmetic of a fold: with the statement mask `aux ∪ all difficulty bits`, the copy for the
range of a gathered instruction is that instruction's mask again -/
theorem fold_mask_facts (d : Defs) (am rm : Mask) (s e : Nat)
    (hdp : diffPart d rm = rangeMask s e) (haux : rm &&& auxBits d = am &&& auxBits d) :
    ((((am &&& auxBits d) ||| diffBits d) &&& diffBits d) &&& rangeMask s e = rangeMask s e) ∧
    (rangeMask s e ||| (((am &&& auxBits d) ||| diffBits d) &&& auxBits d) = rm) := by
  constructor <;> apply BitVec.eq_of_getLsbD_eq <;> intro j hj
  all_goals
    have h1 := congrArg (·.getLsbD j) hdp
    have h2 := congrArg (·.getLsbD j) haux
    simp only [diffPart, auxBits, diffBits, BitVec.getLsbD_xor, BitVec.getLsbD_and, BitVec.getLsbD_or,
      BitVec.getLsbD_not, hj, decide_true, Bool.true_and] at h1 h2 ⊢
    rw [← h1]
    revert h2
    cases rm.getLsbD j <;> cases am.getLsbD j <;> cases d.defaultOn.getLsbD j <;> decide

theorem filterMap_eq_map_of {α β} {f : α → Option β} {g : α → β} {l : List α} (h : ∀ a ∈ l, f a = some (g a)) :
    l.filterMap f = l.map g := by
  induction l with
  | nil => rfl
  | cons a l ih =>
    rw [List.filterMap_cons, h a (List.mem_cons_self ..), ih fun b hb => h b (List.mem_cons_of_mem _ hb), List.map_cons]

theorem printLabel_readLabel (d : Defs) (h : Inv d) (m : Mask) :
    ∃ lab, printLabel d m = .ok lab ∧ readLabel d lab = .ok m := by
  obtain ⟨s, h1, h2⟩ := label_parse d h m
  unfold printLabel
  by_cases hm : m = 0xFF#8
  · exact ⟨none, if_pos hm, hm ▸ rfl⟩
  · exact ⟨some s, by rw [if_neg hm, h1], h2⟩

theorem lowerStmt_ok {d : Defs} {s : RStmt} {lab : Option (List Char)} {m : Mask} {copies : List Copy}
    (hp : printLabel d s.mask = .ok lab) (hr : readLabel d lab = .ok m)
    (he : expand d m (s.args.map toArg) = .ok copies) :
    lowerStmt d s = .ok (labelFirst s.label (copies.map fun c =>
      { time := s.time, opcode := s.opcode, mask := c.mask, label := false, fixed := s.fixed, args := c.args })) := by
  rw [lowerStmt, hp]; dsimp only; rw [hr]; dsimp only; rw [he]

structure Fold (cfg : Cfg) (l : List RInstr) (s : RStmt) (rungs : List RInstr) (r0 : Rung) (rs : List Rung)
    (tl : List RInstr) : Prop where
  split : l = rungs ++ tl
  rungs_eq : rungs = (r0 :: rs).map (·.instr)
  two : 2 ≤ rungs.length
  chain : Chain cfg.defs r0.instr 0 false (r0 :: rs)
  four : 4 ≤ numDifficulties (r0 :: rs)
  parts : ∀ r ∈ r0 :: rs, partsAgree r0.instr r.instr = true
  someSw : (foldedArgs cfg r0.instr (r0 :: rs)).any RArg.isSw = true
  stmt : s = { time := r0.instr.time, label := r0.instr.label, kind := r0.instr.kind, opcode := r0.instr.opcode,
               fixed := r0.instr.fixed, args := foldedArgs cfg r0.instr (r0 :: rs),
               mask := (r0.instr.mask &&& auxBits cfg.defs) ||| diffBits cfg.defs }

theorem Fold.mask_eq {cfg : Cfg} {l : List RInstr} {s : RStmt} {rungs : List RInstr} {r0 : Rung} {rs : List Rung}
    {tl : List RInstr} (hf : Fold cfg l s rungs r0 rs tl) :
    s.mask = (r0.instr.mask &&& auxBits cfg.defs) ||| diffBits cfg.defs := congrArg RStmt.mask hf.stmt

/-- what a fold looks like, without any assumption: the replaced instructions are a prefix of at
least two, collected by the loop (`Chain`), covering at least four difficulties; the statement takes
time, label, kind and parts of the first and the mask `aux ∪ all difficulty bits`; one of its arguments is a switch -/
theorem fold_spec {cfg : Cfg} {l : List RInstr} {s : RStmt} {rungs : List RInstr}
    (h : recognizeDiffSwitch cfg l = some (s, rungs)) :
    ∃ r0 rs tl, Fold cfg l s rungs r0 rs tl := by
  revert h
  fun_cases recognizeDiffSwitch cfg l with
  | case1 | case2 | case3 | case4 | case6 => exact nofun
  | case5 a b rest _ c2 c3 args hsw =>
    intro h
    cases h
    obtain ⟨hchain, tl, htl⟩ := gather_chain cfg.defs a (a :: b :: rest) 0 0
    generalize gather cfg.defs a (a :: b :: rest) 0 0 = g at c2 c3 hsw hchain htl ⊢
    cases g with
    | nil => exact absurd Nat.zero_lt_two c2
    | cons r0 rs =>
      -- the first gathered instruction is the first instruction
      cases (List.cons.inj htl).1
      revert hsw
      fun_cases switchifyParts cfg r0.instr (r0 :: rs) with
      | case1 | case2 => exact nofun
      | case3 p1 p2 =>
        intro hsw
        cases hsw
        rw [Bool.not_eq_true, Bool.not_eq_false'] at p1 p2
        exact ⟨r0, rs, tl, htl, rfl, by rw [List.length_map]; exact Nat.le_of_not_lt c2, hchain, Nat.le_of_not_lt c3,
          fun r hr => List.all_eq_true.mp p1 r hr, p2, rfl⟩

theorem expand_folded (cfg : Cfg) {a : RInstr} {rs : List Rung} (hchain : Chain cfg.defs a 0 false rs)
    (hnum : 2 ≤ numDifficulties rs) (hlens : ∀ r ∈ rs, r.instr.args.length = a.args.length)
    (hany : (foldedArgs cfg a rs).any RArg.isSw = true) :
    expand cfg.defs ((a.mask &&& auxBits cfg.defs) ||| diffBits cfg.defs) ((foldedArgs cfg a rs).map toArg) =
      .ok (rs.map fun r => ⟨r.instr.mask, r.instr.args⟩) := by
  have hne : rs ≠ [] := by rintro rfl; exact absurd hnum (by decide)
  have hin := chain_mem hchain
  have hspec := fun k => foldedArg_spec cfg a.opcode rs hchain k hne
  have hargs : (foldedArgs cfg a rs).map toArg = (List.range a.args.length).map (fun k =>
      foldedArg cfg a.opcode rs k) := by
    rw [foldedArgs, List.map_map]; rfl
  have hsw : ((foldedArgs cfg a rs).map toArg).any isSw = true := by
    rw [List.any_map, show (isSw ∘ toArg) = RArg.isSw from funext isSw_toArg]; exact hany
  rw [hargs] at hsw ⊢
  generalize hA : (List.range a.args.length).map (fun k =>
      foldedArg cfg a.opcode rs k) = args at hsw ⊢
  have hsel : ∀ r ∈ rs, selArgs r.start args = .ok r.instr.args := by
    intro r hr
    rw [← hA, selArgs_map r.start _ _ (fun k => r.instr.args.getD k 0)
      (fun k _ => (hspec k).2.2 r hr), ← hlens r hr, range_map_getD]
  have hwf : ∀ x ∈ args, wfArg (numDifficulties rs) x = true := by
    intro x hx
    rw [← hA] at hx
    obtain ⟨k, _, rfl⟩ := List.mem_map.mp hx
    exact (hspec k).1
  -- the meta data `elaborate_diff_switches` collects: the explicit difficulties are the starts of the rungs
  obtain ⟨hmnum, hmbits⟩ := metaOf_spec (numDifficulties rs) args hwf hsw
  have hmexp : (metaOf args).explicit = explicitMask rs := by
    apply BitVec.eq_of_getLsbD_eq
    intro i hi
    rw [hmbits i hi, explicitMask_get _ _ hi, explicitAt]
    rw [← hA, List.any_map] at hsw ⊢
    simp only [Function.comp_def, fun k => (hspec k).2.1] at hsw ⊢
    rw [← List.and_any_distrib_right, hsw, Bool.true_and]
  obtain ⟨cl, hcl⟩ := checkLens_ok args (numDifficulties rs) (chain_num_le hchain) hwf
  rw [expand_of_checkLens hcl, expandCore_eq _ _ args _ hnum hwf hsw, hmexp, chain_bitsOf_explicit hchain, chain_ranges hchain hne,
    List.filterMap_map]
  -- the copy for the range of a rung is that rung's mask with that rung's arguments
  refine congrArg Outcome.ok (filterMap_eq_map_of fun r hr => ?_)
  have hf := fold_mask_facts cfg.defs a.mask r.instr.mask r.start r.stop (hin r hr).diff (hin r hr).aux
  have hv := (selArgs_wf _ r.start (hin r hr).start_lt args hwf).symm.trans (hsel r hr)
  rw [Function.comp_apply, mkCopy, hf.1,
    if_neg (rangeMask_ne_zero _ _ (hin r hr).lt (Nat.le_trans (hin r hr).stop_le (hin r hr).num_le)), hf.2,
    Outcome.ok.inj hv]

/-- the `check_eq!`s leave the opcode of an intrinsic open; for an intrinsic the kind test of the loop has compared it -/
theorem partsAgree_eq {first i : RInstr} (hp : partsAgree first i = true) (hk : sameKind i first = true) :
    i.fixed = first.fixed ∧ i.opcode = first.opcode ∧ i.args.length = first.args.length := by
  simp only [partsAgree, sameKind, Bool.and_eq_true, Bool.or_eq_true, beq_iff_eq] at hp hk
  refine ⟨hp.1.1, ?_, hp.2⟩
  rcases hp.1.2 with h1 | h1
  · rcases hk.2 with h2 | h2
    · rw [hk.1] at h2; rw [h1] at h2; cases h2
    · exact h2
  · exact h1

/-- **one fold compiles back to the instructions it replaced**: whenever `recognize_diff_switch`
folds, the folded statement - label printed and parsed again, switches elaborated by `expand` -
yields exactly the gathered instructions, the label in front of the first only. -/
theorem fold_lowers (cfg : Cfg) (hinv : Inv cfg.defs) (l : List RInstr) (s : RStmt) (rungs : List RInstr)
    (h : recognizeDiffSwitch cfg l = some (s, rungs)) :
    (∃ tl, l = rungs ++ tl) ∧ 2 ≤ rungs.length ∧ lowerStmt cfg.defs s = .ok (rungs.map (·.raw)) := by
  obtain ⟨r0, rs, tl, hf⟩ := fold_spec h
  refine ⟨⟨tl, hf.split⟩, hf.two, ?_⟩
  have hin := chain_mem hf.chain
  have hagree := fun r hr' => partsAgree_eq (hf.parts r hr') (hin r hr').kind
  obtain ⟨lab, hpl, hrl⟩ := printLabel_readLabel cfg.defs hinv s.mask
  have hexpand := expand_folded cfg hf.chain (Nat.le_trans (by decide) hf.four) (fun r hr' => (hagree r hr').2.2) hf.someSw
  have hm := hf.mask_eq
  have hargs : s.args = foldedArgs cfg r0.instr (r0 :: rs) := congrArg RStmt.args hf.stmt
  rw [← hm, ← hargs] at hexpand
  rw [lowerStmt_ok hpl hrl hexpand, hf.rungs_eq]
  -- the first rung is the first instruction; the others carry no label
  simp only [List.map_cons, labelFirst, Outcome.ok.injEq, List.cons.injEq, List.map_map, hf.stmt]
  refine ⟨rfl, List.map_congr_left fun r hr' => ?_⟩
  have h1 := hagree r (List.mem_cons_of_mem _ hr')
  simp only [Function.comp_def, RInstr.raw, h1.1, h1.2.1, (hin r (List.mem_cons_of_mem _ hr')).time,
    chain_rest_nolabel hf.chain r hr']

theorem expand_vals (d : Defs) (m : Mask) (vs : List Int32) : expand d m (vs.map Arg.val) = .ok [⟨m, vs⟩] := by
  have hlens : ∀ l : List Int32, (l.map Arg.val).flatMap switchLens = [] := fun l => by
    induction l with
    | nil => rfl
    | cons v l ih => exact ih
  have hmeta : ∀ (l : List Int32) (m0 : Meta), (l.map Arg.val).foldl metaArg m0 = m0 := fun l => by
    induction l with
    | nil => exact fun _ => rfl
    | cons v l ih => exact ih
  have hsel : selArgs 0 (vs.map Arg.val) = .ok vs :=
    (selArgs_map 0 vs Arg.val id fun _ _ => rfl).trans (by rw [List.map_id])
  have hcl : checkLens (vs.map Arg.val) = .ok none := by rw [checkLens, hlens]
  rw [expand_of_checkLens hcl, expandCore, metaOf, hmeta]
  simp only [hsel]
  rfl

/-- an instruction printed by itself (as an intrinsic or as `ins_N(..)`) compiles back to itself -/
theorem lowerStmt_plain (d : Defs) (hinv : Inv d) (i : RInstr) (k : Kind) :
    lowerStmt d { plainStmt i with kind := k } = .ok [i.raw] := by
  obtain ⟨l, hpl, hrl⟩ := printLabel_readLabel d hinv i.mask
  have he : expand d i.mask ((i.args.map RArg.one).map toArg) = .ok [⟨i.mask, i.args⟩] := by
    rw [List.map_map]; exact expand_vals d i.mask i.args
  exact lowerStmt_ok (s := { plainStmt i with kind := k }) hpl hrl he

theorem lowerStmts_append (d : Defs) (a b : List RStmt) (x y : List Raw)
    (ha : lowerStmts d a = .ok x) (hb : lowerStmts d b = .ok y) : lowerStmts d (a ++ b) = .ok (x ++ y) := by
  fun_induction lowerStmts d a generalizing x with
  | case1 => cases ha; exact hb
  | case2 | case3 | case4 | case5 => cases ha
  | case6 s rest u h1 w h2 ih =>
    cases ha
    rw [List.cons_append, lowerStmts, h1, ih w h2, List.append_assoc]

theorem lowerStmts_flatMap (d : Defs) {α} (l : List α) (f : α → List RStmt) (g : α → List Raw)
    (h : ∀ x ∈ l, lowerStmts d (f x) = .ok (g x)) : lowerStmts d (l.flatMap f) = .ok (l.flatMap g) := by
  induction l with
  | nil => rfl
  | cons x l ih =>
    exact lowerStmts_append d _ _ _ _ (h x (List.mem_cons_self ..)) (ih fun y hy => h y (List.mem_cons_of_mem _ hy))

theorem lowerStmts_single {d : Defs} {s : RStmt} {a : List Raw} (h : lowerStmt d s = .ok a) : lowerStmts d [s] = .ok a := by
  rw [lowerStmts, h]; exact congrArg Outcome.ok (List.append_nil a)

theorem lowerStmts_singles (d : Defs) {α} (l : List α) (f : α → RStmt) (g : α → Raw)
    (h : ∀ x ∈ l, lowerStmt d (f x) = .ok [g x]) : lowerStmts d (l.map f) = .ok (l.map g) := by
  rw [List.map_eq_flatMap, List.map_eq_flatMap]
  exact lowerStmts_flatMap d l _ _ fun x hx => lowerStmts_single (h x hx)

/-- induction over the run of `perform_recognition`: at every position either nothing folds and one
instruction goes through, or a fold takes a prefix of at least two instructions; the fuel plays no role
once it covers the script -/
theorem performGo_induct (cfg : Cfg) {motive : List RInstr → List Item → Prop} (nil : motive [] [])
    (plain : ∀ i rest its, recognizeDiffSwitch cfg (i :: rest) = none → motive rest its →
      motive (i :: rest) (.plain i :: its))
    (fold : ∀ i rest s rungs tl its, recognizeDiffSwitch cfg (i :: rest) = some (s, rungs) → i :: rest = rungs ++ tl →
      2 ≤ rungs.length → motive tl its → motive (i :: rest) (.folded s rungs :: its)) :
    ∀ (fuel : Nat) (is : List RInstr), is.length ≤ fuel → motive is (performGo cfg fuel is) := by
  intro fuel
  induction fuel with
  | zero =>
    intro is hf
    cases List.length_eq_zero_iff.mp (Nat.le_zero.mp hf)
    exact nil
  | succ fuel ih =>
    intro is hf
    cases is with
    | nil => exact nil
    | cons i rest =>
      rw [performGo]
      cases hrec : recognizeDiffSwitch cfg (i :: rest) with
      | none => exact plain i rest _ hrec (ih rest (Nat.le_of_succ_le_succ hf))
      | some p =>
        obtain ⟨s, rungs⟩ := p
        obtain ⟨_, _, tl, hd⟩ := fold_spec hrec
        have hlens : tl.length < (i :: rest).length := by
          rw [hd.split, List.length_append]
          exact Nat.lt_add_of_pos_left (Nat.lt_of_lt_of_le Nat.zero_lt_two hd.two)
        show motive _ (.folded s rungs :: performGo cfg fuel ((i :: rest).drop rungs.length))
        rw [show (i :: rest).drop rungs.length = tl by rw [hd.split, List.drop_left]]
        exact fold i rest s rungs tl _ hrec hd.split hd.two (ih tl (Nat.le_of_lt_succ (Nat.lt_of_lt_of_le hlens hf)))

theorem perform_forall (cfg : Cfg) (P : Item → Prop) (hplain : ∀ i, P (.plain i))
    (hfold : ∀ l s rungs, recognizeDiffSwitch cfg l = some (s, rungs) → P (.folded s rungs))
    (is : List RInstr) : ∀ it ∈ performRecognition cfg is, P it :=
  performGo_induct cfg (motive := fun _ its => ∀ it ∈ its, P it) (fun _ h => nomatch h)
    (fun i _ _ _ ih => List.forall_mem_cons.mpr ⟨hplain i, ih⟩)
    (fun _ _ s rungs _ _ hrec _ _ ih => List.forall_mem_cons.mpr ⟨hfold _ s rungs hrec, ih⟩) is.length is (Nat.le_refl _)

theorem perform_partition (cfg : Cfg) (is : List RInstr) :
    (performRecognition cfg is).flatMap Item.covers = is :=
  performGo_induct cfg (motive := fun is its => its.flatMap Item.covers = is) rfl
    (fun i rest its _ ih => by rw [List.flatMap_cons, ih]; rfl)
    (fun i rest s rungs tl its _ htl _ ih => by rw [List.flatMap_cons, ih, htl]; rfl) is.length is (Nat.le_refl _)

/-- the fallback of a fold whose intrinsic has no statement syntax: every gathered instruction printed as `ins_N(..)`
by itself; the label flag put on the first statement is the one its instruction has, the others have none -/
theorem render_fallback {cfg : Cfg} {l : List RInstr} {s : RStmt} {rungs : List RInstr}
    (h : recognizeDiffSwitch cfg l = some (s, rungs)) (hcan : canRaise cfg s.kind s.opcode = false) :
    render cfg (.folded s rungs) = rungs.map fun r => { plainStmt r with kind := .ins } := by
  obtain ⟨r0, rs, _, hf⟩ := fold_spec h
  simp only [render, hcan, Bool.false_eq_true, if_false, hf.rungs_eq, List.map_cons, List.map_map, List.cons.injEq]
  refine ⟨by rw [hf.stmt]; rfl, List.map_congr_left fun q hq => ?_⟩
  simp only [Function.comp_def, plainStmt, chain_rest_nolabel hf.chain q hq]

/-- **every instruction keeps its time**: the instructions an item covers all have the item's time
(no fold across a time change), and so has every statement printed for the item. -/
theorem recognize_preserves_times (cfg : Cfg) (is : List RInstr) :
    (performRecognition cfg is).flatMap Item.covers = is ∧
    ∀ it ∈ performRecognition cfg is, (∀ r ∈ it.covers, r.time = it.time) ∧ (∀ st ∈ render cfg it, st.time = it.time) := by
  refine ⟨perform_partition cfg is, perform_forall cfg _ ?_ ?_ is⟩
  · intro i
    refine ⟨fun r hr => by cases List.mem_singleton.mp hr; rfl, fun st hst => ?_⟩
    rw [render] at hst
    split at hst <;> cases List.mem_singleton.mp hst <;> rfl
  · intro l s rungs hrec
    obtain ⟨r0, rs, _, hf⟩ := fold_spec hrec
    obtain rfl := hf.rungs_eq
    have htimes : ∀ r ∈ r0 :: rs, r.instr.time = s.time := fun r hr => by
      rw [hf.stmt]; exact (chain_mem hf.chain r hr).time
    refine ⟨fun r hr => ?_, fun st hst => ?_⟩
    · obtain ⟨q, hq, rfl⟩ := List.mem_map.mp hr
      exact htimes q hq
    · cases hcan : canRaise cfg s.kind s.opcode with
      | true => rw [render, hcan, if_pos rfl] at hst; cases List.mem_singleton.mp hst; rfl
      | false =>
        rw [render_fallback hrec hcan, List.map_map] at hst
        obtain ⟨q, hq, rfl⟩ := List.mem_map.mp hst
        exact htimes q hq

/-- **no fold across a label**: in a fold only the first instruction may carry an offset label, and
the folded statement carries that label -/
theorem recognize_no_fold_across_label (cfg : Cfg) (is : List RInstr) :
    ∀ it ∈ performRecognition cfg is, ∀ s rungs, it = .folded s rungs →
      ∃ r0 rest, rungs = r0 :: rest ∧ s.label = r0.label ∧ ∀ r ∈ rest, r.label = false := by
  refine perform_forall cfg _ ?_ ?_ is
  · intro i s rungs h; cases h
  · intro l s rungs hrec s' rungs' he
    cases he
    obtain ⟨r0, rs, _, hf⟩ := fold_spec hrec
    refine ⟨r0.instr, rs.map (·.instr), hf.rungs_eq.trans (List.map_cons ..), congrArg RStmt.label hf.stmt, fun r hr' => ?_⟩
    obtain ⟨q, hq, rfl⟩ := List.mem_map.mp hr'
    exact chain_rest_nolabel hf.chain q hq

/-- **which masks are folded**: the difficulty parts of the folded instructions are consecutive runs
tiling `0 .. num`, `num ≥ 4`, and all have the default-on bits, the kind and the time of the first (`Chain`) -/
theorem recognize_fold_masks (cfg : Cfg) (is : List RInstr) :
    ∀ it ∈ performRecognition cfg is, ∀ s rungs, it = .folded s rungs →
      ∃ a rs, rungs = rs.map (·.instr) ∧ 2 ≤ rs.length ∧ Chain cfg.defs a 0 false rs ∧ 4 ≤ numDifficulties rs ∧
        numDifficulties rs ≤ 8 ∧ s.mask = (a.mask &&& auxBits cfg.defs) ||| diffBits cfg.defs := by
  refine perform_forall cfg _ ?_ ?_ is
  · intro i s rungs h; cases h
  · intro l s rungs hrec s' rungs' he
    cases he
    obtain ⟨r0, rs, _, hf⟩ := fold_spec hrec
    have hlen := hf.two
    rw [hf.rungs_eq, List.length_map] at hlen
    exact ⟨r0.instr, r0 :: rs, hf.rungs_eq, hlen, hf.chain, hf.four, chain_num_le hf.chain, hf.mask_eq⟩

theorem fold_head {cfg : Cfg} {i : RInstr} {rest : List RInstr} {s : RStmt} {rungs : List RInstr}
    (h : recognizeDiffSwitch cfg (i :: rest) = some (s, rungs)) : s.kind = i.kind ∧ s.opcode = i.opcode := by
  obtain ⟨r0, rs, tl, hf⟩ := fold_spec h
  cases (List.cons.inj (hf.rungs_eq ▸ hf.split)).1
  exact ⟨congrArg RStmt.kind hf.stmt, congrArg RStmt.opcode hf.stmt⟩

/-- a fold that cannot be printed as one statement: its fallback - every gathered instruction as
`ins_N(..)` under its OWN difficulty mask, the label once in front - compiles back to the gathered
instructions -/
theorem fold_fallback_lowers (cfg : Cfg) (hinv : Inv cfg.defs) (l : List RInstr) (s : RStmt) (rungs : List RInstr)
    (h : recognizeDiffSwitch cfg l = some (s, rungs)) (hcan : canRaise cfg s.kind s.opcode = false) :
    lowerStmts cfg.defs (render cfg (.folded s rungs)) = .ok (rungs.map (·.raw)) := by
  rw [render_fallback h hcan]
  exact lowerStmts_singles cfg.defs rungs _ _ fun r _ => lowerStmt_plain cfg.defs hinv r .ins

theorem render_lowers (cfg : Cfg) (hinv : Inv cfg.defs) (is : List RInstr) :
    ∀ it ∈ performRecognition cfg is, lowerStmts cfg.defs (render cfg it) = .ok (it.covers.map (·.raw)) := by
  refine perform_forall cfg _ (fun i => ?_) (fun l s rungs hrec => ?_) is
  · have h1 : ∀ k, lowerStmts cfg.defs [{ plainStmt i with kind := k }] = .ok [i.raw] := fun k =>
      lowerStmts_single (lowerStmt_plain cfg.defs hinv i k)
    rw [render]
    cases canRaise cfg i.kind i.opcode
    · exact h1 .ins
    · exact h1 i.kind
  · cases hcan : canRaise cfg s.kind s.opcode with
    | true =>
      rw [render, hcan, if_pos rfl]
      exact lowerStmts_single (fold_lowers cfg hinv _ s rungs hrec).2.2
    | false => exact fold_fallback_lowers cfg hinv _ s rungs hrec hcan

/-- **the round trip at this layer** (C01 / C14), unconditional: for every flag table satisfying the
invariant and EVERY instruction list, compiling the decompiled statements - difficulty label printed
and parsed, switches elaborated by `expand` - gives back the instruction list, *whatever the raiser
decided to fold*, whether or not an intrinsic has statement syntax, whatever the float arguments are.
(The model follows the tree as repaired in commit b717bca; the inputs of the two findings repaired there are
`unraisable_ladder_roundtrips`, `signed_zero_ladder_roundtrips`.) -/
theorem recognize_sound (cfg : Cfg) (hinv : Inv cfg.defs) (is : List RInstr) :
    lowerStmts cfg.defs (recognize cfg is) = .ok (is.map (·.raw)) := by
  rw [recognize, lowerStmts_flatMap cfg.defs _ _ _ (render_lowers cfg hinv is), ← List.map_flatMap, perform_partition]

def cfgI : Cfg := { defs := defaultDefs, isFloat := fun _ _ => false, raisable := fun _ => true }
def cfgF : Cfg := { defs := defaultDefs, isFloat := fun _ k => k == 1, raisable := fun _ => true }
def cfgU : Cfg := { defs := defaultDefs, isFloat := fun _ _ => false, raisable := fun _ => false }

def rung (t : Int32) (lab : Bool) (kind : Kind) (op : Nat) (m : Mask) (args : List Int32) : RInstr :=
  { time := t, opcode := op, mask := m, label := lab, kind := kind, fixed := [], args := args }

/-- `ins_1002(a, 7)` once per difficulty group E / N / HL, a label in front of the first, then the
same instruction for difficulty 4 after a time change -/
def ladderI : List RInstr :=
  [rung 10 true .ins 1002 0b0001#8 [1, 7], rung 10 false .ins 1002 0b0010#8 [2, 7], rung 10 false .ins 1002 0b1100#8 [3, 7],
   rung 20 false .ins 1002 0b10000#8 [4, 7]]

example : recognize cfgI ladderI =
    [{ time := 10, label := true, mask := 0xFF#8, kind := .ins, opcode := 1002, fixed := [],
       args := [.sw [some 1, some 2, some 3, none], .one 7] },
     { time := 20, label := false, mask := 0b10000#8, kind := .ins, opcode := 1002, fixed := [], args := [.one 4, .one 7] }] := by decide +kernel

example : lowerStmts cfgI.defs (recognize cfgI ladderI) = .ok (ladderI.map (·.raw)) :=
  recognize_sound cfgI inv_default ladderI

-- nothing is folded across the label / across a non-contiguous mask / when the first mask does not start at difficulty 0
example : (recognize cfgI [rung 0 false .ins 1001 1#8 [1], rung 0 false .ins 1001 2#8 [2], rung 0 true .ins 1001 4#8 [3],
    rung 0 false .ins 1001 8#8 [4]]).length = 4 := by decide +kernel
example : (recognize cfgI [rung 0 false .ins 1001 0b0101#8 [1], rung 0 false .ins 1001 0b0010#8 [2],
    rung 0 false .ins 1001 0b1000#8 [3]]).length = 3 := by decide +kernel
example : (recognize cfgI [rung 0 false .ins 1001 2#8 [1], rung 0 false .ins 1001 4#8 [2], rung 0 false .ins 1001 8#8 [3],
    rung 0 false .ins 1001 16#8 [4]]).length = 4 := by decide +kernel

/-- four `ins_1006(int, float)` for E / N / H / L whose float argument alternates `0.0` / `-0.0` -/
def zeroLadder : List RInstr :=
  [rung 0 false .ins 1006 1#8 [1, 0], rung 0 false .ins 1006 2#8 [2, -2147483648],
   rung 0 false .ins 1006 4#8 [3, 0], rung 0 false .ins 1006 8#8 [4, -2147483648]]

/-- **the input of finding `diff-switch-fold-merges-signed-float-zeros` (known_findings.json, repaired in commit
b717bca) round-trips**: the float column `0.0 / -0.0 / 0.0 / -0.0` is no constant (its cases are compared by
their bits), so it stays a switch and every difficulty gets its own zero back.  (Compared with `f32 ==` the
column would be constant and fold to `.one 0`; the model has the comparison by bits only.) -/
theorem signed_zero_ladder_roundtrips :
    recognize cfgF zeroLadder =
      [{ time := 0, label := false, mask := 0xFF#8, kind := .ins, opcode := 1006, fixed := [],
         args := [.sw [some 1, some 2, some 3, some 4], .sw [some 0, some (-2147483648), some 0, some (-2147483648)]] }] ∧
    lowerStmts cfgF.defs (recognize cfgF zeroLadder) = .ok (zeroLadder.map (·.raw)) :=
  ⟨by decide +kernel, recognize_sound cfgF inv_default zeroLadder⟩

/-- a column of one NaN pattern is a constant (a NaN has the same bits as itself) -/
example : recognize cfgF [rung 0 false .ins 1006 1#8 [1, 0x7fc00000], rung 0 false .ins 1006 2#8 [2, 0x7fc00000],
    rung 0 false .ins 1006 4#8 [3, 0x7fc00000], rung 0 false .ins 1006 8#8 [4, 0x7fc00000]] =
      [{ time := 0, label := false, mask := 0xFF#8, kind := .ins, opcode := 1006, fixed := [],
         args := [.sw [some 1, some 2, some 3, some 4], .one 0x7fc00000] }] := by decide +kernel

/-- four copies of an intrinsic without statement syntax (EoSD `cmp_int`, `CondJmp2A`) for E / N / H / L -/
def cmpLadder : List RInstr :=
  [rung 0 false .intr 27 1#8 [1, 10], rung 0 false .intr 27 2#8 [2, 10],
   rung 0 false .intr 27 4#8 [3, 10], rung 0 false .intr 27 8#8 [4, 10]]

/-- **the input of finding `diff-switch-fold-of-unraisable-intrinsic-loses-difficulty` (known_findings.json,
repaired in commit b717bca) round-trips**: the fold succeeds, the folded statement cannot be printed, and its
fallback prints the four instructions under their own masks E / N / H / L (`render`: each statement of a fallback
carries the mask of the instruction it is printed for, not that of the fold). -/
theorem unraisable_ladder_roundtrips :
    (performRecognition cfgU cmpLadder).length = 1 ∧
    (recognize cfgU cmpLadder).map (·.mask) = [1#8, 2#8, 4#8, 8#8] ∧
    lowerStmts cfgU.defs (recognize cfgU cmpLadder) = .ok (cmpLadder.map (·.raw)) :=
  ⟨by decide +kernel, by decide +kernel, recognize_sound cfgU inv_default cmpLadder⟩

-- with statement syntax (or as plain `ins_27`) the same ladder round-trips
example : lowerStmts cfgI.defs (recognize cfgI cmpLadder) = .ok (cmpLadder.map (·.raw)) :=
  recognize_sound cfgI inv_default cmpLadder

/-! ### the inverse direction: a `Canonical` statement is recovered from the instructions it compiles to -/

/-- value of a statement argument at (explicit) difficulty `d` -/
def argAt : RArg → Nat → Int32
  | .one v, _ => v
  | .sw cs, d => ((cs[d]?).join).getD 0

/-- The statements `recognize_diff_switch` recovers (`recognize_expand`); every fold has this shape
(not proved, and not checked by the harness, which compares the statements `recognize` returns with
the real raiser's and round-trips them): the label selects every difficulty (`allDiff`); the switches have
`n` cases, `4 ≤ n ≤ 8`, and difficulties `0 .. n` are difficulty bits of the table; every switch has
a case exactly at the difficulties `E` (0 among them, at least two); the explicit cases of a switch
are not all the same bit pattern as its first case; at least one argument is a switch.  Everything else
is *deliberately* left unfolded or comes back in this normal form: fewer than four difficulties, a label that excludes a difficulty,
holes in one switch where another has a case (`(1:2:3:4)` next to `(5::6:)` comes back as
`(5:5:6:6)`), a switch whose cases are all equal (comes back as a plain value). -/
structure Canonical (cfg : Cfg) (n : Nat) (E : Mask) (s : RStmt) : Prop where
  n4 : 4 ≤ n
  n8 : n ≤ 8
  diffRun : ∀ j, j < n → (auxBits cfg.defs).getLsbD j = false
  allDiff : s.mask &&& diffBits cfg.defs = diffBits cfg.defs
  e0 : E.getLsbD 0 = true
  eLt : ∀ i, i < 8 → E.getLsbD i = true → i < n
  two : 2 ≤ (bitsOf E).length
  someSw : s.args.any RArg.isSw = true
  swOk : ∀ k cs, s.args[k]? = some (.sw cs) → cs.length = n ∧ (∀ i, i < n → (cs[i]?).join.isSome = E.getLsbD i) ∧
    ((bitsOf E).map (argAt (.sw cs))).all (fun c => valEq cfg s.opcode k c (argAt (.sw cs) 0)) = false

def mkI (cfg : Cfg) (s : RStmt) (lab : Bool) (r : Nat × Nat) : RInstr :=
  { time := s.time, opcode := s.opcode, label := lab, kind := s.kind, fixed := s.fixed,
    mask := rangeMask r.1 r.2 ||| (s.mask &&& auxBits cfg.defs), args := s.args.map (argAt · r.1) }

/-- the instructions a canonical statement compiles to (`lowerStmt_canonical`): one per explicit
difficulty, covering the difficulties up to the next one -/
def compiledOf (cfg : Cfg) (n : Nat) (E : Mask) (s : RStmt) : List RInstr :=
  match ranges (bitsOf E ++ [n]) with
  | [] => []
  | r0 :: rest => mkI cfg s s.label r0 :: rest.map (mkI cfg s false)

theorem lookup_zip_self_map {β} (l : List Nat) (f : Nat → β) (i : Nat) :
    (l.zip (l.map f)).lookup i = if i ∈ l then some (f i) else none := by
  induction l with
  | nil => simp
  | cons x l ih =>
    simp only [List.map_cons, List.zip_cons_cons, List.lookup_cons, List.mem_cons]
    by_cases h : i = x
    · subst h; simp
    · have : (i == x) = false := by simp [h]
      simp only [this, h, false_or]
      exact ih

theorem switch_rebuild (n : Nat) (E : Mask) (cs : List (Option Int32)) (hn8 : n ≤ 8) (hlen : cs.length = n)
    (hsome : ∀ i, i < n → (cs[i]?).join.isSome = E.getLsbD i) :
    switchFromExplicit n E ((bitsOf E).map (argAt (.sw cs))) = cs := by
  apply List.ext_getElem
  · rw [switchFromExplicit_length, hlen]
  · intro i h1 h2
    have hi : i < n := hlen ▸ h2
    have hs := hsome i hi
    rw [List.getElem?_eq_getElem h2, Option.join_some] at hs
    simp only [switchFromExplicit, List.getElem_map, List.getElem_range, lookup_zip_self_map, mem_bitsOf, argAt,
      List.getElem?_eq_getElem h2, Option.join_some, ← hs, Nat.lt_of_lt_of_le hi hn8, true_and]
    cases cs[i] <;> rfl

theorem gather_accept {d : Defs} {first i : RInstr} {rest : List RInstr} {next n : Nat}
    (h1 : i.mask &&& auxBits d = first.mask &&& auxBits d) (h2 : 0 < n → i.label = false)
    (h3 : sameKind i first = true) (h4 : i.time = first.time)
    (h5 : firstBit (diffPart d i.mask) = some next) (h6 : contiguousBits (diffPart d i.mask) = true) :
    gather d first (i :: rest) next n =
      ⟨next, next + (bitsOf (diffPart d i.mask)).length, i⟩ ::
        gather d first rest (next + (bitsOf (diffPart d i.mask)).length) (n + 1) := by
  have c2 : ¬ (decide (0 < n) && i.label) = true := by
    rw [Bool.and_eq_true, decide_eq_true_eq]
    exact fun h => Bool.false_ne_true ((h2 h.1).symm.trans h.2)
  -- with the hypotheses put in, the other three tests are closed terms that evaluate to `false`
  rw [gather, h1, h3, h4, h5, h6, if_neg c2, bne_self_eq_false, bne_self_eq_false, beq_self_eq_true]
  rfl

/-- the converse of `gather_chain`: instructions satisfying the loop's conditions are all gathered -/
theorem gather_of_chain (d : Defs) (first : RInstr) (tail : List RInstr) {next nz rs} (h : Chain d first next nz rs)
    (cnt : Nat) (hnz : nz = decide (0 < cnt)) (e : Nat)
    (he : e = (match rs.getLast? with | some r => r.stop | none => next))
    (htail : ∀ c, gather d first tail e c = []) :
    gather d first (rs.map (·.instr) ++ tail) next cnt = rs := by
  induction h generalizing cnt with
  | nil => cases (he : e = _); exact htail cnt
  | @cons next nz r rs h1 h2 h3 h4 h5 h6 h7 h8 hc ih =>
    subst h1
    obtain ⟨f1, f2, f3⟩ := range_fin r.start (Nat.lt_of_lt_of_le h2 h3) r.stop (Nat.lt_succ_of_le h3) h2
    rw [← h4] at f1 f2 f3
    have hstop : r.start + (bitsOf (diffPart d r.instr.mask)).length = r.stop := by
      rw [f3]; exact Nat.add_sub_of_le (Nat.le_of_lt h2)
    rw [List.map_cons, List.cons_append,
      gather_accept h5 (fun hc0 => h8 (hnz.trans (decide_eq_true hc0))) h6 h7 f1 f2, hstop,
      ih (cnt + 1) (decide_eq_true (Nat.succ_pos cnt)).symm (by cases rs <;> exact he)]

theorem tail_stops (d : Defs) (first : RInstr) (tail : List RInstr) (n : Nat)
    (h : ∀ t, tail.head? = some t → firstBit (diffPart d t.mask) ≠ some n) : ∀ c, gather d first tail n c = [] := by
  intro c
  cases tail with
  | nil => rfl
  | cons t rest =>
    have hb : (!(firstBit (diffPart d t.mask) == some n && contiguousBits (diffPart d t.mask))) = true := by
      rw [beq_eq_false_iff_ne.mpr (h t rfl)]; rfl
    rw [gather, if_pos hb]
    simp only [ite_self]

theorem sameKind_symm {a b : RInstr} (h : sameKind a b = true) : sameKind b a = true := by
  simp only [sameKind, Bool.and_eq_true, Bool.or_eq_true, beq_iff_eq] at h ⊢
  exact ⟨h.1.symm, h.2.imp (fun hk => h.1 ▸ hk) Eq.symm⟩

/-- the converse of `fold_spec`, with the two tests that `Fold` does not record: the first mask is not `0xFF`, and the
loop stops behind the chain (`htl`) -/
theorem fold_of_chain (cfg : Cfg) {r0 : Rung} {rs : List Rung} {tl : List RInstr}
    (hchain : Chain cfg.defs r0.instr 0 false (r0 :: rs)) (hne : rs ≠ []) (hm : r0.instr.mask ≠ 0xFF#8)
    (hnum : 4 ≤ numDifficulties (r0 :: rs))
    (htl : ∀ c, gather cfg.defs r0.instr tl (numDifficulties (r0 :: rs)) c = [])
    (hparts : ∀ r ∈ r0 :: rs, partsAgree r0.instr r.instr = true)
    (hany : (foldedArgs cfg r0.instr (r0 :: rs)).any RArg.isSw = true) :
    recognizeDiffSwitch cfg ((r0 :: rs).map (·.instr) ++ tl) = some (
      { time := r0.instr.time, label := r0.instr.label, kind := r0.instr.kind, opcode := r0.instr.opcode,
        fixed := r0.instr.fixed, args := foldedArgs cfg r0.instr (r0 :: rs),
        mask := (r0.instr.mask &&& auxBits cfg.defs) ||| diffBits cfg.defs }, (r0 :: rs).map (·.instr)) := by
  obtain ⟨r1, rs', rfl⟩ := List.exists_cons_of_ne_nil hne
  have hg := gather_of_chain cfg.defs r0.instr tl hchain 0 rfl _ rfl htl
  rw [List.map_cons, List.map_cons, List.cons_append, List.cons_append] at hg ⊢
  cases hchain with
  | cons _ _ _ _ _ _ _ _ hc =>
    cases hc with
    | cons _ _ _ _ _ hk ht _ _ =>
      have c2 : ¬ (r0 :: r1 :: rs').length < 2 := Nat.not_lt.mpr (Nat.le_add_left 2 _)
      rw [recognizeDiffSwitch, sameKind_symm hk, ht, bne_self_eq_false, beq_eq_false_iff_ne.mpr hm, hg, if_neg c2,
        if_neg (Nat.not_lt.mpr hnum), switchifyParts, List.all_eq_true.mpr hparts, hany]
      rfl

section Canon
variable {cfg : Cfg} {n : Nat} {E : Mask} {s : RStmt}

theorem range_no_aux (hc : Canonical cfg n E s) (a b j : Nat) (hj : j < 8) (hb : b ≤ n)
    (h : (rangeMask a b).getLsbD j = true) : (auxBits cfg.defs).getLsbD j = false := by
  rw [rangeMask_get _ _ _ hj] at h
  simp only [Bool.and_eq_true, decide_eq_true_eq] at h
  exact hc.diffRun j (Nat.lt_of_lt_of_le h.2 hb)

theorem mkI_aux (hc : Canonical cfg n E s) (lab : Bool) (r : Nat × Nat) (hb : r.2 ≤ n) :
    (mkI cfg s lab r).mask &&& auxBits cfg.defs = s.mask &&& auxBits cfg.defs := by
  apply BitVec.eq_of_getLsbD_eq
  intro j hj
  simp only [mkI, BitVec.getLsbD_and, BitVec.getLsbD_or]
  cases hr : (rangeMask r.1 r.2).getLsbD j
  · rw [Bool.false_or, Bool.and_assoc, Bool.and_self]
  · rw [range_no_aux hc r.1 r.2 j hj hb hr, Bool.and_false, Bool.and_false]

theorem mkI_diffPart (hc : Canonical cfg n E s) (lab : Bool) (r : Nat × Nat) (hb : r.2 ≤ n) :
    diffPart cfg.defs (mkI cfg s lab r).mask = rangeMask r.1 r.2 := by
  apply BitVec.eq_of_getLsbD_eq
  intro j hj
  simp only [diffPart_get, mkI, BitVec.getLsbD_or, BitVec.getLsbD_and]
  cases hr : (rangeMask r.1 r.2).getLsbD j
  · cases s.mask.getLsbD j <;> cases (auxBits cfg.defs).getLsbD j <;> rfl
  · rw [range_no_aux hc r.1 r.2 j hj hb hr]; rfl

theorem canonical_mask (hc : Canonical cfg n E s) : (s.mask &&& auxBits cfg.defs) ||| diffBits cfg.defs = s.mask := by
  apply BitVec.eq_of_getLsbD_eq
  intro j hj
  have hall := congrArg (·.getLsbD j) hc.allDiff
  simp only [BitVec.getLsbD_or, BitVec.getLsbD_and, diffBits, auxBits, BitVec.getLsbD_not, hj, decide_true,
    Bool.true_and] at hall ⊢
  revert hall
  cases s.mask.getLsbD j <;> cases cfg.defs.defaultOn.getLsbD j <;> decide

theorem mkI_sameKind (lab lab0 : Bool) (r r0 : Nat × Nat) : sameKind (mkI cfg s lab r) (mkI cfg s lab0 r0) = true := by
  simp [sameKind, mkI]

theorem canonical_starts (hc : Canonical cfg n E s) : ∃ b0 st, bitsOf E = 0 :: b0 :: st := by
  obtain ⟨t, ht⟩ := bitsOf_zero E hc.e0
  cases t with
  | nil => have := hc.two; rw [ht] at this; exact absurd this (by decide)
  | cons b0 st => exact ⟨b0, st, ht⟩

theorem switchOrScalar_argAt (hc : Canonical cfg n E s) (k : Nat) (a : RArg) (ha : s.args[k]? = some a) :
    switchOrScalar cfg s.opcode n E k ((bitsOf E).map (argAt a)) = a := by
  obtain ⟨b0, st, hst⟩ := canonical_starts hc
  unfold switchOrScalar
  cases a with
  | one v =>
    have hall : ((bitsOf E).map (argAt (.one v))).all (fun c => valEq cfg s.opcode k c v) = true :=
      List.all_eq_true.mpr fun c hc' => by
        obtain ⟨_, _, rfl⟩ := List.mem_map.mp hc'
        exact valEq_refl cfg s.opcode k v
    have hhead : ((bitsOf E).map (argAt (.one v))).headD 0 = v := by rw [hst]; rfl
    rw [hhead, if_pos hall]
  | sw cs =>
    obtain ⟨hlen, hsome, hne⟩ := hc.swOk k cs ha
    have hhead : ((bitsOf E).map (argAt (.sw cs))).headD 0 = argAt (.sw cs) 0 := by rw [hst]; rfl
    rw [hhead, hne, if_neg Bool.false_ne_true, switch_rebuild n E cs hc.n8 hlen hsome]

theorem foldedArgs_canonical (hc : Canonical cfg n E s) (first : RInstr) (rs : List Rung)
    (hop : first.opcode = s.opcode) (hlen : first.args.length = s.args.length)
    (hnum : numDifficulties rs = n) (hstarts : rs.map (·.start) = bitsOf E)
    (hargs : ∀ r ∈ rs, r.instr.args = s.args.map (argAt · r.start)) :
    foldedArgs cfg first rs = s.args := by
  have hexpl : explicitMask rs = E := by rw [explicitMask_eq, hstarts]; exact ofList_bitsOf E
  unfold foldedArgs
  rw [hlen, hop, hnum, hexpl]
  apply List.ext_getElem
  · rw [List.length_map, List.length_range]
  · intro k h1 h2
    have hcol : column rs k = (bitsOf E).map (argAt s.args[k]) := by
      rw [← hstarts, List.map_map]
      refine List.map_congr_left fun r hr => ?_
      rw [hargs r hr, List.getD_eq_getElem?_getD, List.getElem?_map, List.getElem?_eq_getElem h2]
      rfl
    rw [List.getElem_map, List.getElem_range, hcol]
    exact switchOrScalar_argAt hc k _ (List.getElem?_eq_getElem h2)

def rungOf (cfg : Cfg) (s : RStmt) (lab : Bool) (r : Nat × Nat) : Rung := ⟨r.1, r.2, mkI cfg s lab r⟩

/-- the copies for the runs between increasing stops, as rungs after a first instruction of the same statement -/
theorem chain_of_stops (hc : Canonical cfg n E s) (lab0 : Bool) (r0 : Nat × Nat) (h0 : r0.2 ≤ n) (l : List Nat) :
    ∀ a : Nat, (a :: l).Pairwise (· < ·) → (∀ x ∈ l, x ≤ n) →
      Chain cfg.defs (mkI cfg s lab0 r0) a true ((ranges (a :: l)).map (rungOf cfg s false)) ∧
      ∀ e, l.getLast? = some e → numDifficulties ((ranges (a :: l)).map (rungOf cfg s false)) = e := by
  induction l with
  | nil => exact fun _ _ _ => ⟨.nil, fun _ h => nomatch h⟩
  | cons b l ih =>
    intro a hs hn
    have hp := List.pairwise_cons.mp hs
    have hbn : b ≤ n := hn b (List.mem_cons_self ..)
    obtain ⟨ihc, ihn⟩ := ih b hp.2 (fun x hx => hn x (List.mem_cons_of_mem _ hx))
    refine ⟨.cons rfl (hp.1 b (List.mem_cons_self ..)) (Nat.le_trans hbn hc.n8) (mkI_diffPart hc false (a, b) hbn)
      ((mkI_aux hc false (a, b) hbn).trans (mkI_aux hc lab0 r0 h0).symm) (mkI_sameKind _ _ _ _) rfl (fun _ => rfl) ihc, fun e he => ?_⟩
    cases l with
    | nil => cases he; rfl
    | cons c l =>
      exact (numDifficulties_cons _ (List.cons_ne_nil _ _)).trans (ihn e (List.getLast?_cons_cons.symm.trans he))

/-- **`recognize_expand`**: the raiser recovers every canonical statement from the instructions it
compiles to - whatever follows them, as long as the next instruction does not continue the ladder
(its difficulty part does not start at difficulty `n`). -/
theorem recognize_expand (cfg : Cfg) (n : Nat) (E : Mask) (s : RStmt) (hc : Canonical cfg n E s) (tail : List RInstr)
    (htail : ∀ t, tail.head? = some t → firstBit (diffPart cfg.defs t.mask) ≠ some n) :
    recognizeDiffSwitch cfg (compiledOf cfg n E s ++ tail) = some (s, compiledOf cfg n E s) := by
  obtain ⟨b0, st, hst⟩ := canonical_starts hc
  have hEn : ∀ x ∈ bitsOf E, x < n := fun x hx => hc.eLt x (bitsOf_lt E x hx) ((mem_bitsOf E x).mp hx).2
  have hb0n : b0 < n := hEn b0 (by rw [hst]; exact List.mem_cons_of_mem _ (List.mem_cons_self ..))
  obtain ⟨hsorted, hle⟩ := stops_sorted E n hEn
  rw [hst] at hsorted hle
  have hp := List.pairwise_cons.mp hsorted
  -- the rungs of the copies: the first, for the difficulties `0 .. b0`, and at least one more
  generalize hr0 : rungOf cfg s s.label (0, b0) = r0
  generalize hrs : (ranges (b0 :: (st ++ [n]))).map (rungOf cfg s false) = rs
  have hinstrs : (r0 :: rs).map (·.instr) = compiledOf cfg n E s := by
    rw [compiledOf, hst, ← hr0, ← hrs, List.map_cons, List.map_map]; rfl
  have hne : rs ≠ [] := by
    rw [← hrs]; cases st <;> exact List.cons_ne_nil _ _
  have hof : ∀ r ∈ r0 :: rs, ∃ lab q, r = rungOf cfg s lab q :=
    List.forall_mem_cons.mpr ⟨⟨_, _, hr0.symm⟩, fun r hr => by
      rw [← hrs] at hr; obtain ⟨q, _, rfl⟩ := List.mem_map.mp hr; exact ⟨_, _, rfl⟩⟩
  obtain ⟨htl, hnum⟩ := chain_of_stops hc s.label (0, b0) (Nat.le_of_lt hb0n) (st ++ [n]) b0 hp.2
    (fun x hx => hle x (List.mem_cons_of_mem _ (List.mem_cons_of_mem _ hx)))
  replace hnum : numDifficulties (r0 :: rs) = n :=
    (numDifficulties_cons r0 hne).trans (hrs ▸ hnum n List.getLast?_concat)
  have hchain : Chain cfg.defs r0.instr 0 false (r0 :: rs) := by
    rw [← hrs, ← hr0]
    exact .cons rfl (hp.1 b0 (List.mem_cons_self ..)) (Nat.le_trans (Nat.le_of_lt hb0n) hc.n8)
      (mkI_diffPart hc s.label (0, b0) (Nat.le_of_lt hb0n)) rfl (mkI_sameKind _ _ _ _) rfl nofun htl
  have hfargs : foldedArgs cfg r0.instr (r0 :: rs) = s.args :=
    foldedArgs_canonical hc _ _ (hr0 ▸ rfl) (hr0 ▸ List.length_map _) hnum
      (by rw [← hr0, ← hrs, hst, List.map_cons, List.map_map]; exact congrArg (0 :: ·) (ranges_fst (b0 :: st) n))
      fun r hr => by obtain ⟨lab, q, rfl⟩ := hof r hr; rfl
  have hmask : r0.instr.mask ≠ 0xFF#8 := by
    intro h
    have hb8 : b0 < 8 := Nat.lt_of_lt_of_le hb0n hc.n8
    have hbit := congrArg (·.getLsbD b0) h
    simp only [← hr0, rungOf, mkI, BitVec.getLsbD_or, BitVec.getLsbD_and, rangeMask_get 0 b0 b0 hb8, ff_get b0 hb8,
      hc.diffRun b0 hb0n, Nat.lt_irrefl, decide_false, Bool.and_false, Bool.or_false] at hbit
    cases hbit
  have hfold := fold_of_chain cfg (tl := tail) hchain hne hmask (by rw [hnum]; exact hc.n4)
    (by rw [hnum]; exact tail_stops cfg.defs _ tail n htail)
    (fun r hr => by
      obtain ⟨lab, q, rfl⟩ := hof r hr
      simp only [← hr0, partsAgree, rungOf, mkI, beq_self_eq_true, List.length_map, Bool.or_true, Bool.and_self])
    (by rw [hfargs]; exact hc.someSw)
  have hm : r0.instr.mask &&& auxBits cfg.defs = s.mask &&& auxBits cfg.defs :=
    hr0 ▸ mkI_aux hc s.label (0, b0) (Nat.le_of_lt hb0n)
  rw [hfargs, hinstrs] at hfold
  rw [hfold, hm, canonical_mask hc, ← hr0]
  rfl
end Canon

/-- what all instructions of `compiledOf` have in common, whether or not they carry the label -/
theorem compiledOf_map {β} (cfg : Cfg) (n : Nat) (E : Mask) (s : RStmt) (f : RInstr → β) (g : Nat × Nat → β)
    (h : ∀ lab r, f (mkI cfg s lab r) = g r) : (compiledOf cfg n E s).map f = (ranges (bitsOf E ++ [n])).map g := by
  unfold compiledOf
  cases ranges (bitsOf E ++ [n]) with
  | nil => rfl
  | cons r rest => rw [List.map_cons, List.map_map, h, List.map_cons]; exact congrArg _ (List.map_congr_left fun q _ => h false q)

theorem compiledOf_args (cfg : Cfg) (n : Nat) (E : Mask) (s : RStmt) :
    (compiledOf cfg n E s).map (·.args) = (bitsOf E).map (fun d => s.args.map (argAt · d)) := by
  rw [compiledOf_map cfg n E s _ (fun r => s.args.map (argAt · r.1)) fun _ _ => rfl]
  have := congrArg (List.map fun d => s.args.map (argAt · d)) (ranges_fst (bitsOf E) n)
  rwa [List.map_map] at this

theorem compiledOf_opcode (cfg : Cfg) (n : Nat) (E : Mask) (s : RStmt) : ∀ i ∈ compiledOf cfg n E s, i.opcode = s.opcode := by
  intro i hi
  have := List.mem_map_of_mem (f := (·.opcode)) hi
  rw [compiledOf_map cfg n E s _ (fun _ => s.opcode) fun _ _ => rfl] at this
  obtain ⟨_, _, h⟩ := List.mem_map.mp this
  exact h.symm

/-- **a canonical statement compiles to `compiledOf`** (label printed and parsed, `expand`) - so
`recognize_expand` is about the image of `expand` -/
theorem lowerStmt_canonical (cfg : Cfg) (hinv : Inv cfg.defs) (n : Nat) (E : Mask) (s : RStmt) (hc : Canonical cfg n E s) :
    lowerStmt cfg.defs s = .ok ((compiledOf cfg n E s).map (·.raw)) := by
  have h := recognize_expand cfg n E s hc [] (fun t ht => nomatch ht)
  rw [List.append_nil] at h
  exact (fold_lowers cfg hinv _ s _ h).2.2

theorem performGo_fuel (cfg : Cfg) (fuel : Nat) (l : List RInstr) (h : l.length ≤ fuel) :
    performGo cfg fuel l = performGo cfg l.length l := by
  refine performGo_induct cfg (motive := fun l its => ∀ fuel, l.length ≤ fuel → performGo cfg fuel l = its)
    (fun fuel _ => by cases fuel <;> rfl) ?_ ?_ l.length l (Nat.le_refl _) fuel h
  · intro i rest its hrec ih fuel hf
    cases fuel with
    | zero => exact absurd hf (Nat.not_succ_le_zero _)
    | succ fuel => rw [performGo, hrec, ih fuel (Nat.le_of_succ_le_succ hf)]
  · intro i rest s rungs tl its hrec htl hrl ih fuel hf
    cases fuel with
    | zero => exact absurd hf (Nat.not_succ_le_zero _)
    | succ fuel =>
      have hlens : tl.length ≤ fuel := by
        rw [htl, List.length_append] at hf
        exact Nat.le_of_lt_succ (Nat.lt_of_lt_of_le (Nat.lt_add_of_pos_left (Nat.lt_of_lt_of_le Nat.zero_lt_two hrl)) hf)
      rw [performGo, hrec]
      show Item.folded s rungs :: performGo cfg fuel ((i :: rest).drop rungs.length) = _
      rw [htl, List.drop_left, ih fuel hlens]

theorem performRecognition_fold {cfg : Cfg} {rungs tl : List RInstr} {s : RStmt}
    (h : recognizeDiffSwitch cfg (rungs ++ tl) = some (s, rungs)) :
    performRecognition cfg (rungs ++ tl) = .folded s rungs :: performRecognition cfg tl := by
  obtain ⟨_, _, _, hf⟩ := fold_spec h
  obtain ⟨r, rungs', rfl⟩ := List.exists_cons_of_ne_nil (l := rungs) (by rintro rfl; exact absurd hf.two (by decide))
  rw [List.cons_append] at h
  show performGo cfg ((rungs' ++ tl).length + 1) (r :: (rungs' ++ tl)) = _
  rw [performGo, h]
  show Item.folded s (r :: rungs') :: performGo cfg (rungs' ++ tl).length ((rungs' ++ tl).drop rungs'.length) = _
  rw [List.drop_left, performGo_fuel cfg _ tl (by rw [List.length_append]; exact Nat.le_add_left ..)]
  rfl

/-- **script level**: a script that starts with the expansion of a canonical statement decompiles
to that statement followed by the decompilation of the rest -/
theorem recognize_expand_script (cfg : Cfg) (n : Nat) (E : Mask) (s : RStmt) (hc : Canonical cfg n E s)
    (hraise : canRaise cfg s.kind s.opcode = true) (tail : List RInstr)
    (htail : ∀ t, tail.head? = some t → firstBit (diffPart cfg.defs t.mask) ≠ some n) :
    recognize cfg (compiledOf cfg n E s ++ tail) = s :: recognize cfg tail := by
  rw [recognize, performRecognition_fold (recognize_expand cfg n E s hc tail htail), List.flatMap_cons, render,
    if_pos hraise]
  rfl

/-- `{label}: ins_1002((1 : 2 : 3 : ), 7)` at time 10 under the built-in table -/
def canonI : RStmt :=
  { time := 10, label := true, mask := 0xFF#8, kind := .ins, opcode := 1002, fixed := [],
    args := [.sw [some 1, some 2, some 3, none], .one 7] }

theorem canonI_canonical : Canonical cfgI 4 0b0111#8 canonI where
  n4 := by decide
  n8 := by decide
  diffRun := by decide +kernel
  allDiff := by decide +kernel
  e0 := by decide +kernel
  eLt := by decide +kernel
  two := by decide +kernel
  someSw := by decide +kernel
  swOk := by
    intro k cs h
    match k, h with
    | 0, h => cases h; decide +kernel
    | 1, h => cases h
    | k + 2, h => cases h

example : compiledOf cfgI 4 0b0111#8 canonI = ladderI.take 3 := by decide +kernel

example : recognize cfgI (ladderI.take 3 ++ [rung 10 false .ins 1002 0xFF#8 [9, 9]]) =
    canonI :: recognize cfgI [rung 10 false .ins 1002 0xFF#8 [9, 9]] :=
  recognize_expand_script cfgI 4 0b0111#8 canonI canonI_canonical rfl [rung 10 false .ins 1002 0xFF#8 [9, 9]] (by decide)

example : lowerStmt cfgI.defs canonI = .ok ((ladderI.take 3).map (·.raw)) :=
  lowerStmt_canonical cfgI inv_default 4 0b0111#8 canonI canonI_canonical

end TruthModel.C14
