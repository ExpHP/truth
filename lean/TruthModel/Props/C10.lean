import TruthModel.Lemmas.ScopeRename
/-
C10 — names resolve by lexical scope, independent of how they are spelled.  The property: the rib-stack resolver
computes the declarative specification (`ribs_eq_spec`, for a bare block `ribs_eq_spec_block`), handles every
identifier occurrence exactly once without an assertion firing (`each_ident_visited_once`,
`each_ident_resolved_once`), and its result does not change under a consistent renaming (`rename_invariant`,
`rename_invariant_block`); then a program on which all hypotheses hold.  The second part is about what the
specification leaves implicit: which global definition of a spelling wins (`global_var_precedence` and its
corollaries), the order of the ribs of a function body (`func_body_stacks`), call arguments that are not visited,
declarations without body, `times` clobbers.
-/
namespace TruthModel.C10
open TruthModel TruthModel.Scope

/-- The rib-stack resolver computes exactly the declarative specification: the same events (self
resolutions, redefinition errors, resolutions, errors) in the same order, for every block and
every global environment. -/
theorem ribs_eq_spec_block (g : Globals) (b : List Stmt) : resolveRibsBlock g b = resolveSpecBlock g b :=
  visitBlock_eq (g.withProgram b) b (some g.funcsLang) [] [] userRibs_nil itemRibs_nil

/-- a script file: its top-level statements are items (the AST cannot hold a local declaration there) -/
def TopLevel (items : List Stmt) : Prop := ∀ s ∈ items, s.isDecl = false

theorem ribs_eq_spec_with (g : Globals) (items : List Stmt) (h : TopLevel items) :
    resolveRibsWith g items = resolveSpecWith g items := by
  obtain ⟨user', fuser', hu', hf', ha, he⟩ := enterItems g items [] [] userRibs_nil itemRibs_nil
  unfold resolveRibsWith resolveSpecWith
  dsimp only
  rw [show Env.empty = ⟨envOf [], fenvOf []⟩ from rfl, he]
  exact ha ▸ congrArg (_ ++ ·) (visitStmts_free g items h (some g.funcsLang) user' fuser' (fun _ => false) hu' hf')

/-- The rib-stack resolver of a whole script file (`visit_file`: the table of function signatures
is the one of the program, `Globals.withProgram`) computes exactly the declarative specification,
including which arguments of a call are looked at at all, the enum every argument is expected to
be, `times(x = n)` clobber variables (uses) and function declarations without body (their
parameter names declare nothing). -/
theorem ribs_eq_spec (g : Globals) (items : List Stmt) (h : TopLevel items) :
    resolveRibs g items = resolveSpec g items :=
  ribs_eq_spec_with (g.withProgram items) items h

/-- Every identifier occurrence of the program gets exactly one primary event (self resolution,
resolution, error, or `skipped` for an identifier the resolver never looks at), in the order
`blockIds` lists them, and no assertion of the resolver fires (`evKey` of a fired assertion is
`none`). -/
theorem each_ident_visited_once (g : Globals) (items : List Stmt) (h : TopLevel items) :
    (resolveRibs g items).flatMap evKey = (blockIds items).map some :=
  ribs_eq_spec g items h ▸ specBlock_key _ items (specStmts_key _ items) _ _ envClean_empty

/-- With pairwise distinct occurrence ids (what `assign_res_ids` provides) the `Resolutions` table
is filled without the "ident resolved multiple times" assertion (or any other) firing; it maps
every resolved identifier to the definition of its one resolution event and every declaring
identifier to itself, and leaves identifiers with an error or never looked at unresolved. -/
theorem each_ident_resolved_once (g : Globals) (items : List Stmt) (h : TopLevel items)
    (hn : (blockIds items).Nodup) :
    ∃ tbl, applyEvents [] (resolveRibs g items) = .ok tbl ∧
      (∀ id d, Event.res id d ∈ resolveRibs g items → tbl.lookup id = some d) ∧
      (∀ id, Event.selfRes id ∈ resolveRibs g items → tbl.lookup id = some (.decl id)) ∧
      (∀ id e, Event.err id e ∈ resolveRibs g items → tbl.lookup id = none) ∧
      (∀ id, Event.skipped id ∈ resolveRibs g items → tbl.lookup id = none) := by
  obtain ⟨tbl, ht, _, hw⟩ := applyEvents_fresh _ _ [] (each_ident_visited_once g items h) hn (fun _ _ => rfl)
  exact ⟨tbl, ht, fun id d hm => hw _ hm id rfl, fun id hm => hw _ hm id rfl, fun id e hm => hw _ hm id rfl,
    fun id hm => hw _ hm id rfl⟩

/-- `x` is declared somewhere in the program (local, parameter, const or function, at any depth) -/
def Declared (items : List Stmt) (x : Name) : Prop := x ∈ stmtsDeclNames items
def Occurs (items : List Stmt) (x : Name) : Prop := x ∈ stmtsNames items

/-- renaming invariance of the specification.  Stated for a block; it covers a file, whose specification is that
of a block in the empty environment (`resolveSpec g items` is `resolveSpecBlock g items`, `renameFile` is
`renameBlock`, by definition). -/
theorem spec_rename (g : Globals) (ρ : Name → Name) (b : List Stmt)
    (hinj : ∀ x y, Declared b x → Declared b y → ρ x = ρ y → x = y)
    (hfresh : ∀ x, Declared b x → ¬ Occurs b (ρ x)) :
    resolveSpecBlock g (renameBlock ρ b) = resolveSpecBlock g b := by
  have hr : RenOK ρ (Declared b) (Occurs b) := ⟨hinj, hfresh⟩
  unfold resolveSpecBlock
  rw [show g.withProgram (renameBlock ρ b) = g.withProgram b from withProgram_ren g b _]
  exact specBlock_ren hr (g.withProgram b) b (renStmts_ok hr (g.withProgram b) b) _ (envRel_empty _ _) envClean_empty
    (fun _ h => h) (fun _ h => h)

/-- Renaming invariance.  Let `ρ` be injective on the declared names and map them to names that do
not occur in the program.  Renaming every declaration and every use bound to (or blocked by) one
(`renameFile`) leaves the resolver's result unchanged: the same events in the same order.  (`ρ x`
may coincide with a register alias, enum const or builtin: a declaration shadows those.)  Every declared name
occurs (`stmtsNames` lists declarations too), so `hfresh` makes `ρ` move EVERY declared name: a renaming that
leaves some declared names alone is not an instance. -/
theorem rename_invariant (g : Globals) (ρ : Name → Name) (items : List Stmt) (htop : TopLevel items)
    (hinj : ∀ x y, Declared items x → Declared items y → ρ x = ρ y → x = y)
    (hfresh : ∀ x, Declared items x → ¬ Occurs items (ρ x)) :
    resolveRibs g (renameFile ρ items) = resolveRibs g items := by
  have htop' : TopLevel (renameFile ρ items) := renStmts_isDecl items _ htop
  rw [ribs_eq_spec g items htop, ribs_eq_spec g _ htop']
  exact spec_rename g ρ items hinj hfresh

/-- the same for a bare block (`resolve_names` on an `ast::Block`) -/
theorem rename_invariant_block (g : Globals) (ρ : Name → Name) (b : List Stmt)
    (hinj : ∀ x y, Declared b x → Declared b y → ρ x = ρ y → x = y)
    (hfresh : ∀ x, Declared b x → ¬ Occurs b (ρ x)) :
    resolveRibsBlock g (renameBlock ρ b) = resolveRibsBlock g b := by
  rw [ribs_eq_spec_block, ribs_eq_spec_block]
  exact spec_rename g ρ b hinj hfresh

/-! `exampleProg` as source: declarations shadowing globals and an outer const, a duplicate parameter, a local in its own
initialiser, every form of enum-const use; it crosses no barrier.

```
const int a = a();                       // 0 1     functions are a separate namespace; no function `a`
const int f(int p, int p) { return a; }  // 2 3 4 5 duplicate parameter; `a` is the const (whole-file scope)
script {
  int b = b;                             // 6 7     a local is not in scope in its own initialiser
  { int a = a; a; }                      // 8 9 10  initialiser sees the const, the use after it the local
  d; c; f(b);                            // 11..14  enum const, ambiguous enum const, the function item `f`
  E2.c; E1.a; E9.c;                      // 15..17  qualified enum consts ignore scope: ok, no such const, no such enum
}
```
-/

def exampleGlobals : Globals :=
  { langs := ["ecl", "anm"], regAliases := [("anm", "a", 10000), ("ecl", "a", 100)],
    insAliases := [("anm", "f", 7)], enums := ["E1", "E2"], enumConsts := [("E1", "c"), ("E2", "c"), ("E1", "d")],
    builtins := ["PI"], funcsLang := "ecl", scriptsLang := "anm" }

def exampleProg : List Stmt :=
  [ .const [⟨0, "a", [.call ⟨1, .funcs, "a", none, none⟩ []]⟩],
    .func 2 "f" .const [(3, "p"), (4, "p")] [.expr [.use ⟨5, .vars, "a", none, none⟩]],
    .script [ .decl [⟨6, "b", [.use ⟨7, .vars, "b", none, none⟩]⟩],
              .block [.decl [⟨8, "a", [.use ⟨9, .vars, "a", none, none⟩]⟩], .expr [.use ⟨10, .vars, "a", none, none⟩]],
              .expr [.use ⟨11, .vars, "d", none, none⟩, .use ⟨12, .vars, "c", none, none⟩,
                     .call ⟨13, .funcs, "f", none, none⟩ [.use ⟨14, .vars, "b", none, none⟩]],
              .expr [.use ⟨15, .vars, "c", none, some "E2"⟩, .use ⟨16, .vars, "a", none, some "E1"⟩,
                     .use ⟨17, .vars, "c", none, some "E9"⟩]] ]

def exampleRho : Name → Name := fun x =>
  if x = "a" then "alpha" else if x = "b" then "beta" else if x = "f" then "phi" else if x = "p" then "pi" else x

theorem example_topLevel : TopLevel exampleProg := by unfold TopLevel; decide

example : resolveRibs exampleGlobals exampleProg =
    [.selfRes 0, .selfRes 2, .err 1 .unknown, .selfRes 3, .selfRes 4, .redef 4 .param, .res 5 (.decl 0),
     .err 7 .unknown, .selfRes 6, .res 9 (.decl 0), .selfRes 8, .res 10 (.decl 8),
     .res 11 (.enumConst "E1" "d"), .err 12 .ambiguousEnum, .res 13 (.decl 2), .res 14 (.decl 6),
     .res 15 (.enumConst "E2" "c"), .err 16 .noEnumConst, .err 17 .noSuchEnum] := by decide +kernel

example : resolveRibs exampleGlobals exampleProg = resolveSpec exampleGlobals exampleProg :=
  ribs_eq_spec _ _ example_topLevel

example : ∃ tbl, applyEvents [] (resolveRibs exampleGlobals exampleProg) = .ok tbl :=
  let ⟨tbl, h, _⟩ := each_ident_resolved_once _ _ example_topLevel (by decide +kernel)
  ⟨tbl, h⟩

/-- the occurrence ids matter: with a repeated id the assertion of `Resolutions` does fire -/
example : applyEvents [] (resolveRibs exampleGlobals
    [.script [.expr [.use ⟨0, .vars, "PI", none, none⟩, .use ⟨0, .vars, "PI", none, none⟩]]]) =
    .panic "(bug!) ident resolved multiple times" := by decide +kernel

theorem example_inj : ∀ x y, Declared exampleProg x → Declared exampleProg y →
    exampleRho x = exampleRho y → x = y := by
  have h : ∀ x ∈ stmtsDeclNames exampleProg, ∀ y ∈ stmtsDeclNames exampleProg,
      exampleRho x = exampleRho y → x = y := by decide +kernel
  exact fun x y hx hy => h x hx y hy

theorem example_fresh : ∀ x, Declared exampleProg x → ¬ Occurs exampleProg (exampleRho x) := by
  have h : ∀ x ∈ stmtsDeclNames exampleProg, ¬ exampleRho x ∈ stmtsNames exampleProg := by decide +kernel
  exact fun x hx => h x hx

example : resolveRibs exampleGlobals (renameFile exampleRho exampleProg) =
    resolveRibs exampleGlobals exampleProg :=
  rename_invariant _ _ _ example_topLevel example_inj example_fresh

/-- the renaming really renames: bound names change, the free `d`, `c` and the unbound `a()`, `b` stay -/
example : stmtsNames (renameFile exampleRho exampleProg) =
    ["alpha", "a", "phi", "pi", "pi", "alpha", "beta", "b", "alpha", "alpha", "alpha", "d", "c", "phi", "beta",
     "c", "a", "c"] := by
  decide +kernel

/-! ## The global ribs (`Defs::initial_ribs`) and which global definition of a spelling wins

`Globals.initialRibsVec` is the vector `initial_ribs` returns, `ribStacksFromIter` what
`RibStacks::from_iter` makes of it. -/

theorem foldl_push (ns : Ns) (r : Lang → Rib) : ∀ (ls : List Lang) (st : Stacks),
    (ls.map fun l => (ns, r l)).foldl pushRib st =
      (match ns with
       | .vars => { st with vars := ls.reverse.map r ++ st.vars }
       | .funcs => { st with funcs := ls.reverse.map r ++ st.funcs }) := by
  intro ls
  induction ls with
  | nil => intro st; cases ns <;> rfl
  | cons l ls ih => intro st; simp only [List.map_cons, List.foldl_cons]; rw [ih]; cases ns <;> simp [pushRib]

/-- the rib stacks name resolution starts from are `initial_ribs` pushed in order on the dummy roots -/
theorem initial_ribs_stacks (g : Globals) : ribStacksFromIter g.initialRibsVec = g.initialStacks := by
  unfold ribStacksFromIter Globals.initialRibsVec Globals.initialStacks Globals.initialVars Globals.initialFuncs
  rw [List.foldl_append, List.foldl_append, foldl_push .funcs, foldl_push .vars]
  rfl

/-- Variables: which global definition a spelling means (`Globals.globalVar`: enum const, else
builtin const, else the newest register alias of that name in the language of the use; in a const
context, or in a language without mapfile rib, no alias at all). -/
theorem global_var_precedence (g : Globals) (lang : Option Lang) (n : Name) :
    resolve lang n none (ribStacksFromIter g.initialRibsVec).vars = g.globalVar lang n := by
  rw [initial_ribs_stacks]; exact resolve_initialVars g lang n none

/-- Functions: the newest instruction alias of that name in the language of the use, nothing else. -/
theorem global_func_precedence (g : Globals) (lang : Option Lang) (n : Name) :
    resolve lang n none (ribStacksFromIter g.initialRibsVec).funcs = g.globalFunc lang n := by
  rw [initial_ribs_stacks]; exact resolve_initialFuncs g lang n none

/-- a const of an enum (a sprite, script or sub name, or a mapfile enum const) shadows a builtin
const and a register alias of the same spelling, in every language and in const contexts -/
theorem enum_const_shadows_builtin_and_alias (g : Globals) (lang : Option Lang) (n : Name)
    (h : g.enumConsts.any (fun p => p.2 == n) = true) :
    resolve lang n none (ribStacksFromIter g.initialRibsVec).vars = .ok .enumDummy := by
  rw [global_var_precedence]; unfold Globals.globalVar; rw [if_pos h]

theorem builtin_shadows_alias (g : Globals) (lang : Option Lang) (n : Name)
    (h1 : g.enumConsts.any (fun p => p.2 == n) = false) (h2 : g.builtins.contains n = true) :
    resolve lang n none (ribStacksFromIter g.initialRibsVec).vars = .ok (.builtin n) := by
  rw [global_var_precedence]; unfold Globals.globalVar
  rw [if_neg (by rw [h1]; exact Bool.false_ne_true), if_pos h2]

theorem alias_invisible_in_const_context (g : Globals) (n : Name)
    (h1 : g.enumConsts.any (fun p => p.2 == n) = false) (h2 : g.builtins.contains n = false) :
    resolve none n none (ribStacksFromIter g.initialRibsVec).vars = .error .unknown := by
  rw [global_var_precedence]; unfold Globals.globalVar
  rw [if_neg (by rw [h1]; exact Bool.false_ne_true), if_neg (by rw [h2]; exact Bool.false_ne_true)]

theorem alias_only_of_own_language (g : Globals) (l : Lang) (n : Name)
    (h1 : g.enumConsts.any (fun p => p.2 == n) = false) (h2 : g.builtins.contains n = false)
    (h3 : lastAlias g.regAliases l n = none) :
    resolve (some l) n none (ribStacksFromIter g.initialRibsVec).vars = .error .unknown := by
  rw [global_var_precedence]; unfold Globals.globalVar
  rw [if_neg (by rw [h1]; exact Bool.false_ne_true), if_neg (by rw [h2]; exact Bool.false_ne_true)]
  simp only [h3]
  split <;> rfl

theorem declaration_shadows_globals (g : Globals) (user : List Rib) (hu : UserRibs user)
    (lang : Option Lang) (n : Name) (e : VEntry) (he : envOf user n = some e) :
    resolve lang n none (user ++ (ribStacksFromIter g.initialRibsVec).vars) =
      (match e with
       | .loc _ d => .ok d
       | .item d => .ok d
       | .blocked k ik => .error (.crossBarrier k ik)) := by
  rw [initial_ribs_stacks]
  show resolve lang n none (user ++ g.initialVars) = _
  rw [resolve_vars_user g lang n user hu (fun _ => none)]
  simp only [lookupVar, he]
  cases e <;> rfl

/-- The statements of the body of `T f(params) { body }` are resolved on these stacks: the
`Locals` rib of the body block, the rib of the items of the body block (pre-declared), the
`Params` rib, the function barrier, then whatever was there.  A const of the body's own top-level
block therefore shadows a parameter of the same name, in the whole body. -/
theorem func_body_stacks (st : Stacks) (params : List (Nat × Name)) (body : List Stmt) :
    (enterBlock (addParams { st with vars := Rib.new .params :: Rib.new (.barrier .function) :: st.vars } params).1
        body).1 =
      ⟨⟨.locals, []⟩ :: ⟨.items, pushItems .vars (itemDecls body) []⟩ :: ⟨.params, pushParams params []⟩ ::
          ⟨.barrier .function, []⟩ :: st.vars,
        ⟨.items, pushItems .funcs (itemDecls body) []⟩ :: st.funcs⟩ := by
  have hp := (addParams_eq [⟨.barrier .function, []⟩] st.vars st.funcs (fun _ => none) params []).1
  simp only [List.cons_append, List.nil_append] at hp
  simp only [Rib.new]
  rw [hp]
  simp only [enterBlock, Rib.new]
  rw [addItems_eq]

/-- the environment in which the specification walks the body of `T f(params) { body }` declared in `env` -/
def bodyEnv (env : Env) (params : List (Nat × Name)) (body : List Stmt) : Env :=
  (paramEnv (env.hide .function) params).withItems (itemDecls body)

/-- why `bodyEnv` is the environment of a function body; with `ribs_eq_spec` the two lemmas after it are about the resolver -/
theorem specStmt_func_bodyEnv (g : Globals) (lang : Option Lang) (env : Env) (here : Name → Bool) (id : Nat)
    (name : Name) (qual : FuncQual) (params : List (Nat × Name)) (body : List Stmt) :
    (specStmt g lang env here (.func id name qual params body)).2 =
      (specParams (env.hide .function) (fun _ => false) params).2 ++
        (declEvents itemNoun (fun _ _ => false) (itemDecls body) ++
          specStmts g (funcLang g qual) (bodyEnv env params body) (fun _ => false) body) := by
  rw [specStmt_func, specParams_env]; rfl

theorem body_item_shadows_param (env : Env) (params : List (Nat × Name)) (body : List Stmt) (n : Name) (cid : Nat)
    (h : lastDecl (itemDecls body) .vars n = some cid) :
    (bodyEnv env params body).vars n = some (.item (.decl cid)) := by
  simp only [bodyEnv, Env.withItems, h]

theorem param_visible_unless_body_item (env : Env) (params : List (Nat × Name)) (body : List Stmt) (n : Name)
    (h : lastDecl (itemDecls body) .vars n = none) :
    (bodyEnv env params body).vars n = (paramEnv (env.hide .function) params).vars n := by
  simp only [bodyEnv, Env.withItems, h]

theorem excess_args_skipped (g : Globals) (lang : Option Lang) (look : Use → Event) (c : Option Name) :
    ∀ (es : List Expr), walkArgs g lang look c (some []) es = skipExprs es := by
  intro es
  induction es with
  | nil => rfl
  | cons e es ih => simp only [walkArgs, skipExprs, ih]

/-- without a signature (the callee name did not resolve, or its instruction has none) every
argument is visited, under the enum that was expected before -/
theorem args_without_signature (g : Globals) (lang : Option Lang) (look : Use → Event) (c : Option Name) :
    ∀ (es : List Expr), walkArgs g lang look c none es = walkExprs g lang look c es :=
  walkArgs_none g lang look c

theorem funcDecl_declares_only_its_name (g : Globals) (lang : Option Lang) (st : Stacks) (id : Nat) (name : Name)
    (qual : FuncQual) (params : List (Nat × Name)) (rest : List Stmt) :
    visitStmt g lang st (.funcDecl id name qual params) = (st, params.map fun p => Event.skipped p.1) ∧
      itemDecls (.funcDecl id name qual params :: rest) = (.funcs, id, name) :: itemDecls rest :=
  ⟨by simp only [visitStmt], by simp only [itemDecls]⟩

theorem times_clobber_is_a_use (g : Globals) (lang : Option Lang) (st : Stacks) (x : Use) (es : List Expr)
    (b : List Stmt) :
    visitStmts g lang st (Stmt.timesClobber x es b) =
      visitUse g lang st { x with color := none } :: visitStmts g lang st (Stmt.times es b) := by
  simp only [Stmt.timesClobber, Stmt.times, visitStmts, visitStmt, walkExprs, walkExpr, List.cons_append,
    List.nil_append, List.append_assoc]

/-! ### Non-vacuity of the second part

```
int g(int a);                 // 0 1      declaration without body: `a` declares nothing
void f(int p, int q) {        // 2 3 4
  p;                          // 5        the const below (whole block, also before its declaration), not the parameter
  const int p = 1;            // 6
  times(q = p) { }            // 7 8      clobber `q`: the parameter; count `p`: the const
  g(p, nowhere);              // 9 10 11  `g` has one parameter: the second argument is never looked at
  h(nowhere);                 // 12 13    unknown function: the argument is still visited
  wait(RAND, INF);            // 14 15 16 ECL alias with one parameter; RAND: the sprite, not the ECL register alias
  INF;                        // 17       the builtin, not the ECL register alias
}
script { RAND; ins_900(x, x); }  // 18 19 20  in ANM: still the sprite; one parameter of enum E1
```
-/

def exampleGlobals2 : Globals :=
  { langs := ["ecl", "anm"],
    regAliases := [("anm", "RAND", 10000), ("ecl", "RAND", 100), ("ecl", "INF", 101), ("anm", "I0", 10001)],
    insAliases := [("ecl", "wait", 7)], enums := ["E1", "AnmSprite"],
    enumConsts := [("AnmSprite", "RAND"), ("E1", "x")],
    builtins := ["INF", "PI"], funcsLang := "ecl", scriptsLang := "anm",
    insSigs := [("ecl", 7, [none]), ("anm", 900, [some "E1"])] }

def exV (id : Nat) (n : Name) : Expr := .use ⟨id, .vars, n, none, none⟩

def exampleProg2 : List Stmt :=
  [ .funcDecl 0 "g" .plain [(1, "a")],
    .func 2 "f" .plain [(3, "p"), (4, "q")]
      ([ .expr [exV 5 "p"], .const [⟨6, "p", []⟩] ] ++
       Stmt.timesClobber ⟨7, .vars, "q", none, none⟩ [exV 8 "p"] [] ++
       [ .expr [.call ⟨9, .funcs, "g", none, none⟩ [exV 10 "p", exV 11 "nowhere"]],
         .expr [.call ⟨12, .funcs, "h", none, none⟩ [exV 13 "nowhere"]],
         .expr [.call ⟨14, .funcs, "wait", none, none⟩ [exV 15 "RAND", exV 16 "INF"]],
         .expr [exV 17 "INF"] ]),
    .script [ .expr [exV 18 "RAND", .raw 900 [exV 19 "x", exV 20 "x"]] ] ]

theorem example2_topLevel : TopLevel exampleProg2 := by unfold TopLevel; decide

example : resolveRibs exampleGlobals2 exampleProg2 =
    [.selfRes 0, .selfRes 2, .skipped 1, .selfRes 3, .selfRes 4, .selfRes 6, .res 5 (.decl 6),
     .res 7 (.decl 4), .res 8 (.decl 6), .res 9 (.decl 0), .res 10 (.decl 6), .skipped 11,
     .err 12 .unknown, .err 13 .unknown, .res 14 (.insAlias "ecl" 7), .res 15 (.enumConst "AnmSprite" "RAND"),
     .skipped 16, .res 17 (.builtin "INF"), .res 18 (.enumConst "AnmSprite" "RAND"),
     .res 19 (.enumConst "E1" "x"), .skipped 20] := by decide +kernel

example : resolveRibs exampleGlobals2 exampleProg2 = resolveSpec exampleGlobals2 exampleProg2 :=
  ribs_eq_spec _ _ example2_topLevel

example : ∃ tbl, applyEvents [] (resolveRibs exampleGlobals2 exampleProg2) = .ok tbl ∧
    tbl.lookup 11 = none ∧ tbl.lookup 1 = none :=
  let ⟨tbl, h, _, _, _, hs⟩ := each_ident_resolved_once _ _ example2_topLevel (by decide +kernel)
  ⟨tbl, h, hs 11 (by decide +kernel), hs 1 (by decide +kernel)⟩

/-- renaming the colliding declarations (`p` twice, `q`, `f`, `g`) to fresh names changes nothing -/
def exampleRho2 : Name → Name := fun x =>
  if x = "p" then "p_" else if x = "q" then "q_" else if x = "f" then "f_" else if x = "g" then "g_" else x

example : resolveRibs exampleGlobals2 (renameFile exampleRho2 exampleProg2) =
    resolveRibs exampleGlobals2 exampleProg2 :=
  rename_invariant _ _ _ example2_topLevel
    (by
      have h : ∀ x ∈ stmtsDeclNames exampleProg2, ∀ y ∈ stmtsDeclNames exampleProg2,
          exampleRho2 x = exampleRho2 y → x = y := by decide +kernel
      exact fun x y hx hy => h x hx y hy)
    (by
      have h : ∀ x ∈ stmtsDeclNames exampleProg2, ¬ exampleRho2 x ∈ stmtsNames exampleProg2 := by decide +kernel
      exact fun x hx => h x hx)

/-! the hypotheses of the precedence theorems are satisfiable: `RAND` is a sprite and a register alias of
both languages, `INF` a builtin and an ECL register alias, `I0` an ANM register alias only -/

example : resolve (some "ecl") "RAND" none (ribStacksFromIter exampleGlobals2.initialRibsVec).vars = .ok .enumDummy :=
  enum_const_shadows_builtin_and_alias _ _ _ (by decide +kernel)
example : resolve (some "ecl") "INF" none (ribStacksFromIter exampleGlobals2.initialRibsVec).vars =
    .ok (.builtin "INF") :=
  builtin_shadows_alias _ _ _ (by decide +kernel) (by decide +kernel)
example : resolve none "I0" none (ribStacksFromIter exampleGlobals2.initialRibsVec).vars = .error .unknown :=
  alias_invisible_in_const_context _ _ (by decide +kernel) (by decide +kernel)
example : resolve (some "ecl") "I0" none (ribStacksFromIter exampleGlobals2.initialRibsVec).vars = .error .unknown :=
  alias_only_of_own_language _ _ _ (by decide +kernel) (by decide +kernel) (by decide +kernel)
example : resolve (some "anm") "I0" none (ribStacksFromIter exampleGlobals2.initialRibsVec).vars =
    .ok (.regAlias "anm" 10001) := by rw [global_var_precedence]; rfl
example : resolve (some "anm") "RAND" none
    ([⟨.locals, [("RAND", .decl 5)]⟩] ++ (ribStacksFromIter exampleGlobals2.initialRibsVec).vars) = .ok (.decl 5) :=
  declaration_shadows_globals exampleGlobals2 [⟨.locals, [("RAND", .decl 5)]⟩]
    (userRibs_cons _ _ (userRib_locals _) userRibs_nil) (some "anm") "RAND" (.loc .local (.decl 5))
    (by decide +kernel)
example : (bodyEnv Env.empty [(3, "p"), (4, "q")] [.expr [exV 5 "p"], .const [⟨6, "p", []⟩]]).vars "p" =
    some (.item (.decl 6)) :=
  body_item_shadows_param _ _ _ _ _ (by decide +kernel)
example : (bodyEnv Env.empty [(3, "p"), (4, "q")] [.expr [exV 5 "p"], .const [⟨6, "p", []⟩]]).vars "q" =
    some (.loc .param (.decl 4)) := by
  rw [param_visible_unless_body_item _ _ _ _ (by decide +kernel)]; decide

/-- the global ribs of the example, bottom first, as `initial_ribs` returns them -/
example : exampleGlobals2.initialRibsVec.map (fun r => (r.1, r.2.kind)) =
    [(.funcs, .mapfile "ecl"), (.funcs, .mapfile "anm"), (.vars, .mapfile "ecl"), (.vars, .mapfile "anm"),
     (.vars, .builtinConsts), (.vars, .enumConsts)] := by decide +kernel

end TruthModel.C10
