import TruthModel.Model.AbiParts
/-
C12, intrinsic placement: `IntrinsicInstrAbiParts::from_abi`, `IntrinsicBuilder::into_vec` and the
position reads of `raise_intrinsic_parts` (model: `Model/AbiParts.lean`).

All theorems quantify over every intrinsic kind, every signature (`PAbi`, any length, padding
anywhere) and every builder content; the values that are placed are an abstract type.
-/
open TruthModel TruthModel.Abi TruthModel.AbiParts
namespace TruthModel.C12

theorem removeFirstWhere_some {q : Nat × PEnc → Bool} {l : Slots} {x : Nat × PEnc} {r : Slots}
    (h : removeFirstWhere q l = some (x, r)) : q x = true ∧ l.Perm (x :: r) := by
  fun_induction removeFirstWhere q l generalizing x r with
  | case1 | case4 => cases h
  | case2 y ys hq => cases h; exact ⟨hq, .refl _⟩
  | case3 y ys hq z zs hr ih =>
    cases h
    obtain ⟨hqx, hperm⟩ := ih hr
    exact ⟨hqx, (hperm.cons y).trans (.swap _ _ _)⟩

theorem removeFirstWhere_none (q : Nat × PEnc → Bool) : ∀ (l : Slots),
    removeFirstWhere q l = none → ∀ x ∈ l, q x = false := by
  intro l h x hx
  fun_induction removeFirstWhere q l with
  | case1 => cases hx
  | case2 | case3 => cases h
  | case4 y ys hq hr ih =>
    cases hx with
    | head => exact Bool.eq_false_iff.mpr hq
    | tail _ hx => exact ih hr hx

theorem removePadding_enumFrom (abi : PAbi) (k : Nat) :
    (removePadding (enumFrom k abi)).map Prod.fst = nonPadFrom k abi := by
  induction abi generalizing k with
  | nil => rfl
  | cons e es ih =>
    have := ih (k + 1)
    simp only [removePadding] at this
    by_cases hp : e.enc.isPadding = true
    · simp [removePadding, enumFrom, nonPadFrom, hp, this]
    · simp [removePadding, enumFrom, nonPadFrom, hp, this]

theorem sub_eq_sub_succ_add_one {i k : Nat} (h : k + 1 ≤ i) : i - k = (i - (k + 1)) + 1 := by
  rw [Nat.sub_add_eq, Nat.sub_add_cancel (Nat.sub_pos_of_lt h)]

theorem enumFrom_mem : ∀ (abi : PAbi) (k : Nat) (x : Nat × PEnc), x ∈ enumFrom k abi →
    k ≤ x.1 ∧ abi[x.1 - k]? = some x.2 := by
  intro abi
  induction abi with
  | nil => intro k x hx; cases hx
  | cons e es ih =>
    intro k x hx
    simp only [enumFrom] at hx
    rcases List.mem_cons.mp hx with h | h
    · subst h; simp
    · obtain ⟨h1, h2⟩ := ih (k + 1) x h
      refine ⟨Nat.le_of_succ_le h1, ?_⟩
      rw [sub_eq_sub_succ_add_one h1, List.getElem?_cons_succ]; exact h2

theorem nonPadFrom_pad {e : PEnc} (hp : e.enc.isPadding = true) (k : Nat) (es : PAbi) :
    nonPadFrom k (e :: es) = nonPadFrom (k + 1) es := by
  simp only [nonPadFrom, hp, if_true]

theorem nonPadFrom_arg {e : PEnc} (hp : e.enc.isPadding = false) (k : Nat) (es : PAbi) :
    nonPadFrom k (e :: es) = k :: nonPadFrom (k + 1) es := by
  simp only [nonPadFrom, hp, Bool.false_eq_true, if_false]

theorem expand_pad {α} {e : PEnc} (hp : e.enc.isPadding = true) (pad : α) (es : PAbi) (vs : List α) :
    expand pad (e :: es) vs = pad :: expand pad es vs := by
  simp only [expand, hp, if_true]

theorem expand_arg {α} {e : PEnc} (hp : e.enc.isPadding = false) (pad : α) (es : PAbi) (v : α) (vs : List α) :
    expand pad (e :: es) (v :: vs) = v :: expand pad es vs := by
  simp only [expand, hp, Bool.false_eq_true, if_false]

theorem nonPadFrom_ge (abi : PAbi) (k i : Nat) (h : i ∈ nonPadFrom k abi) : k ≤ i := by
  induction abi generalizing k with
  | nil => cases h
  | cons e es ih =>
    cases hp : e.enc.isPadding with
    | true => rw [nonPadFrom_pad hp] at h; exact Nat.le_of_succ_le (ih _ h)
    | false =>
      rw [nonPadFrom_arg hp] at h
      cases h with
      | head => exact Nat.le_refl _
      | tail _ h => exact Nat.le_of_succ_le (ih _ h)

theorem nonPadFrom_nodup (abi : PAbi) (k : Nat) : (nonPadFrom k abi).Nodup := by
  induction abi generalizing k with
  | nil => exact List.nodup_nil
  | cons e es ih =>
    cases hp : e.enc.isPadding with
    | true => rw [nonPadFrom_pad hp]; exact ih _
    | false =>
      rw [nonPadFrom_arg hp]
      exact List.nodup_cons.mpr ⟨fun h => Nat.lt_irrefl _ (nonPadFrom_ge es (k + 1) k h), ih _⟩

/-! Every step of `from_abi` moves slots from the list still to hand out to the positions handed out: the multiset of both together stays. -/

/-- no second `jump` or `subId` step once the field is set (`j`, `sb`) -/
def stepsWf : List Step → Bool → Bool → Bool
  | [], _, _ => true
  | s :: ss, j, sb =>
    !(s == .jump && j) && !(s == .subId && sb) && stepsWf ss (j || s == .jump) (sb || s == .subId)

theorem steps_wf (k : Kind) : stepsWf k.steps false false = true := by
  cases k <;> rfl

/-- what `find_and_remove_jump` takes out: the first `o`, alone or with the first `t` directly
before or after it, at the positions the jump info names -/
theorem findRemoveJump_ok {l r : Slots} {j : Nat × JumpOrder} (h : findRemoveJump l = .ok (j, r)) :
    ∃ xs, l.Perm (xs ++ r) ∧
      xs.map Prod.fst = (match j with | (i, .loc) => [i] | (i, _) => [i, i + 1]) := by
  unfold findRemoveJump at h
  cases h1 : removeFirstWhere isOffset l with
  | none => rw [h1] at h; cases h
  | some o1 =>
    obtain ⟨o, l1⟩ := o1
    have hpo := (removeFirstWhere_some h1).2
    simp only [h1] at h
    cases h2 : removeFirstWhere isTime l1 with
    | none =>
      simp only [h2] at h
      cases h
      exact ⟨[o], hpo, rfl⟩
    | some t1 =>
      obtain ⟨t, l2⟩ := t1
      have hpt := hpo.trans ((removeFirstWhere_some h2).2.cons o)
      simp only [h2] at h
      split at h
      · rename_i hc
        cases h
        exact ⟨[o, t], hpt, congrArg (fun x => [o.1, x]) (beq_iff_eq.mp hc)⟩
      · split at h
        · rename_i hc
          cases h
          exact ⟨[t, o], hpt.trans (.swap _ _ _), congrArg (fun x => [t.1, x]) (beq_iff_eq.mp hc).symm⟩
        · cases h

/-- a step does not overwrite a field that is already set -/
def stepPre (s : Step) (p : Parts) : Prop :=
  (s = .jump → p.jump = none) ∧ (s = .subId → p.subId = none)

theorem handOut_perm {P P1 : List Nat} {l l1 : Slots} (xs : Slots)
    (hl : l.Perm (xs ++ l1)) (hp : P1.Perm (xs.map Prod.fst ++ P)) :
    (P1 ++ l1.map Prod.fst).Perm (P ++ l.map Prod.fst) := by
  have h1 := (hl.map Prod.fst).append_left P
  rw [List.map_append] at h1
  refine ((hp.append_right _).trans ?_).trans h1.symm
  rw [List.append_assoc]
  exact List.perm_append_comm_assoc _ _ _

theorem runStep_perm {s : Step} {p p1 : Parts} {l l1 : Slots}
    (hpre : stepPre s p) (h : runStep s p l = .ok (p1, l1)) :
    (p1.positions ++ l1.map Prod.fst).Perm (p.positions ++ l.map Prod.fst) ∧ p1.numInstrArgs = p.numInstrArgs ∧
    p1.jump.isSome = (p.jump.isSome || s == .jump) ∧ p1.subId.isSome = (p.subId.isSome || s == .subId) := by
  revert h
  fun_cases runStep s p l with
  | case1 j r hj =>
    intro h
    cases h
    refine ⟨?_, rfl, (Bool.or_true _).symm, (Bool.or_false _).symm⟩
    obtain ⟨xs, hperm, hxs⟩ := findRemoveJump_ok hj
    refine handOut_perm xs hperm (.of_eq ?_)
    obtain ⟨i, o⟩ := j
    simp only [hxs, Parts.positions, hpre.1 rfl, List.nil_append, List.append_assoc]
    cases o <;> rfl
  | case4 i r hs =>
    intro h
    cases h
    refine ⟨?_, rfl, (Bool.or_false _).symm, (Bool.or_true _).symm⟩
    simp only [findRemoveSubId] at hs
    revert hs
    cases hr : removeFirstWhere isSubId l with
    | none => nofun
    | some xr =>
      intro hs
      cases hs
      refine handOut_perm [xr.1] (removeFirstWhere_some hr).2 ?_
      simp only [Parts.positions, hpre.2 rfl, List.append_assoc, List.nil_append, List.cons_append]
      exact (List.perm_middle.append_left _).trans List.perm_middle
  | case7 ty o r ho =>
    intro h
    cases h
    refine ⟨?_, rfl, (Bool.or_false _).symm, (Bool.or_false _).symm⟩
    cases l with
    | nil => cases ho
    | cons x r' =>
      simp only [removeOutArg] at ho
      revert ho
      cases hm : outMode ty x.2.enc with
      | none => nofun
      | some m =>
        intro ho
        cases ho
        refine handOut_perm [x] (.refl _) ?_
        simp only [Parts.positions, List.map_append, ← List.append_assoc]
        exact List.perm_append_singleton _ _
  | case10 ty i r hi =>
    intro h
    cases h
    refine ⟨?_, rfl, (Bool.or_false _).symm, (Bool.or_false _).symm⟩
    cases l with
    | nil => cases hi
    | cons x r' =>
      simp only [removePlainArg] at hi
      split at hi
      · cases hi
        refine handOut_perm [x] (.refl _) ?_
        simp only [Parts.positions, List.append_assoc, List.nil_append, List.cons_append]
        exact (List.perm_middle.append_left _).trans List.perm_middle
      · cases hi
  | case2 | case3 | case5 | case6 | case8 | case9 | case11 | case12 => nofun

theorem runSteps_perm {ss : List Step} {p p1 : Parts} {l l1 : Slots}
    (hwf : stepsWf ss p.jump.isSome p.subId.isSome = true) (h : runSteps ss p l = .ok (p1, l1)) :
    (p1.positions ++ l1.map Prod.fst).Perm (p.positions ++ l.map Prod.fst) ∧ p1.numInstrArgs = p.numInstrArgs := by
  fun_induction runSteps ss p l with
  | case1 p l => cases h; exact ⟨.refl _, rfl⟩
  | case2 s ss p l p2 l2 hs ih =>
    simp only [stepsWf, Bool.and_eq_true, Bool.not_eq_true', Bool.and_eq_false_iff] at hwf
    have hpre : stepPre s p :=
      ⟨fun hj => by simpa [hj] using hwf.1.1, fun hsb => by simpa [hsb] using hwf.1.2⟩
    obtain ⟨ht, hn, hj, hsb⟩ := runStep_perm hpre hs
    obtain ⟨ht2, hn2⟩ := ih (by rw [hj, hsb]; exact hwf.2) h
    exact ⟨ht2.trans ht, by rw [hn2, hn]⟩
  | case3 | case4 => cases h

theorem fromAbi_ok (k : Kind) (abi : PAbi) (p : Parts) (h : fromAbi k abi = .ok p) :
    runSteps k.steps ⟨(removePadding (enumFrom 0 abi)).length, [], [], none, none⟩ (removePadding (enumFrom 0 abi)) = .ok (p, []) := by
  unfold fromAbi at h
  simp only at h
  split at h
  · next p' heq => cases h; exact heq
  · cases h
  · cases h
  · cases h

/-- **Placement.**  For every intrinsic kind and every signature `from_abi` accepts: the positions
it hands out (jump offset and time, plain arguments, sub id, outputs) are *exactly* the positions of
the non-padding parameters (as a multiset, so each once), they are pairwise distinct, and
`num_instr_args` is their number. -/
theorem intrinsic_placement (k : Kind) (abi : PAbi) (p : Parts) (h : fromAbi k abi = .ok p) :
    p.positions.Perm (nonPadFrom 0 abi) ∧ p.positions.Nodup ∧
    p.numInstrArgs = (nonPadFrom 0 abi).length ∧ p.positions.length = p.numInstrArgs := by
  have hr := fromAbi_ok k abi p h
  obtain ⟨ht, hn⟩ := runSteps_perm (by simpa using steps_wf k) hr
  rw [List.map_nil, List.append_nil, removePadding_enumFrom] at ht
  have hperm : p.positions.Perm (nonPadFrom 0 abi) := ht
  have hlen : p.numInstrArgs = (nonPadFrom 0 abi).length := by
    rw [hn, ← removePadding_enumFrom, List.length_map]
  exact ⟨hperm, (List.Perm.nodup_iff hperm).mpr (nonPadFrom_nodup abi 0), hlen, by rw [hlen]; exact hperm.length_eq⟩

/-- the hypotheses are satisfiable: `S_ot` for `CountJmp` hands out 0 (output), 2 and 3 (offset, time) -/
example : fromAbi .countJmp [⟨.int .w4 true false false, false⟩, ⟨.padding true, false⟩, ⟨.jumpOffset, false⟩, ⟨.jumpTime, false⟩]
    = .ok ⟨3, [], [(0, .natural)], some (2, .locTime), none⟩ := by decide +kernel

theorem fill_ok {α} (as : List (Nat × α)) (out : List (Option α))
    (hnd : (as.map Prod.fst).Nodup) (hfree : ∀ i ∈ as.map Prod.fst, out[i]? = some none) :
    ∃ out', fill out as = .ok out' ∧
      (∀ x ∈ as, out'[x.1]? = some (some x.2)) ∧ (∀ j, j ∉ as.map Prod.fst → out'[j]? = out[j]?) := by
  induction as generalizing out with
  | nil => exact ⟨out, rfl, nofun, fun _ _ => rfl⟩
  | cons x rest ih =>
    obtain ⟨i, v⟩ := x
    simp only [List.map_cons, List.nodup_cons] at hnd
    have hi : out[i]? = some none := hfree i List.mem_cons_self
    have hilt : i < out.length := (List.getElem?_eq_some_iff.mp hi).1
    have hfree1 : ∀ i' ∈ rest.map Prod.fst, (out.set i (some v))[i']? = some none := by
      intro i' hi'
      have hne : i ≠ i' := by intro h; subst h; exact hnd.1 hi'
      rw [List.getElem?_set_ne hne]
      exact hfree i' (List.mem_cons_of_mem _ hi')
    obtain ⟨out', hf, ha, hb⟩ := ih (out.set i (some v)) hnd.2 hfree1
    refine ⟨out', ?_, ?_, ?_⟩
    · simp only [fill, setSlot, hi]; exact hf
    · intro x hx
      rcases List.mem_cons.mp hx with h | h
      · subst h
        rw [hb i hnd.1, List.getElem?_set_self hilt]
      · exact ha x h
    · intro j hj
      simp only [List.map_cons, List.mem_cons, not_or] at hj
      rw [hb j hj.2, List.getElem?_set_ne (Ne.symm hj.1)]

theorem foldl_max_ge (xs : List Nat) (n : Nat) : n ≤ xs.foldl Nat.max n ∧ ∀ x ∈ xs, x ≤ xs.foldl Nat.max n := by
  induction xs generalizing n with
  | nil => exact ⟨Nat.le_refl _, nofun⟩
  | cons y ys ih =>
    obtain ⟨h1, h2⟩ := ih (Nat.max n y)
    simp only [List.foldl_cons]
    refine ⟨Nat.le_trans (Nat.le_max_left n y) h1, ?_⟩
    intro x hx
    rcases List.mem_cons.mp hx with h | h
    · subst h; exact Nat.le_trans (Nat.le_max_right n x) h1
    · exact h2 x h

theorem positions_lt_numSlots (p : Parts) : ∀ i ∈ p.positions, i < numSlots p := by
  intro i hi
  have hge : ∀ e ∈ slotEnds p, e ≤ numSlots p := by
    intro e he
    exact Nat.le_trans ((foldl_max_ge (slotEnds p) 0).2 e he) (Nat.le_max_left _ _)
  have : ∃ e ∈ slotEnds p, i < e := by
    simp only [Parts.positions, List.mem_append] at hi
    simp only [slotEnds, List.mem_append]
    rcases hi with ((hj | hpl) | hsb) | ho
    · cases hpj : p.jump with
      | none => simp [hpj] at hj
      | some info =>
        obtain ⟨j, o⟩ := info
        cases o <;> simp [hpj] at hj
        · exact ⟨j + 2, Or.inl (Or.inl (Or.inl (by simp))),
            Nat.lt_succ_of_le (hj.elim (fun h => h ▸ Nat.le_succ _) Nat.le_of_eq)⟩
        · exact ⟨j + 2, Or.inl (Or.inl (Or.inl (by simp))),
            Nat.lt_succ_of_le (hj.elim (fun h => h ▸ Nat.le_succ _) Nat.le_of_eq)⟩
        · exact ⟨j + 1, Or.inl (Or.inl (Or.inl (by simp))), Nat.lt_succ_of_le (Nat.le_of_eq hj)⟩
    · exact ⟨i + 1, Or.inl (Or.inl (Or.inr (List.mem_map.mpr ⟨i, hpl, rfl⟩))), Nat.lt_succ_self _⟩
    · cases hps : p.subId with
      | none => simp [hps] at hsb
      | some s =>
        simp [hps] at hsb
        exact ⟨s + 1, Or.inl (Or.inr (by simp)), Nat.lt_succ_of_le (Nat.le_of_eq hsb)⟩
    · obtain ⟨x, hx, rfl⟩ := List.mem_map.mp ho
      exact ⟨x.1 + 1, Or.inr (List.mem_map.mpr ⟨x, hx, rfl⟩), Nat.lt_succ_self _⟩
  obtain ⟨e, he, hlt⟩ := this
  exact Nat.lt_of_lt_of_le hlt (hge e he)

/-- dropping the empty slots: if exactly the slots at the non-padding positions are filled, the filled
values are one per non-padding parameter, and `expand` puts each back at the position of its slot -/
theorem flatten_aligned {α} (abi : PAbi) (k : Nat) (out : List (Option α))
    (H : ∀ j, (∃ v, out[j]? = some (some v)) ↔ k + j ∈ nonPadFrom k abi) :
    (out.filterMap id).length = (nonPadFrom k abi).length ∧
    ∀ (pad : α) (j : Nat) (v : α), out[j]? = some (some v) → (expand pad abi (out.filterMap id))[j]? = some v := by
  induction abi generalizing k out with
  | nil =>
    have hnone : ∀ o ∈ out, o = none := by
      intro o ho
      obtain ⟨j, hj⟩ := List.mem_iff_getElem?.mp ho
      cases o with
      | none => rfl
      | some v => cases (H j).mp ⟨v, hj⟩
    have hnil : out.filterMap id = [] := List.filterMap_eq_nil_iff.mpr fun o ho => by rw [hnone o ho]; rfl
    exact ⟨by rw [hnil]; rfl, fun pad j v hjv => by cases (H j).mp ⟨v, hjv⟩⟩
  | cons e es ih =>
    cases out with
    | nil =>
      have hnil : nonPadFrom k (e :: es) = [] := List.eq_nil_iff_forall_not_mem.mpr fun i hi => by
        have hge := nonPadFrom_ge _ k i hi
        obtain ⟨v, hv⟩ := (H (i - k)).mpr (by rwa [Nat.add_sub_cancel' hge])
        cases hv
      exact ⟨by rw [hnil]; rfl, fun pad j v h => by cases h⟩
    | cons o os =>
      have hk : k ∉ nonPadFrom (k + 1) es := fun h => Nat.lt_irrefl _ (nonPadFrom_ge es (k + 1) k h)
      have H0 := H 0
      rw [List.getElem?_cons_zero, Nat.add_zero] at H0
      cases hp : e.enc.isPadding with
      | true =>
        rw [nonPadFrom_pad hp] at H H0 ⊢
        have ho : o = none := by
          cases o with
          | none => rfl
          | some v => exact absurd (H0.mp ⟨v, rfl⟩) hk
        subst ho
        obtain ⟨ihl, ihg⟩ := ih (k + 1) os fun j => by
          rw [← List.getElem?_cons_succ (a := none), H (j + 1), Nat.add_right_comm, Nat.add_assoc]
        refine ⟨ihl, fun pad j v hjv => ?_⟩
        cases j with
        | zero => cases hjv
        | succ j => rw [List.filterMap_cons_none rfl, expand_pad hp]; exact ihg pad j v hjv
      | false =>
        rw [nonPadFrom_arg hp] at H H0 ⊢
        obtain ⟨v0, hv0⟩ := H0.mpr List.mem_cons_self
        cases hv0
        obtain ⟨ihl, ihg⟩ := ih (k + 1) os fun j => by
          rw [← List.getElem?_cons_succ (a := some v0), H (j + 1), List.mem_cons, Nat.add_right_comm, Nat.add_assoc]
          exact ⟨fun h => h.resolve_left (Nat.ne_of_gt (Nat.lt_add_of_pos_right (Nat.succ_pos j))), Or.inr⟩
        refine ⟨by rw [List.filterMap_cons_some (f := id) (b := v0) rfl, List.length_cons, List.length_cons, ihl], fun pad j v hjv => ?_⟩
        rw [List.filterMap_cons_some (f := id) (b := v0) rfl, expand_arg hp]
        cases j with
        | zero => cases hjv; rfl
        | succ j => exact ihg pad j v hjv

theorem shapeOk_iff {α} (p : Parts) (b : Builder α) :
    shapeOk p b = true ↔ b.jump.isSome = p.jump.isSome ∧ b.subId.isSome = p.subId.isSome ∧
      b.plainArgs.length = p.plainArgs.length ∧ b.outputs.length = p.outputs.length := by
  simp only [shapeOk, Bool.and_eq_true, beq_iff_eq, and_assoc]

theorem isSome_eq_cases {α β} {x : Option α} {y : Option β} (h : x.isSome = y.isSome) :
    (x = none ∧ y = none) ∨ ∃ a b, x = some a ∧ y = some b :=
  match x, y, h with
  | none, none, _ => .inl ⟨rfl, rfl⟩
  | some a, some b, _ => .inr ⟨a, b, rfl, rfl⟩

theorem plainAssigns_fst {α} (vs : List α) (is : List Nat) (h : vs.length = is.length) :
    ((vs.zip is).map fun x => (x.2, x.1)).map Prod.fst = is ∧
    ((vs.zip is).map fun x => (x.2, x.1)).map Prod.snd = vs := by
  rw [List.map_map, List.map_map]
  exact ⟨List.map_snd_zip (Nat.le_of_eq h.symm), List.map_fst_zip (Nat.le_of_eq h)⟩

theorem outAssigns_fst {α} (asInt : α → α) (vs : List α) (os : List (Nat × OutMode)) (h : vs.length = os.length) :
    ((vs.zip os).map fun x => (x.2.1, encodeOut asInt x.2.2 x.1)).map Prod.fst = os.map (·.1) := by
  rw [List.map_map]
  exact (List.map_map (l := vs.zip os) (f := Prod.snd) (g := fun y : Nat × OutMode => y.1)).symm.trans
    (by rw [List.map_snd_zip (Nat.le_of_eq h.symm)])

theorem assigns_fst {α} (asInt : α → α) (p : Parts) (b : Builder α) (hs : shapeOk p b = true) :
    (assigns asInt p b).map Prod.fst = p.positions := by
  obtain ⟨hj, hsb, hpl, ho⟩ := (shapeOk_iff p b).mp hs
  simp only [assigns, Parts.positions, List.map_append, (plainAssigns_fst _ _ hpl).1, outAssigns_fst asInt _ _ ho]
  congr 3
  · rcases isSome_eq_cases hj with ⟨hb, hp⟩ | ⟨lt, ⟨i, o⟩, hb, hp⟩
    · rw [hb, hp]; rfl
    · rw [hb, hp]; cases o <;> rfl
  · rcases isSome_eq_cases hsb with ⟨hb, hp⟩ | ⟨v, i, hb, hp⟩ <;> rw [hb, hp] <;> rfl

/-- **`into_vec` fills each position once** (the model follows the tree as repaired in /repo 11ec667).  For every kind, every
signature `from_abi` accepts - padding anywhere, also before a real parameter - and every builder that passes
the four `assert_eq!`: `into_vec` succeeds, returns exactly `num_instr_args` values, and every operand the
builder holds is the value of the parameter at the signature position `from_abi` assigned to it: putting the
padding back (`expand`) shows operand `x.2` at position `x.1`, for every write `x` of `into_vec`. -/
theorem into_vec_fills_once {α} (asInt : α → α) (k : Kind) (abi : PAbi) (p : Parts) (b : Builder α)
    (h : fromAbi k abi = .ok p) (hs : shapeOk p b = true) :
    ∃ vs, intoVec asInt p b = .ok vs ∧ vs.length = p.numInstrArgs ∧
      ∀ (pad : α), ∀ x ∈ assigns asInt p b, (expand pad abi vs)[x.1]? = some x.2 := by
  obtain ⟨hperm, hnd, hn, _⟩ := intrinsic_placement k abi p h
  have hfst := assigns_fst asInt p b hs
  have hlt := positions_lt_numSlots p
  obtain ⟨out', hf, ha, hb⟩ := fill_ok (assigns asInt p b) (List.replicate (numSlots p) none)
    (by rw [hfst]; exact hnd)
    (by
      intro i hi
      rw [hfst] at hi
      simp [hlt i hi])
  have H : ∀ j, (∃ v, out'[j]? = some (some v)) ↔ 0 + j ∈ nonPadFrom 0 abi := by
    intro j
    rw [Nat.zero_add, ← hperm.mem_iff, ← hfst]
    constructor
    · rintro ⟨v, hv⟩
      by_cases hm : j ∈ (assigns asInt p b).map Prod.fst
      · exact hm
      · -- a slot no write went to is still empty
        rw [hb j hm, List.getElem?_replicate] at hv
        split at hv <;> cases hv
    · intro hm
      obtain ⟨x, hx, hxj⟩ := List.mem_map.mp hm
      exact ⟨x.2, by rw [← hxj]; exact ha x hx⟩
  obtain ⟨hlen, hexp⟩ := flatten_aligned abi 0 out' H
  rw [← hn] at hlen
  refine ⟨out'.filterMap id, ?_, hlen, fun pad x hx => hexp pad x.1 x.2 (ha x hx)⟩
  simp only [intoVec, hs, Bool.not_true, Bool.false_eq_true, if_false, hf, hlen, bne_self_eq_false]

/-- on a non-trivial input: `CondJmp` on `SSto`, time before offset -/
example : intoVec id ⟨4, [0, 1], [], some (2, .timeLoc), none⟩ (⟨some ("label", "time"), none, ["a", "b"], []⟩ : Builder String)
    = .ok ["a", "b", "time", "label"] := by decide +kernel

/-- the witness of the finding `intrinsic-lowering-panics padding-before-parameter` (known_findings.json, fixed in
/repo 11ec667): signature `_S` for an interrupt label.  `from_abi` assigns position 1 to the argument; `into_vec`
allocates two slots, fills slot 1, drops the empty padding slot and returns the one argument.  (With
`num_instr_args = 1` slots, as in the tree before that commit, `trumsg compile` with `!ins_signatures 70 _S`,
`!ins_intrinsics 70 Interrupt()` and `interrupt[3]:` panics at src/llir/lower/intrinsic.rs:98 "index out of bounds:
the len is 1 but the index is 1".) -/
theorem into_vec_padding_ok :
    fromAbi .interruptLabel [⟨.padding true, false⟩, ⟨.int .w4 true false false, false⟩] = .ok ⟨1, [1], [], none, none⟩ ∧
    intoVec id ⟨1, [1], [], none, none⟩ (⟨none, none, [3], []⟩ : Builder Nat) = .ok [3] ∧
    -- padding in the middle of a jump intrinsic: `S - o t` for `CountJmp`
    fromAbi .countJmp [⟨.int .w4 true false false, false⟩, ⟨.padding false, false⟩, ⟨.jumpOffset, false⟩, ⟨.jumpTime, false⟩]
      = .ok ⟨3, [], [(0, .natural)], some (2, .locTime), none⟩ ∧
    intoVec id ⟨3, [], [(0, .natural)], some (2, .locTime), none⟩ (⟨some (100, 7), none, [], [10]⟩ : Builder Nat) = .ok [10, 100, 7] := by decide +kernel

/-- neither an index, nor the two "slot already filled" asserts, nor the final count assert -/
theorem into_vec_asserts_unreachable {α} (asInt : α → α) (k : Kind) (abi : PAbi) (p : Parts) (b : Builder α)
    (h : fromAbi k abi = .ok p) (hs : shapeOk p b = true) (site : String) :
    intoVec asInt p b ≠ .panic site := by
  obtain ⟨vs, hv, _⟩ := into_vec_fills_once asInt k abi p b h hs
  rw [hv]; simp

theorem expand_at_nonPad {α} (pad : α) (abi : PAbi) (k0 : Nat) (vs : List α) (kk i : Nat)
    (h : (nonPadFrom k0 abi)[kk]? = some i) : (expand pad abi vs)[i - k0]? = vs[kk]? := by
  fun_induction expand pad abi vs generalizing k0 kk with
  | case1 => cases h
  | case2 e es vs hp ih =>
    rw [nonPadFrom_pad hp] at h
    have hge := nonPadFrom_ge es (k0 + 1) i (List.mem_of_getElem? h)
    rw [sub_eq_sub_succ_add_one hge]
    exact ih (k0 + 1) kk h
  | case3 e es hp => rfl
  | case4 e es hp v r ih =>
    rw [nonPadFrom_arg (Bool.eq_false_iff.mpr hp)] at h
    cases kk with
    | zero => cases h; rw [Nat.sub_self]; rfl
    | succ kk =>
      have hge := nonPadFrom_ge es (k0 + 1) i (List.mem_of_getElem? h)
      rw [sub_eq_sub_succ_add_one hge]
      exact ih (k0 + 1) kk h

/-- `into_vec_fills_once` in terms of the returned vector itself: the `kk`-th value is the operand that was
assigned to the position of the `kk`-th non-padding parameter -/
theorem into_vec_kth_parameter {α} (asInt : α → α) (k : Kind) (abi : PAbi) (p : Parts) (b : Builder α) (vs : List α)
    (h : fromAbi k abi = .ok p) (hs : shapeOk p b = true) (hv : intoVec asInt p b = .ok vs)
    (kk i : Nat) (v : α) (hk : (nonPadFrom 0 abi)[kk]? = some i) (hx : (i, v) ∈ assigns asInt p b) :
    vs[kk]? = some v := by
  obtain ⟨vs', hv', _, hg⟩ := into_vec_fills_once asInt k abi p b h hs
  rw [hv] at hv'
  cases hv'
  have := expand_at_nonPad v abi 0 vs kk i hk
  rw [Nat.sub_zero, hg v (i, v) hx] at this
  exact this.symm

theorem readAll_spec {α} (args : List α) (xs : List (Nat × α)) (h : ∀ x ∈ xs, args[x.1]? = some x.2) :
    readAll args (xs.map Prod.fst) = .ok (xs.map Prod.snd) := by
  induction xs with
  | nil => rfl
  | cons x r ih =>
    obtain ⟨hx, hr⟩ := List.forall_mem_cons.mp h
    simp only [List.map_cons, readAll, readAt, hx, ih hr]

theorem readAt_eq {α} {args : List α} {i : Nat} {v : α} (h : args[i]? = some v) : readAt args i = .ok v := by
  simp only [readAt, h]

/-- **Lower then raise is the identity on the parts.**  For every kind, every accepted signature and
every builder content: reading the decoded argument list (one value per parameter, padding included)
at the positions of the same `IntrinsicInstrAbiParts` gives back the jump's label and time (the time
only when the signature has a `t` parameter), the sub id, the outputs (as stored: `FloatAsInt` outputs
re-encoded) and the plain arguments, each in order. -/
theorem raise_parts_inverse {α} (asInt : α → α) (pad : α) (k : Kind) (abi : PAbi) (p : Parts) (b : Builder α)
    (vs : List α) (h : fromAbi k abi = .ok p) (hs : shapeOk p b = true) (hv : intoVec asInt p b = .ok vs) :
    raiseParts p (expand pad abi vs) = .ok
      ⟨(match b.jump, p.jump with
        | some lt, some (_, .loc) => some (lt.1, none)
        | some lt, some _ => some (lt.1, some lt.2)
        | _, _ => none),
       b.subId,
       (b.outputs.zip p.outputs).map (fun x => encodeOut asInt x.2.2 x.1),
       b.plainArgs⟩ := by
  obtain ⟨vs', hv', hl, hg⟩ := into_vec_fills_once asInt k abi p b h hs
  rw [hv] at hv'
  cases hv'
  have hfull : ∀ x ∈ assigns asInt p b, (expand pad abi vs)[x.1]? = some x.2 := hg pad
  simp only [assigns, List.mem_append] at hfull
  obtain ⟨hj, hsb, hpl, ho⟩ := (shapeOk_iff p b).mp hs
  have hplain : readAll (expand pad abi vs) p.plainArgs = .ok b.plainArgs := by
    have := readAll_spec (expand pad abi vs) _ fun x hx => hfull x (Or.inl (Or.inl (Or.inr hx)))
    rwa [(plainAssigns_fst _ _ hpl).1, (plainAssigns_fst _ _ hpl).2] at this
  have hout : readAll (expand pad abi vs) (p.outputs.map (·.1)) =
      .ok ((b.outputs.zip p.outputs).map (fun x => encodeOut asInt x.2.2 x.1)) := by
    have := readAll_spec (expand pad abi vs) _ fun x hx => hfull x (Or.inr hx)
    rwa [outAssigns_fst asInt _ _ ho, List.map_map] at this
  have hsub : readSub (expand pad abi vs) p.subId = .ok b.subId := by
    rcases isSome_eq_cases hsb with ⟨hb, hp⟩ | ⟨v, i, hb, hp⟩
    · rw [hb, hp]; rfl
    · have := hfull (i, v) (Or.inl (Or.inr (by rw [hb, hp]; exact List.mem_singleton_self _)))
      rw [hb, hp]
      simp only [readSub, readAt_eq this]
  have hjump : readJump (expand pad abi vs) p.jump = .ok (match b.jump, p.jump with
        | some lt, some (_, .loc) => some (lt.1, none)
        | some lt, some _ => some (lt.1, some lt.2)
        | _, _ => none) := by
    rcases isSome_eq_cases hj with ⟨hb, hp⟩ | ⟨lt, ⟨i, o⟩, hb, hp⟩
    · rw [hb, hp]; rfl
    · have hmem : ∀ x ∈ jumpAssigns (i, o) lt, (expand pad abi vs)[x.1]? = some x.2 :=
        fun x hx => hfull x (Or.inl (Or.inl (Or.inl (by rw [hb, hp]; exact hx))))
      rw [hb, hp]
      cases o with
      | loc =>
        simp only [readJump, readAt_eq (hmem (i, lt.1) List.mem_cons_self)]
      | locTime =>
        simp only [readJump, readAt_eq (hmem (i, lt.1) List.mem_cons_self),
          readAt_eq (hmem (i + 1, lt.2) (List.mem_cons_of_mem _ List.mem_cons_self))]
      | timeLoc =>
        simp only [readJump, readAt_eq (hmem (i, lt.2) List.mem_cons_self),
          readAt_eq (hmem (i + 1, lt.1) (List.mem_cons_of_mem _ List.mem_cons_self))]
  simp only [raiseParts, hjump, hsub, hout, hplain]

/-- on a non-trivial input: `BinOp` on `S f f -` with a float result stored in an integer field -/
example :
    fromAbi (.binOp .arithmetic .float) [⟨.int .w4 true false false, false⟩, ⟨.float false, false⟩, ⟨.float false, false⟩, ⟨.padding false, false⟩]
      = .ok ⟨3, [1, 2], [(0, .floatAsInt)], none, none⟩ ∧
    intoVec (fun s => s ++ "!") ⟨3, [1, 2], [(0, .floatAsInt)], none, none⟩ ⟨none, none, ["x", "y"], ["out"]⟩ = .ok ["out!", "x", "y"] ∧
    raiseParts ⟨3, [1, 2], [(0, .floatAsInt)], none, none⟩ (expand "0" [⟨.int .w4 true false false, false⟩, ⟨.float false, false⟩, ⟨.float false, false⟩, ⟨.padding false, false⟩] ["out!", "x", "y"])
      = .ok ⟨none, none, ["out!"], ["x", "y"]⟩ := by decide +kernel

theorem findRemoveJump_no_panic (l : Slots) (site : String) : findRemoveJump l ≠ .panic site := by
  fun_cases findRemoveJump l <;> nofun

theorem runStep_no_panic (s : Step) (p : Parts) (l : Slots) (site : String) : runStep s p l ≠ .panic site := by
  fun_cases runStep s p l
  -- a panic could only come from one of the four helpers, and none of them has a panicking arm
  case case3 c h => exact absurd h (findRemoveJump_no_panic l c)
  case case6 c h => exact absurd h (by fun_cases findRemoveSubId l <;> nofun)
  case case9 ty c h => exact absurd h (by fun_cases removeOutArg ty l <;> nofun)
  case case12 ty c h => exact absurd h (by fun_cases removePlainArg ty l <;> nofun)
  all_goals nofun

theorem runSteps_no_panic : ∀ (ss : List Step) (p : Parts) (l : Slots) (site : String), runSteps ss p l ≠ .panic site := by
  intro ss p l site
  fun_induction runSteps ss p l with
  | case1 | case3 => nofun
  | case2 s ss p l p2 l2 hs ih => exact ih
  | case4 s ss p l c hs => exact absurd hs (runStep_no_panic s p l c)

theorem from_abi_no_panic (k : Kind) (abi : PAbi) (site : String) : fromAbi k abi ≠ .panic site := by
  unfold fromAbi
  simp only
  split
  · simp
  · simp
  · simp
  · next s heq => exact absurd heq (runSteps_no_panic _ _ _ _)

/-- `from_abi` has exactly two outcomes, a diagnostic or the parts -/
theorem from_abi_rejects_iff (k : Kind) (abi : PAbi) :
    (∃ c, fromAbi k abi = .err c) ↔ ¬ ∃ p, fromAbi k abi = .ok p := by
  cases h : fromAbi k abi with
  | ok p => simp
  | err c => simp
  | panic s => exact absurd h (from_abi_no_panic k abi s)

/-- each of the seven diagnostic classes is reachable, and which one wins (the checks run in the order
jump, sub id, outputs, inputs, leftovers) -/
theorem from_abi_reject_classes :
    let S : PEnc := ⟨.int .w4 true false false, false⟩
    let E : PEnc := ⟨.int .w4 true false false, true⟩
    let f : PEnc := ⟨.float false, false⟩
    let o : PEnc := ⟨.jumpOffset, false⟩
    let t : PEnc := ⟨.jumpTime, false⟩
    let pad : PEnc := ⟨.padding true, false⟩
    fromAbi .jmp [S] = .err errMissingOffset ∧
    fromAbi .jmp [o, S, t] = .err errNotConsecutive ∧
    fromAbi .jmp [o, pad, t] = .err errNotConsecutive ∧
    fromAbi .callReg [S] = .err errMissingSubId ∧
    fromAbi (.assignOp .int) [S] = .err errNotEnough ∧
    fromAbi (.assignOp .int) [f, S] = .err errOutputEncoding ∧
    fromAbi (.assignOp .float) [S, S] = .err errInputEncoding ∧
    fromAbi .jmp [o, t, pad, S] = .err (errUnexpected 3) ∧
    fromAbi .callEosd [S, E, f] = .ok ⟨3, [0, 2], [], none, some 1⟩ ∧
    fromAbi .jmp [t, o] = .ok ⟨2, [], [], some (0, .timeLoc), none⟩ := by
  decide +kernel

/-- The full characterisation of what `from_abi` rejects, as a declarative condition on the signature
(stated, **not proved**): the non-padding parameters, after taking out the first `o` and the first `t`
(kinds with a jump: there must be an `o`, and a `t` must sit directly before or after it, counting padding
parameters) or the first `EclSub` integer (call kinds), are in order exactly the outputs and inputs of the
kind, with the encodings `outMode` / `plainOk` admit.  The correspondence check compares accept / reject
and the class with the real `from_abi` on generated signatures for every kind. -/
def from_abi_rejects_iff_full : Prop :=
  ∀ (k : Kind) (abi : PAbi),
    let l := removePadding (enumFrom 0 abi)
    let hasJump := k.steps.contains .jump
    let hasSub := k.steps.contains .subId
    let jumpOk := !hasJump || (match l.find? isOffset, (l.eraseP isOffset).find? isTime with
      | some o, some t => t.1 == o.1 + 1 || t.1 + 1 == o.1
      | some _, none => true
      | none, _ => false)
    let l1 := if hasJump then (l.eraseP isOffset).eraseP isTime else l
    let subOk := !hasSub || l1.any isSubId
    let l2 := if hasSub then l1.eraseP isSubId else l1
    let pat := k.steps.filter (fun s => s != .jump && s != .subId)
    let slotOk : Step → PEnc → Bool := fun s e => match s with
      | .out ty => (outMode ty e.enc).isSome
      | .plain ty => plainOk ty e.enc
      | _ => false
    ((∃ p, fromAbi k abi = .ok p) ↔
      (jumpOk && subOk && (pat.length == l2.length) && (pat.zip l2).all (fun x => slotOk x.1 x.2.2)) = true)

end TruthModel.C12
