import TruthModel.Model.Pixels
import TruthModel.Lemmas.Digits
/-
C17 — extracting images and compiling them back reproduces the embedded textures.

The Gray8 luminance is a parameter (`lum`); the one fact needed of it (`LumOk`: equal channels give that
value, 256 cases) is a hypothesis, validated exhaustively against the real code and against the driver's
native `Float32` instance on every run.
-/
namespace TruthModel.C17
open TruthModel TruthModel.Pixels

/-! Widening a channel to 8 bits replicates its top bits below it, so the top bits of the result are
the channel: at most 64 values per width. -/

theorem cbd58 {x : UInt8} {n : Nat} (hx : x.toNat = n) (h : n < 32) : changeBitDepth 5 8 x >>> 3 = x := by
  have : ∀ i : Fin 32, changeBitDepth 5 8 (UInt8.ofNat i.val) >>> 3 = UInt8.ofNat i.val := by decide +kernel
  simpa [← hx] using this ⟨n, h⟩

theorem cbd68 {x : UInt8} {n : Nat} (hx : x.toNat = n) (h : n < 64) : changeBitDepth 6 8 x >>> 2 = x := by
  have : ∀ i : Fin 64, changeBitDepth 6 8 (UInt8.ofNat i.val) >>> 2 = UInt8.ofNat i.val := by decide +kernel
  simpa [← hx] using this ⟨n, h⟩

theorem cbd48 {x : UInt8} {n : Nat} (hx : x.toNat = n) (h : n < 16) : changeBitDepth 4 8 x >>> 4 = x := by
  have : ∀ i : Fin 16, changeBitDepth 4 8 (UInt8.ofNat i.val) >>> 4 = UInt8.ofNat i.val := by decide +kernel
  simpa [← hx] using this ⟨n, h⟩

theorem mul_add_lt {x y a b : Nat} (hx : x < a) (hy : y < b) : x * b + y < a * b :=
  calc x * b + y < x * b + b := Nat.add_lt_add_left hy _
    _ = (x + 1) * b := (Nat.succ_mul x b).symm
    _ ≤ a * b := Nat.mul_le_mul_right b hx

/-! Shift counts and masks are variables tied to their numeral by a hypothesis that `rfl` proves at
each use, so that `rw` finds the numeral as the model writes it. -/

theorem shr_toNat (v s : UInt16) (k : Nat) (hs : s.toNat = k := by rfl) (hk : k < 16 := by decide) :
    (v >>> s).toNat = v.toNat / 2 ^ k := by
  rw [UInt16.toNat_shiftRight, hs, Nat.shiftRight_eq_div_pow, Nat.mod_eq_of_lt hk]

theorem mask_toNat (x m : UInt16) (w : Nat) (hm : m.toNat = 2 ^ w - 1 := by rfl) (hw : w ≤ 8 := by decide) :
    ((x &&& m).toUInt8).toNat = x.toNat % 2 ^ w := by
  have h : x.toNat % 2 ^ w < 2 ^ 8 :=
    Nat.lt_of_lt_of_le (Nat.mod_lt _ (Nat.two_pow_pos w)) (Nat.pow_le_pow_right (by decide) hw)
  rw [UInt16.toNat_toUInt8, UInt16.toNat_and, hm, Nat.and_two_pow_sub_one_eq_mod, Nat.mod_eq_of_lt h]

theorem shr8_lt (x s : UInt8) (k : Nat) (hs : s.toNat = k := by rfl) (hk : k < 8 := by decide) :
    (x >>> s).toNat < 2 ^ (8 - k) := by
  rw [UInt8.toNat_shiftRight, hs, Nat.shiftRight_eq_div_pow, Nat.mod_eq_of_lt hk]
  refine Nat.div_lt_of_lt_mul ?_
  rw [← Nat.pow_add, Nat.add_sub_cancel' (Nat.le_of_lt hk)]
  exact x.toNat_lt

theorem shl_toNat {x : UInt8} {n : Nat} (hx : x.toNat = n) (s : UInt16) (k w : Nat) (hn : n < 2 ^ w)
    (hs : s.toNat = k := by rfl) (hk : k < 16 := by decide) (hwk : w + k ≤ 16 := by decide) :
    (x.toUInt16 <<< s).toNat = n * 2 ^ k := by
  have h : n * 2 ^ k < 2 ^ 16 :=
    Nat.lt_of_lt_of_le (Nat.mul_lt_mul_of_pos_right hn (Nat.two_pow_pos k))
      (by rw [← Nat.pow_add]; exact Nat.pow_le_pow_right (by decide) hwk)
  rw [UInt16.toNat_shiftLeft, UInt8.toNat_toUInt16, hx, hs, Nat.mod_eq_of_lt hk, Nat.shiftLeft_eq,
    Nat.mod_eq_of_lt h]

theorem toUInt16_of_toNat {x : UInt8} {n : Nat} (hx : x.toNat = n) : x.toUInt16 = UInt16.ofNat n := by
  rw [← hx, UInt16.ofNat_uInt8ToNat]

theorem rgb565_horner (r g b : Nat) : r * 2 ^ 11 + g * 2 ^ 5 + b = (r * 64 + g) * 32 + b := by
  rw [Nat.add_mul, Nat.mul_assoc]

/-- **Rgb565 is lossless**: for every 16-bit value, converting to components (5/6/5 -> 8 bits by
bit replication) and back gives the value. -/
theorem rgb565_lossless (v : UInt16) : rgb565OfComponents (rgb565ToComponents v) = v := by
  have hb : ((v &&& 0x1F).toUInt8).toNat = v.toNat % 32 := mask_toNat v 0x1F 5
  have hg : (((v >>> 5) &&& 0x3F).toUInt8).toNat = v.toNat / 32 % 64 := by
    rw [mask_toNat _ 0x3F 6, shr_toNat _ 5 5]
  have hr : (((v >>> 11) &&& 0x1F).toUInt8).toNat = v.toNat / 32 / 64 := by
    have h : v.toNat / 2 ^ 11 < 2 ^ 5 := Nat.div_lt_of_lt_mul v.toNat_lt
    rw [mask_toNat _ 0x1F 5, shr_toNat _ 11 11, Nat.mod_eq_of_lt h,
      Nat.div_div_eq_div_mul]
  have lb : v.toNat % 32 < 32 := Nat.mod_lt _ (by decide)
  have lg : v.toNat / 32 % 64 < 64 := Nat.mod_lt _ (by decide)
  have lr : v.toNat / 32 / 64 < 32 := Nat.div_lt_of_lt_mul (Nat.div_lt_of_lt_mul v.toNat_lt)
  simp only [rgb565OfComponents, rgb565ToComponents]
  rw [cbd58 hb lb, cbd68 hg lg, cbd58 hr lr, toUInt16_of_toNat hb, toUInt16_of_toNat hg, toUInt16_of_toNat hr]
  -- `UInt16.ofNat` is a ring homomorphism, so whether a sum wraps never matters: pack in `Nat`, where the
  -- three fields are the digits of `v` in the mixed radix 32, 64
  show (UInt16.ofNat _ <<< UInt16.ofNat 11) + (UInt16.ofNat _ <<< UInt16.ofNat 5) + _ = v
  rw [← UInt16.ofNat_shiftLeft _ 11 (by decide), ← UInt16.ofNat_shiftLeft _ 5 (by decide), ← UInt16.ofNat_add,
    ← UInt16.ofNat_add, Nat.shiftLeft_eq, Nat.shiftLeft_eq, rgb565_horner, Nat.div_add_mod', Nat.div_add_mod',
    UInt16.ofNat_toNat]

example : rgb565OfComponents (rgb565ToComponents 0xBEEF) = 0xBEEF := rgb565_lossless _
example : rgb565ToComponents 0xBEEF = { red := 0xBD, green := 0xDF, blue := 0x7B, alpha := 0xFF } := by decide +kernel

/-- the overflow-checked `+` of `Rgb565::from(Components)` never overflows, for any components -/
theorem rgb565_pack_no_overflow (c : Components) :
    ((c.red >>> 3).toUInt16 <<< 11).toNat + ((c.green >>> 2).toUInt16 <<< 5).toNat
      + (c.blue >>> 3).toUInt16.toNat < 65536 := by
  have hr : (c.red >>> 3).toNat < 2 ^ 5 := shr8_lt c.red 3 3
  have hg : (c.green >>> 2).toNat < 2 ^ 6 := shr8_lt c.green 2 2
  have hb : (c.blue >>> 3).toNat < 2 ^ 5 := shr8_lt c.blue 3 3
  rw [shl_toNat rfl 11 11 5 hr, shl_toNat rfl 5 5 6 hg, UInt8.toNat_toUInt16, rgb565_horner]
  exact mul_add_lt (mul_add_lt hr hg) hb

theorem argb4444_lossless (v : UInt16) : argb4444OfComponents (argb4444ToComponents v) = v := by
  have hb : ((v &&& 0xF).toUInt8).toNat = v.toNat % 16 := mask_toNat v 0xF 4
  have hg : (((v >>> 4) &&& 0xF).toUInt8).toNat = v.toNat / 16 % 16 := by
    rw [mask_toNat _ 0xF 4, shr_toNat _ 4 4]
  have hr : (((v >>> 8) &&& 0xF).toUInt8).toNat = v.toNat / 16 / 16 % 16 := by
    rw [mask_toNat _ 0xF 4, shr_toNat _ 8 8, Nat.div_div_eq_div_mul]
  have ha : ((v >>> 12).toUInt8).toNat = v.toNat / 16 / 16 / 16 := by
    have h : v.toNat / 2 ^ 12 < 2 ^ 4 := Nat.div_lt_of_lt_mul v.toNat_lt
    rw [UInt16.toNat_toUInt8, shr_toNat _ 12 12, Nat.mod_eq_of_lt (Nat.lt_trans h (by decide)),
      Nat.div_div_eq_div_mul, Nat.div_div_eq_div_mul]
  have lb : v.toNat % 16 < 16 := Nat.mod_lt _ (by decide)
  have lg : v.toNat / 16 % 16 < 16 := Nat.mod_lt _ (by decide)
  have lr : v.toNat / 16 / 16 % 16 < 16 := Nat.mod_lt _ (by decide)
  have la : v.toNat / 16 / 16 / 16 < 16 := Nat.div_lt_of_lt_mul (Nat.div_lt_of_lt_mul (Nat.div_lt_of_lt_mul v.toNat_lt))
  simp only [argb4444OfComponents, argb4444ToComponents]
  rw [cbd48 hb lb, cbd48 hg lg, cbd48 hr lr, cbd48 ha la, toUInt16_of_toNat hb, toUInt16_of_toNat hg,
    toUInt16_of_toNat hr, toUInt16_of_toNat ha]
  show ((UInt16.ofNat _ * UInt16.ofNat 16 + _) * UInt16.ofNat 16 + _) * UInt16.ofNat 16 + _ = v
  rw [← UInt16.ofNat_mul, ← UInt16.ofNat_add, ← UInt16.ofNat_mul, ← UInt16.ofNat_add, ← UInt16.ofNat_mul,
    ← UInt16.ofNat_add, Nat.div_add_mod', Nat.div_add_mod', Nat.div_add_mod', UInt16.ofNat_toNat]

example : argb4444ToComponents 0xA5C3 = { red := 0x55, green := 0xCC, blue := 0x33, alpha := 0xAA } := by decide +kernel

/-- the overflow-checked `*`/`+` of `Argb4444::from(Components)` never overflow -/
theorem argb4444_pack_no_overflow (c : Components) :
    (((c.alpha >>> 4).toNat * 16 + (c.red >>> 4).toNat) * 16 + (c.green >>> 4).toNat) * 16
      + (c.blue >>> 4).toNat < 65536 := by
  have ha : (c.alpha >>> 4).toNat < 2 ^ 4 := shr8_lt c.alpha 4 4
  have hr : (c.red >>> 4).toNat < 2 ^ 4 := shr8_lt c.red 4 4
  have hg : (c.green >>> 4).toNat < 2 ^ 4 := shr8_lt c.green 4 4
  have hb : (c.blue >>> 4).toNat < 2 ^ 4 := shr8_lt c.blue 4 4
  exact mul_add_lt (mul_add_lt (mul_add_lt ha hr) hg) hb

/-- The one fact about the float luminance that losslessness of Gray8 needs (256 cases; the
repository's own test `gray_8_floating_point_is_reliable` asserts the same). -/
def LumOk (lum : Lum) : Prop := ∀ x : UInt8, lum x x x = x

theorem gray8_lossless (lum : Lum) (h : LumOk lum) (v : UInt8) :
    gray8OfComponents lum (gray8ToComponents v) = v := h v

/-- the hypothesis is satisfiable, e.g. by the integer luminance `(2126 r + 7152 g + 722 b) / 10000` -/
def intLum : Lum := fun r g b => UInt8.ofNat ((2126 * r.toNat + 7152 * g.toNat + 722 * b.toNat) / 10000)
example : LumOk intLum := by
  intro x
  show UInt8.ofNat ((2126 * x.toNat + 7152 * x.toNat + 722 * x.toNat) / 10000) = x
  rw [← Nat.add_mul, ← Nat.add_mul, Nat.mul_div_cancel_left _ (by decide : 0 < 2126 + 7152 + 722), UInt8.ofNat_toNat]

theorem be_eq_le (a b c d : Nat) :
    d * 16777216 + c * 65536 + b * 256 + a = a + 256 * b + 65536 * c + 16777216 * d := by
  rw [Nat.mul_comm d, Nat.mul_comm c, Nat.mul_comm b]
  ac_rfl

theorem u16bytes_u16le (b0 b1 : UInt8) : u16bytes (u16le b0 b1) = [b0, b1] := by
  obtain ⟨e0, e1⟩ := Digits.digit_cons b0.toNat b1.toNat b0.toNat_lt
  have hlt : b0.toNat + 256 * b1.toNat < 256 * 256 :=
    (Nat.div_lt_iff_lt_mul (by decide)).mp (by rw [e1]; exact b1.toNat_lt)
  rw [u16bytes, u16le, UInt16.toNat_ofNat', Nat.mod_eq_of_lt hlt, e0, e1, UInt8.ofNat_toNat,
    UInt8.ofNat_toNat]

theorem u32le_u32bytes (v : UInt32) :
    u32le (UInt8.ofNat (v.toNat % 256)) (UInt8.ofNat (v.toNat / 256 % 256))
      (UInt8.ofNat (v.toNat / 65536 % 256)) (UInt8.ofNat (v.toNat / 16777216)) = v := by
  have hlt := v.toNat_lt
  apply UInt32.toNat_inj.mp
  simp only [u32le, UInt32.toNat_ofNat', UInt8.toNat_ofNat', Nat.mod_mod]
  rw [Digits.digits4_lt _ hlt, Nat.mod_eq_of_lt hlt]

theorem argb8888_eq_u32le (c : Components) : argb8888OfComponents c = u32le c.blue c.green c.red c.alpha :=
  congrArg UInt32.ofNat (be_eq_le ..)

theorem argb8888_identity (v : UInt32) : argb8888OfComponents (argb8888ToComponents v) = v :=
  (argb8888_eq_u32le _).trans (u32le_u32bytes v)

theorem argb8888_components (c : Components) : argb8888ToComponents (argb8888OfComponents c) = c := by
  obtain ⟨r, g, b, a⟩ := c
  have e1 := Digits.digit_cons b.toNat (g.toNat + 256 * (r.toNat + 256 * a.toNat)) b.toNat_lt
  have e2 := Digits.digit_cons g.toNat (r.toNat + 256 * a.toNat) g.toNat_lt
  have e3 := Digits.digit_cons r.toNat a.toNat r.toNat_lt
  have hlt : b.toNat + 256 * (g.toNat + 256 * (r.toNat + 256 * a.toNat)) < 256 * 16777216 :=
    (Nat.div_lt_iff_lt_mul (by decide)).mp (by rw [Digits.div_16777216, e1.2, e2.2, e3.2]; exact a.toNat_lt)
  simp only [argb8888OfComponents, argb8888ToComponents, UInt32.toNat_ofNat']
  rw [be_eq_le, ← Digits.horner, Nat.mod_eq_of_lt hlt, Digits.div_65536, Digits.div_16777216, e1.1, e1.2, e2.1, e2.2,
    e3.1, e3.2]
  simp only [UInt8.ofNat_toNat]

theorem pixels16_flatMap : ∀ (bs : Bytes), bs.length % 2 = 0 → (pixels16 bs).flatMap u16bytes = bs
  | [], _ => rfl
  | [_], h => absurd h (Nat.succ_ne_zero 0)
  | b0 :: b1 :: rest, h => by
    have hr : rest.length % 2 = 0 := (Nat.add_mod_right rest.length 2).symm.trans h
    rw [pixels16, List.flatMap_cons, u16bytes_u16le, pixels16_flatMap rest hr]
    rfl

theorem pixels32_u32bytes_append (v : UInt32) (rest : Bytes) :
    pixels32 (u32bytes v ++ rest) = v :: pixels32 rest := by
  simp only [u32bytes, List.cons_append, List.nil_append, pixels32, u32le_u32bytes]

theorem pixels32_flatMap (vs : List UInt32) : pixels32 (vs.flatMap u32bytes) = vs := by
  induction vs with
  | nil => rfl
  | cons v vs ih => rw [List.flatMap_cons, pixels32_u32bytes_append, ih]

theorem length_flatMap_u32bytes (vs : List UInt32) : (vs.flatMap u32bytes).length = 4 * vs.length := by
  induction vs with
  | nil => rfl
  | cons v vs ih => rw [List.flatMap_cons, List.length_append, ih, List.length_cons, Nat.mul_succ, Nat.add_comm]; rfl

theorem decode_encode8888 (lum : Lum) (cs : List Components) :
    decode .argb8888 (encode lum .argb8888 cs) = .ok cs := by
  simp only [decode, encode, ColorFormat.bytesPerPixel, ← List.flatMap_map (f := argb8888OfComponents) (g := u32bytes),
    length_flatMap_u32bytes]
  rw [Nat.mul_mod_right, if_neg (fun h => h rfl), pixels32_flatMap, List.map_map]
  exact congrArg Outcome.ok (List.map_id'' argb8888_components cs)

theorem decode_ok (fmt : ColorFormat) (bs : Bytes) (h : bs.length % fmt.bytesPerPixel = 0) :
    decode fmt bs = .ok (match fmt with
      | .argb8888 => (pixels32 bs).map argb8888ToComponents
      | .rgb565 => (pixels16 bs).map rgb565ToComponents
      | .argb4444 => (pixels16 bs).map argb4444ToComponents
      | .gray8 => bs.map gray8ToComponents) := by
  cases fmt <;> (unfold decode; rw [if_neg (fun hc => hc h)])

/-- for a format other than 8888 the intermediate 8888 buffer drops out: to-then-from is `encode` after `decode` -/
theorem transcode_eq (lum : Lum) (fmt : ColorFormat) (hne : fmt ≠ .argb8888) (bs : Bytes) (cs : List Components)
    (hd : decode fmt bs = .ok cs) :
    (transcodeTo8888 fmt bs >>= transcodeFrom8888 lum fmt) = .ok (encode lum fmt cs) := by
  cases fmt with
  | argb8888 => exact absurd rfl hne
  | _ => simp only [transcodeTo8888, hd, Outcome.bind_ok, Outcome.pure_eq, transcodeFrom8888, decode_encode8888]

theorem roundtrip16 (toC : UInt16 → Components) (ofC : Components → UInt16) (h : ∀ v, ofC (toC v) = v)
    (bs : Bytes) (hlen : bs.length % 2 = 0) :
    ((pixels16 bs).map toC).flatMap (fun c => u16bytes (ofC c)) = bs := by
  rw [List.flatMap_map]
  simp only [h]
  exact pixels16_flatMap bs hlen

/-- **Extract-then-load on texture bytes**: for every supported format and every buffer holding a
whole number of pixels, transcoding to `Argb8888` (extract) and back (load) gives the buffer. -/
theorem transcode_roundtrip (lum : Lum) (hl : LumOk lum) (fmt : ColorFormat) (bs : Bytes)
    (h : bs.length % fmt.bytesPerPixel = 0) :
    (transcodeTo8888 fmt bs >>= transcodeFrom8888 lum fmt) = .ok bs := by
  cases fmt with
  | argb8888 => rfl
  | rgb565 =>
    rw [transcode_eq lum _ (by decide) bs _ (decode_ok _ _ h)]
    exact congrArg Outcome.ok (roundtrip16 _ _ rgb565_lossless bs h)
  | argb4444 =>
    rw [transcode_eq lum _ (by decide) bs _ (decode_ok _ _ h)]
    exact congrArg Outcome.ok (roundtrip16 _ _ argb4444_lossless bs h)
  | gray8 =>
    rw [transcode_eq lum _ (by decide) bs _ (decode_ok _ _ h)]
    exact congrArg Outcome.ok ((List.map_map ..).trans (List.map_id'' hl bs))

example : (transcodeTo8888 .rgb565 [0xEF, 0xBE] >>= transcodeFrom8888 intLum .rgb565) = .ok [0xEF, 0xBE] := by
  decide +kernel

/-- the `assert_eq!` in `decode` fires on a 16-bit texture with an odd number of bytes.  Since d40d795 both callers
(`anm/mod.rs`, `anm/image_io.rs`) compare the data length with the dimensions first, so the program no longer gets there. -/
theorem transcode_odd_length_panics : (transcodeTo8888 .rgb565 [0]).isPanic = true := by decide +kernel

/-- `validate_and_transcode_texture_for_entry` on the image that `extract` wrote for a texture of
format `fmt`, for an entry whose `img_format` is that format: the original bytes. -/
theorem extract_then_load_texture (lum : Lum) (hl : LumOk lum) (fmt : ColorFormat) (bs argb : Bytes)
    (h : bs.length % fmt.bytesPerPixel = 0) (hx : transcodeTo8888 fmt bs = .ok argb) :
    imageTextureForEntry lum (.explicit fmt.num) argb = .ok bs := by
  have rt := transcode_roundtrip lum hl fmt bs h
  rw [hx] at rt
  -- an image file is `Argb8888` (format 1): the entry's format decides, and 1 means no conversion
  have : imageTextureForEntry lum (.explicit fmt.num) argb = transcodeFrom8888 lum fmt argb := by
    cases fmt <;> rfl
  rw [this]
  exact rt

theorem setSoft_toOption {α} (s : SoftOption α) (a : α) (h : ∀ x, s = .explicit x → x = a) :
    (s.setSoft a).toOption = some a := by
  cases s with
  | missing => rfl
  | soft x => rfl
  | explicit x => rw [h x rfl]; rfl

theorem toOption_setSoftIfMissing {α} (s : SoftOption α) (v : α) :
    (s.setSoftIfMissing v).toOption = some (s.toOption.getD v) := by
  cases s <;> rfl

/-- The model's `anmTextureForEntry` returns the bytes of an ANM image source unchanged unless the
script explicitly asks for another `img_format` (any format number, known or not, any byte string).
The model lacks two checks of the program: explicit dimensions against the source's
(`validate_explicit_img_dimensions`, before the formats are compared) and, where it transcodes,
the length of the source texture. -/
theorem anm_source_verbatim (lum : Lum) (imgFormat : SoftOption Nat) (srcFormat : Nat) (data : Bytes)
    (h : ∀ f, imgFormat = .explicit f → f = srcFormat) :
    anmTextureForEntry lum imgFormat srcFormat data = .ok data := by
  have hf : finalFormat (imgFormat.setSoft srcFormat) = srcFormat := by
    rw [finalFormat, toOption_setSoftIfMissing, setSoft_toOption _ _ h]; rfl
  rw [anmTextureForEntry, hf, transcodeForEntry, if_pos rfl]

example : anmTextureForEntry intLum .missing 42 [1, 2, 3] = .ok [1, 2, 3] :=
  anm_source_verbatim _ _ _ _ (by intro f h; cases h)

theorem row_lengths {α} (w h : Nat) (img : List α) (hl : img.length = w * (h + 1)) :
    (img.take w).length = w ∧ (img.drop w).length = w * h := by
  rw [List.length_take, List.length_drop, hl, Nat.mul_succ, Nat.add_sub_cancel]
  exact ⟨Nat.min_eq_left (Nat.le_add_left _ _), rfl⟩

theorem padRows_length {α} (fill : α) (ox w h : Nat) (img : List α) (hl : img.length = w * h) :
    (padRows fill ox w h img).length = (w + ox) * h := by
  induction h generalizing img with
  | zero => rfl
  | succ h ih =>
    obtain ⟨ht, hd⟩ := row_lengths w h img hl
    rw [padRows, List.length_append, List.length_append, List.length_replicate, ht, ih _ hd, Nat.mul_succ,
      Nat.add_comm ox w, Nat.add_comm]

theorem cropRow_padRow {α} (fill : α) (ox : Nat) (row rest : List α) :
    ((List.replicate ox fill ++ row ++ rest).drop ox).take row.length = row ∧
    (List.replicate ox fill ++ row ++ rest).drop (row.length + ox) = rest := by
  constructor
  · rw [List.append_assoc, List.drop_left' List.length_replicate, List.take_left' rfl]
  · exact List.drop_left' (by rw [List.length_append, List.length_replicate, Nat.add_comm])

theorem cropRows_padRows {α} (fill : α) (ox w h : Nat) (img : List α) (hl : img.length = w * h) :
    cropRows ox w (w + ox) h (padRows fill ox w h img) = img := by
  induction h generalizing img with
  | zero => exact (List.eq_nil_of_length_eq_zero hl).symm
  | succ h ih =>
    obtain ⟨ht, hd⟩ := row_lengths w h img hl
    obtain ⟨e1, e2⟩ := cropRow_padRow fill ox (img.take w) (padRows fill ox w h (img.drop w))
    rw [ht] at e1 e2
    rw [padRows, cropRows, e1, e2, ih _ hd, List.take_append_drop]

theorem crop_pad {α} (fill : α) (ox oy w h : Nat) (img : List α) (hl : img.length = w * h) :
    crop ox oy w h (w + ox) (pad fill ox oy w h img) = img := by
  rw [crop, pad, List.drop_left' List.length_replicate]
  exact cropRows_padRows fill ox w h img hl

theorem pad_length {α} (fill : α) (ox oy w h : Nat) (img : List α) (hl : img.length = w * h) :
    (pad fill ox oy w h img).length = (w + ox) * (h + oy) := by
  rw [pad, List.length_append, List.length_replicate, padRows_length fill ox w h img hl,
    Nat.mul_add (w + ox) h oy, Nat.mul_comm (w + ox) oy, Nat.add_comm]

example : crop 1 1 2 2 3 (pad 0 1 1 2 2 [1, 2, 3, 4]) = [1, 2, 3, 4] := by decide +kernel
example : pad 0 1 1 2 2 [1, 2, 3, 4] = [0, 0, 0, 0, 1, 2, 0, 3, 4] := by decide +kernel

/-- **Loading what `extract` wrote**: the image produced for a `w x h` texture at offset
`(ox, oy)` passes the dimension checks of `load_img_file_for_entry` and is cropped back to the
texture, for every width, height and offset - provided the script does not explicitly ask for
other dimensions. -/
theorem load_extracted {α} (fill : α) (specs : ImgSpecs) (ox oy w h : Nat) (img : List α)
    (hl : img.length = w * h)
    (hox : specs.offsetX.toOption.getD 0 = ox) (hoy : specs.offsetY.toOption.getD 0 = oy)
    (hw : ∀ a, specs.imgWidth = .explicit a → a = w)
    (hh : ∀ a, specs.imgHeight = .explicit a → a = h) :
    ∃ specs', loadImage specs (w + ox) (h + oy) (pad fill ox oy w h img) = .ok (specs', img) := by
  have ew : (specs.imgWidth.setSoft w).toOption.getD 0 = w := by rw [setSoft_toOption _ _ hw]; rfl
  have eh : (specs.imgHeight.setSoft h).toOption.getD 0 = h := by rw [setSoft_toOption _ _ hh]; rfl
  simp only [loadImage, hox, hoy]
  rw [if_neg (Nat.not_lt.mpr (Nat.le_add_left _ _)), if_neg (Nat.not_lt.mpr (Nat.le_add_left _ _))]
  simp only [Nat.add_sub_cancel, ew, eh, ne_eq, not_true_eq_false, if_false, crop_pad fill ox oy w h img hl]
  exact ⟨_, rfl⟩

example : ∃ s, loadImage ({ offsetX := .explicit 1, offsetY := .explicit 1 } : ImgSpecs) 3 3
    (pad 0 1 1 2 2 [1, 2, 3, 4]) = .ok (s, [1, 2, 3, 4]) :=
  load_extracted 0 _ 1 1 2 2 _ rfl rfl rfl (by intro a h; cases h) (by intro a h; cases h)

/-- `vs`: the values that successive image sources and defaults offer for one field, in order -/
theorem foldl_setSoft {α} (s : SoftOption α) (vs : List α) :
    vs.foldl SoftOption.setSoft s =
      if s.isExplicit then s else (vs.getLast?.map SoftOption.soft).getD s := by
  induction vs generalizing s with
  | nil => cases s <;> rfl
  | cons v vs ih =>
    rw [List.foldl_cons, ih, List.getLast?_cons]
    cases s with
    | missing => cases vs.getLast? <;> rfl
    | soft a => cases vs.getLast? <;> rfl
    | explicit a => rfl

/-- an explicit (script) value survives every later soft (image source / default) value -/
theorem explicit_survives {α} (a : α) (vs : List α) :
    vs.foldl SoftOption.setSoft (.explicit a) = .explicit a := by
  rw [foldl_setSoft]; rfl

theorem soft_last_wins {α} (s : SoftOption α) (hs : s.isExplicit = false) (vs : List α) (v : α) :
    ((vs ++ [v]).foldl SoftOption.setSoft s).toOption = some v := by
  rw [foldl_setSoft, hs, List.getLast?_concat]; rfl

theorem default_only_if_missing {α} (s : SoftOption α) (v : α) (h : s ≠ .missing) :
    s.setSoftIfMissing v = s := by
  cases s with
  | missing => exact absurd rfl h
  | soft a => rfl
  | explicit a => rfl

example : ([3, 5].foldl SoftOption.setSoft (.soft 1)).toOption = some 5 := by decide +kernel
example : [3, 5].foldl SoftOption.setSoft (.explicit 1) = .explicit 1 := by decide +kernel

section queues
variable {X D : Type}

theorem get_push (q : Queues X) (p p' : String) (x : X) :
    (q.push p x).get p' = if p = p' then q.get p' ++ [x] else q.get p' := by
  fun_induction Queues.push q p x with
  | case1 => rfl
  | case2 v rest =>
    rw [Queues.get, Queues.get]
    by_cases h : p = p'
    · rw [if_pos h, if_pos h, if_pos h]
    · rw [if_neg h, if_neg h, if_neg h]
  | case3 k v rest hk ih =>
    rw [Queues.get, Queues.get, ih]
    by_cases h : k = p'
    · rw [if_pos h, if_pos h, if_neg (fun e => hk (h.trans e.symm))]
    · rw [if_neg h, if_neg h]

theorem get_foldl_push (src : List (String × X)) (q : Queues X) (p : String) :
    (src.foldl (fun q e => q.push e.1 e.2) q).get p
      = q.get p ++ (src.filter (fun e => e.1 = p)).map (·.2) := by
  induction src generalizing q with
  | nil => simp
  | cons e src ih =>
    rw [List.foldl_cons, ih, get_push]
    by_cases h : e.1 = p <;> simp [h]

theorem get_build (src : List (String × X)) (p : String) :
    (Queues.build src).get p = (src.filter (fun e => e.1 = p)).map (·.2) := by
  simp [Queues.build, get_foldl_push, Queues.get]

theorem pop_none (q : Queues X) (p : String) (h : q.pop p = none) : q.get p = [] := by
  fun_induction Queues.pop q p with
  | case1 => rfl
  | case2 rest => rw [Queues.get, if_pos rfl]
  | case3 rest y v' => cases h
  | case4 k v rest hk hp ih => rw [Queues.get, if_neg hk]; exact ih hp
  | case5 k v rest hk y rest' hp ih => cases h

theorem pop_some (q q' : Queues X) (p : String) (x : X) (h : q.pop p = some (x, q')) :
    q.get p = x :: q'.get p ∧ ∀ p', p' ≠ p → q'.get p' = q.get p' := by
  fun_induction Queues.pop q p generalizing q' with
  | case1 => cases h
  | case2 rest => cases h
  | case3 rest y v' =>
    cases h
    refine ⟨by rw [Queues.get, if_pos rfl, Queues.get, if_pos rfl], fun p' hp' => ?_⟩
    have : ¬ p = p' := fun e => hp' e.symm
    rw [Queues.get, if_neg this, Queues.get, if_neg this]
  | case4 k v rest hk hp ih => cases h
  | case5 k v rest hk y rest' hp ih =>
    cases h
    obtain ⟨h1, h2⟩ := ih rest' hp
    refine ⟨by rw [Queues.get, if_neg hk, h1, Queues.get, if_neg hk], fun p' hp' => ?_⟩
    rw [Queues.get, Queues.get, h2 p' hp']

theorem applyAnmGo_spec (path : D → String) (upd : D → X → D) (q : Queues X) (ds : List D)
    (i : Nat) (d : D) (hd : ds[i]? = some d) :
    (applyAnmGo path upd q ds)[i]? =
      some (match (q.get (path d))[((ds.take i).filter (fun e => path e = path d)).length]? with
            | some x => upd d x
            | none => d) := by
  fun_induction applyAnmGo path upd q ds generalizing i with
  | case1 => simp at hd
  | case2 q d0 ds x q' hp ih =>
    obtain ⟨h1, h2⟩ := pop_some q q' _ x hp
    cases i with
    | zero => cases hd; rw [h1]; rfl
    | succ i =>
      rw [List.getElem?_cons_succ, ih i hd, List.take_succ_cons, List.filter_cons]
      by_cases he : path d0 = path d
      · simp only [he, decide_true, if_true, List.length_cons, he ▸ h1, List.getElem?_cons_succ]
      · simp only [he, decide_false, if_false, Bool.false_eq_true, h2 _ (fun e => he e.symm)]
  | case3 q d0 ds hp ih =>
    have h0 := pop_none q _ hp
    cases i with
    | zero => cases hd; rw [h0]; rfl
    | succ i =>
      rw [List.getElem?_cons_succ, ih i hd, List.take_succ_cons, List.filter_cons]
      by_cases he : path d0 = path d
      · simp only [he, decide_true, if_true, List.length_cons, he ▸ h0, List.getElem?_nil]
      · simp only [he, decide_false, if_false, Bool.false_eq_true]

/-- entries sharing a path are matched to source entries in order of appearance -/
theorem same_path_in_order (path : D → String) (upd : D → X → D) (src : List (String × X))
    (ds : List D) (i : Nat) (d : D) (hd : ds[i]? = some d) :
    (applyAnm path upd src ds)[i]? =
      some (match ((src.filter (fun e => e.1 = path d)).map (·.2))[
                ((ds.take i).filter (fun e => path e = path d)).length]? with
            | some x => upd d x
            | none => d) := by
  rw [applyAnm, applyAnmGo_spec path upd _ ds i d hd]
  simp only [get_build]

end queues

section sources
variable {T : Type}

/-- The texture that source `s` offers to the `i`-th destination entry (whose path is `p`), given
only the paths of the destination entries. -/
def offer (s : Source T) (paths : List String) (i : Nat) (p : String) : Option (Loaded T) :=
  match s with
  | .anm entries =>
    match ((entries.filter (fun e => e.1 = p)).map (·.2))[
            ((paths.take i).filter (fun e => e = p)).length]? with
    | some e => e.texture.map .fromAnm
    | none => none
  | .dir files => (lookupFile files p).map .fromImage

theorem count_paths (ds : List (Dest T)) (i : Nat) (p : String) :
    (((ds.map Dest.path).take i).filter (fun e => e = p)).length
      = ((ds.take i).filter (fun e => e.path = p)).length := by
  rw [← List.map_take, List.filter_map, List.length_map]
  rfl

theorem updFromAnm_path (d : Dest T) (s : AnmSrcEntry T) : (updFromAnm d s).path = d.path := by
  unfold updFromAnm; cases s.texture <;> rfl

theorem updFromAnm_loaded (d : Dest T) (s : AnmSrcEntry T) :
    (updFromAnm d s).loaded = (s.texture.map Loaded.fromAnm).or d.loaded := by
  unfold updFromAnm; cases s.texture <;> simp

theorem updFromDir_path (files : List (String × T)) (d : Dest T) : (updFromDir files d).path = d.path := by
  unfold updFromDir; cases lookupFile files d.path <;> rfl

theorem updFromDir_loaded (files : List (String × T)) (d : Dest T) :
    (updFromDir files d).loaded = ((lookupFile files d.path).map Loaded.fromImage).or d.loaded := by
  unfold updFromDir; cases lookupFile files d.path <;> simp

theorem applySource_spec (s : Source T) (ds : List (Dest T)) (i : Nat) (d : Dest T)
    (hd : ds[i]? = some d) :
    ∃ d', (applySource ds s)[i]? = some d' ∧ d'.path = d.path ∧
      d'.loaded = (offer s (ds.map Dest.path) i d.path).or d.loaded := by
  cases s with
  | anm entries =>
    simp only [applySource, offer, count_paths]
    rw [same_path_in_order Dest.path updFromAnm entries ds i d hd]
    split
    · next x hx => exact ⟨_, rfl, updFromAnm_path d x, by rw [updFromAnm_loaded, hx]⟩
    · next hx => exact ⟨_, rfl, rfl, by rw [hx]; rfl⟩
  | dir files =>
    refine ⟨updFromDir files d, ?_, updFromDir_path files d, ?_⟩
    · simp [applySource, hd]
    · simp only [offer]; exact updFromDir_loaded files d

theorem applyAnmGo_paths {X D} (path : D → String) (upd : D → X → D)
    (hupd : ∀ d x, path (upd d x) = path d) (q : Queues X) (ds : List D) :
    (applyAnmGo path upd q ds).map path = ds.map path := by
  fun_induction applyAnmGo path upd q ds with
  | case1 => rfl
  | case2 q d ds x q' hp ih => rw [List.map_cons, List.map_cons, ih, hupd]
  | case3 q d ds hp ih => rw [List.map_cons, List.map_cons, ih]

theorem applySource_paths (s : Source T) (ds : List (Dest T)) :
    (applySource ds s).map Dest.path = ds.map Dest.path := by
  cases s with
  | anm entries => exact applyAnmGo_paths Dest.path updFromAnm updFromAnm_path _ ds
  | dir files =>
    simp only [applySource, List.map_map]
    apply List.map_congr_left
    intro d _
    exact updFromDir_path files d

/-- the last source that offers a texture for an entry wins; without any offer the entry keeps
what it had -/
theorem last_source_wins (srcs : List (Source T)) (ds : List (Dest T)) (i : Nat) (d : Dest T)
    (hd : ds[i]? = some d) :
    ∃ d', (applySources srcs ds)[i]? = some d' ∧ d'.path = d.path ∧
      d'.loaded = (srcs.reverse.findSome? (fun s => offer s (ds.map Dest.path) i d.path)).or d.loaded := by
  induction srcs generalizing ds d with
  | nil => exact ⟨d, hd, rfl, rfl⟩
  | cons s srcs ih =>
    obtain ⟨d1, h1, hp1, hl1⟩ := applySource_spec s ds i d hd
    obtain ⟨d', h2, hp2, hl2⟩ := ih (applySource ds s) d1 h1
    refine ⟨d', h2, hp2.trans hp1, ?_⟩
    rw [hl2, hl1, applySource_paths, hp1, List.reverse_cons, List.findSome?_append]
    simp [Option.or_assoc]

theorem explicit_has_data_kept (d : Dest T) (s : AnmSrcEntry T) (v : HasData)
    (h : d.hasData = .explicit v) : (updFromAnm d s).hasData = .explicit v := by
  unfold updFromAnm
  cases s.texture <;> simp [h, SoftOption.setSoft]

/-- the hypotheses of `same_path_in_order` / `last_source_wins` are met by concrete inputs -/
example :
    (applyAnm Dest.path updFromAnm [("@R", ⟨some 1⟩), ("x", ⟨some 2⟩), ("@R", ⟨some 3⟩)]
        [({ path := "@R" } : Dest Nat), { path := "@R" }])[1]?.map (·.loaded) = some (some (.fromAnm 3)) := by
  rw [same_path_in_order Dest.path updFromAnm _ _ 1 { path := "@R" } rfl]
  decide +kernel

example : ∃ d', (applySources [.anm [("a.png", ⟨some 10⟩)], .dir [("a.png", 20)]]
      [({ path := "a.png" } : Dest Nat)])[0]? = some d' ∧ d'.loaded = some (.fromImage 20) := by
  obtain ⟨d', h1, _, h3⟩ := last_source_wins [.anm [("a.png", ⟨some 10⟩)], .dir [("a.png", 20)]]
      [({ path := "a.png" } : Dest Nat)] 0 { path := "a.png" } rfl
  exact ⟨d', h1, by rw [h3]; decide +kernel⟩

example :
    ((applySources
        [.anm [("a.png", ⟨some 10⟩), ("b.png", ⟨some 11⟩)], .dir [("a.png", 20)], .anm [("b.png", ⟨some 30⟩)]]
        [({ path := "a.png" } : Dest Nat), { path := "b.png" }]).map (·.loaded))
      = [some (.fromImage 20), some (.fromAnm 30)] := by decide +kernel

example :
    ((applySources [.anm [("@R", ⟨some 1⟩), ("x", ⟨some 2⟩), ("@R", ⟨some 3⟩)]]
        [({ path := "@R" } : Dest Nat), { path := "@R" }, { path := "@R" }]).map (·.loaded))
      = [some (.fromAnm 1), some (.fromAnm 3), none] := by decide +kernel

end sources

end TruthModel.C17
