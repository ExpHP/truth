import TruthModel.Model.Time
import TruthModel.Model.TimeDelta
import TruthModel.Props.C11
/-
C13 — every instruction gets exactly the time its labels say.

All theorems quantify over every statement list / every `Int32` time sequence / every stored
script (no size bounds).  `Int32` arithmetic is the machine's (wrapping).
-/
namespace TruthModel.C13
open TruthModel TruthModel.Time

theorem specTimes_append (t : Int32) (a b : List Stmt) :
    specTimes t (a ++ b) = specTimes t a ++ specTimes (a.foldl step t) b := by
  induction a generalizing t with
  | nil => rfl
  | cons s ss ih => simp [specTimes, ih]

theorem hasBad_append (a b : List Stmt) : hasBad (a ++ b) = (hasBad a || hasBad b) := by
  induction a with
  | nil => rfl
  | cons s ss ih => cases s <;> simp [hasBad, ih]

/-- the state the visitor is in after a flat statement list, started with `t` on top of the stack -/
def after (st : VState) (t : Int32) (rest : List Int32) (flat : List Stmt) : VState :=
  { timeStack := flat.foldl step t :: rest
    failed := st.failed || hasBad flat
    out := (specTimes t flat).reverse ++ st.out
    panicked := none }

/-- `visit_stmt` without `walk_stmt`: the step of the fold the visitor is (`visitBlock_flat`) -/
def visit1 (st : VState) (s : Stmt) : VState := record (shallow st s) (kindOf s)

mutual
theorem visitStmt_flat (st : VState) (s : Stmt) : visitStmt st s = (flattenStmt s).foldl visit1 st := by
  cases s with
  | block body => exact visitBlock_flat _ body
  | _ => rfl
theorem visitBlock_flat (st : VState) (ss : List Stmt) : visitBlock st ss = (flattenBlock ss).foldl visit1 st := by
  cases ss with
  | nil => rfl
  | cons s ss => rw [visitBlock, visitStmt_flat, visitBlock_flat, flattenBlock, List.foldl_append]
end

theorem visit1_run (s : Stmt) (t : Int32) (rest : List Int32) (failed : Bool) (out : List (Kind × Int32)) :
    visit1 ⟨t :: rest, failed, out, none⟩ s = ⟨step t s :: rest, hasBad [s] || failed, (kindOf s, step t s) :: out, none⟩ := by
  cases s <;> rfl

theorem foldl_visit1 (flat : List Stmt) (t : Int32) (rest : List Int32) (failed : Bool) (out : List (Kind × Int32)) :
    flat.foldl visit1 ⟨t :: rest, failed, out, none⟩ =
      ⟨flat.foldl step t :: rest, hasBad flat || failed, (specTimes t flat).reverse ++ out, none⟩ := by
  induction flat generalizing t failed out with
  | nil => rfl
  | cons s ss ih =>
    rw [List.foldl_cons, visit1_run, ih, ← Bool.or_assoc, Bool.or_comm (hasBad ss), ← hasBad_append [s] ss]
    simp only [specTimes, List.reverse_cons, List.append_assoc, List.singleton_append, List.foldl_cons]

theorem visitStmt_after (s : Stmt) (st : VState) (t : Int32) (rest : List Int32)
    (hs : st.timeStack = t :: rest) (hp : st.panicked = none) :
    visitStmt st s = after st t rest (flattenStmt s) := by
  obtain ⟨ts, f, o, p⟩ := st
  cases hs; cases hp
  rw [visitStmt_flat, foldl_visit1, Bool.or_comm]; rfl

/-- The stack machine of `TimeAndDifficultyHelper` records, for every statement in textual
(pre-)order and any nesting, exactly the time the label rules define: start 0, `N:` sets, `+N:`
adds mod 2^32, anything else inherits; blocks neither save nor restore time.  A non-constant delta
anywhere makes the pass fail with the diagnostic. -/
theorem visitor_eq_spec (body : List Stmt) :
    run body = if hasBad (flattenBlock body) then .err constErr
               else .ok (specTimes 0 (flattenBlock body)) := by
  unfold run
  rw [visitBlock_flat, foldl_visit1]
  simp

example : run [.abs 10, .instr, .block [.rel 5, .instr, .rel (-20)], .instr]
    = .ok [(.timeLabel, 10), (.instr, 10), (.block, 10), (.timeLabel, 15), (.instr, 15), (.timeLabel, -5), (.instr, -5)] := by
  decide +kernel

/-- none of the `expect("empty time stack?! (bug)")` sites is reached -/
theorem visitor_no_panic (body : List Stmt) (site : String) : run body ≠ .panic site := by
  rw [visitor_eq_spec]; split <;> simp

theorem flattenBlock_append (a b : List Stmt) : flattenBlock (a ++ b) = flattenBlock a ++ flattenBlock b := by
  induction a with
  | nil => rfl
  | cons s ss ih => simp [flattenBlock, ih]

/-- a label at the end of a block takes effect for what follows the block, one at the start of a
block for the block's first statement: a block is transparent for time -/
theorem block_transparent (pre body post : List Stmt) :
    (run (pre ++ .block body :: post)).isOk = (run (pre ++ body ++ post)).isOk ∧
    instrTimes (pre ++ .block body :: post) = instrTimes (pre ++ body ++ post) := by
  have hb1 : hasBad (flattenBlock (pre ++ .block body :: post)) = hasBad (flattenBlock (pre ++ body ++ post)) := by
    simp [flattenBlock_append, flattenBlock, flattenStmt, hasBad_append, hasBad]
  unfold instrTimes
  rw [visitor_eq_spec, visitor_eq_spec, hb1]
  split
  · simp [Outcome.isOk]
  · have hk : (Kind.block == Kind.instr) = false := rfl
    simp [Outcome.isOk, flattenBlock_append, flattenBlock, flattenStmt, specTimes_append, specTimes, step, kindOf,
      List.filter_append, List.filter, hk]

/-- the four cases of the label emitter (incl. negative and decreasing times, the inserted `0:`; the `+N:`
case is `prev + (time - prev) = time` in `i32`, which holds with wrapping): applying the emitted labels
to `prev` by the label rules yields `time` -/
theorem emit_reproduces (prev time : Int32) : (emitTime prev time).foldl stepOut prev = time := by
  fun_cases emitTime prev time with
  | case1 h => exact h.symm
  | case2 _ h =>
    by_cases h0 : 0 < time
    · rw [if_pos h0]; exact Int32.zero_add time
    · -- `0 ≤ time` and not `0 < time`: the inserted `0:` is already the time
      rw [if_neg h0]; exact Int32.le_antisymm h.2 (Int32.not_lt.mp h0)
  | case3 => rfl
  | case4 => exact (Int32.add_comm ..).trans (Int32.sub_add_cancel ..)

example : emitTime (-5) 7 = [.abs 0, .rel 7] := by decide +kernel
example : emitTime (-5) 0 = [.abs 0] := by decide +kernel
example : emitTime 2147483647 (-2147483648) = [.abs (-2147483648)] := by decide +kernel
example : emitTime (-2147483648) (-1) = [.rel 2147483647] := by decide +kernel

theorem emitTime_no_instr (prev time : Int32) : Out.instr ∉ emitTime prev time := by
  fun_cases emitTime prev time with
  | case2 => split <;> simp
  | _ => simp

theorem timesFrom_append_of_no_instr (os rest : List Out) (t : Int32) (h : Out.instr ∉ os) :
    timesFrom t (os ++ rest) = timesFrom (os.foldl stepOut t) rest := by
  induction os generalizing t with
  | nil => rfl
  | cons o os ih =>
    have h' : Out.instr ∉ os := fun hr => h (List.mem_cons_of_mem _ hr)
    cases o with
    | instr => exact absurd List.mem_cons_self h
    | label n => exact ih t h'
    | abs v => exact ih v h'
    | rel d => exact ih (t + d) h'

theorem timesFrom_emitAllFrom (prev : Int32) (ts : List Int32) : timesFrom prev (emitAllFrom prev ts) = ts := by
  induction ts generalizing prev with
  | nil => rfl
  | cons t ts ih =>
    rw [emitAllFrom, timesFrom_append_of_no_instr _ _ _ (emitTime_no_instr prev t), emit_reproduces]
    simp [timesFrom, ih]

/-- the times the label rules assign to the instructions of the emitted statement list are the
stored ones, for every time sequence -/
theorem times_emitAll (ts : List Int32) : times (emitAll ts) = ts :=
  timesFrom_emitAllFrom 0 ts

example : emitAll [-1, -1, 0, 5, 3, 3, 10] =
    [.abs (-1), .instr, .instr, .abs 0, .instr, .rel 5, .instr, .abs 3, .instr, .instr, .rel 7, .instr] := by decide +kernel

theorem specTimes_toStmt (os : List Out) (t : Int32) :
    ((specTimes t (os.map Out.toStmt)).filter (fun r => r.1 == Kind.instr)).map (·.2) = timesFrom t os := by
  induction os generalizing t with
  | nil => rfl
  | cons o os ih =>
    cases o with
    | label n => exact ih t
    | abs v => exact ih v
    | rel d => exact ih (t + d)
    | instr => exact congrArg (t :: ·) (ih t)

theorem flattenBlock_toStmt (os : List Out) : flattenBlock (os.map Out.toStmt) = os.map Out.toStmt := by
  induction os with
  | nil => rfl
  | cons o os ih => cases o <;> exact congrArg (_ :: ·) ih

theorem hasBad_toStmt (os : List Out) : hasBad (os.map Out.toStmt) = false := by
  induction os with
  | nil => rfl
  | cons o os ih => cases o <;> exact ih

/-- `times` is the decompiler-side copy of the label rules: by this, every `times .. = ..` below is a statement
about recompiling the printed statements -/
theorem instrTimes_toStmt (os : List Out) : instrTimes (os.map Out.toStmt) = .ok (times os) := by
  unfold instrTimes
  rw [visitor_eq_spec, flattenBlock_toStmt, hasBad_toStmt]
  simp [specTimes_toStmt, times]

/-- recompiling the statements the decompiler emits for the stored times `ts` stores `ts` again -/
theorem recompile_emitAll (ts : List Int32) : instrTimes ((emitAll ts).map Out.toStmt) = .ok ts := by
  rw [instrTimes_toStmt, times_emitAll]

theorem labelTimesFrom_append (os rest : List Out) (t : Int32) :
    labelTimesFrom t (os ++ rest) = labelTimesFrom t os ++ labelTimesFrom (os.foldl stepOut t) rest := by
  induction os generalizing t with
  | nil => rfl
  | cons o os ih =>
    cases o with
    | label n => exact congrArg (_ :: ·) (ih t)
    | abs v => exact ih v
    | rel d => exact ih (t + d)
    | instr => exact ih t

theorem labelTimesFrom_emitTime (prev time : Int32) : labelTimesFrom prev (emitTime prev time) = [] := by
  fun_cases emitTime prev time with
  | case2 => split <;> rfl
  | _ => rfl

/-- one call of the emitter, with an offset label: the time labels still reproduce `time`, no
instruction is emitted, and the label (if any) sits exactly at its `time_label` -/
theorem emitLabels_spec (prev time : Int32) (lab : Option Label) (os : List Out)
    (h : emitLabels prev time lab = .ok os) :
    os.foldl stepOut prev = time ∧ Out.instr ∉ os ∧
    labelTimesFrom prev os = (lab.map fun l => (l.name, l.time)).toList := by
  revert h
  fun_cases emitLabels prev time lab with
  | case1 =>
    intro h; cases h
    exact ⟨emit_reproduces prev time, emitTime_no_instr prev time, labelTimesFrom_emitTime prev time⟩
  | case2 l hp =>
    intro h; cases h
    refine ⟨emit_reproduces prev time, by simpa using emitTime_no_instr prev time, ?_⟩
    rw [← hp]
    exact congrArg (_ :: ·) (labelTimesFrom_emitTime l.time time)
  | case3 l _ ht =>
    intro h; cases h
    refine ⟨(List.foldl_append ..).trans (emit_reproduces prev time), by simpa using emitTime_no_instr prev time, ?_⟩
    rw [labelTimesFrom_append, labelTimesFrom_emitTime, emit_reproduces, ← ht]
    rfl
  | case4 => exact nofun

/-- `generate_label_at_offset` only ever asks for the previous instruction's time (an `r` label,
named after the previous instruction and placed before the relative time increase) or the
destination's time (named after the destination, placed after it) -/
theorem labelAt_time (pi ni : Nat) (prev next : Int32) (args : List Int32) :
    ((labelAt pi prev ni next args).name = .before pi ∧ (labelAt pi prev ni next args).time = prev ∧
        prev < next ∧ ∀ a ∈ args, a = prev) ∨
    ((labelAt pi prev ni next args).name = .dest ni ∧ (labelAt pi prev ni next args).time = next) := by
  unfold labelAt
  split
  · rename_i h
    exact .inl ⟨rfl, rfl, h.1, fun a ha => eq_of_beq (List.all_eq_true.mp h.2.2 a ha)⟩
  · exact .inr ⟨rfl, rfl⟩

/-- the emitter places a label that wants the previous instruction's time (in front of the time
labels) or the destination's time (behind them) -/
theorem emitLabels_ok (prev time : Int32) (lab : Option Label)
    (h : ∀ l, lab = some l → l.time = prev ∨ l.time = time) : ∃ os, emitLabels prev time lab = .ok os := by
  cases lab with
  | none => exact ⟨_, rfl⟩
  | some l =>
    simp only [emitLabels]
    by_cases h2 : l.time = prev
    · rw [if_pos h2]; exact ⟨_, rfl⟩
    · rw [if_neg h2, if_pos ((h l rfl).resolve_left h2)]; exact ⟨_, rfl⟩

/-- **the "impossible time for label" panic is unreachable** for a label that wants the previous
instruction's time or the destination's time -/
theorem label_always_placed (prev next : Int32) (l : Label) (h : l.time = prev ∨ l.time = next) (site : String) :
    emitLabels prev next (some l) ≠ .panic site := by
  obtain ⟨os, hos⟩ := emitLabels_ok prev next (some l) fun l' hl => Option.some.inj hl ▸ h
  rw [hos]; nofun

theorem renameStart_time (k : Nat) (dt : Int32) (l : Label) : (renameStart k dt l).time = l.time := by
  unfold renameStart; split <;> rfl

theorem labelFor_time (is : List RInstr) (k : Nat) (l : Label) (h : labelFor is k = some l) :
    l.time = prevTimeAt is k ∨ l.time = timeAt is k := by
  revert h
  fun_cases labelFor is k with
  | case1 => exact nofun
  | case2 =>
    intro h; cases h
    rw [renameStart_time]
    exact (labelAt_time (k - 1) k (prevTimeAt is k) (timeAt is k) _).imp (·.2.1) (·.2)

example : emitLabels 10 20 (some (labelAt 3 10 4 20 [10])) = .ok [.label (.before 3), .rel 10] := by decide +kernel
example : emitLabels 10 20 (some (labelAt 3 10 4 20 [10, 20])) = .ok [.rel 10, .label (.dest 4)] := by decide +kernel
example : emitLabels 10 20 (some ⟨.dest 4, 15⟩) = .panic impossibleMsg := by decide +kernel

theorem filterMap_range'_succ {α : Type} (f : Nat → Option α) (k n : Nat) :
    (List.range' k (n + 1)).filterMap f = (f k).toList ++ (List.range' (k + 1) n).filterMap f := by
  rw [List.range'_succ, List.filterMap_cons]
  cases f k <;> rfl

/-- the raiser from boundary `k` on (the position in front of instruction `k`; `k = is.length` is the end).  `is` and
`rest` are separate: `labelFor` needs the whole script, the recursion walks the suffix -/
theorem raiseFrom_spec (is : List RInstr) (rest : List RInstr) (prev : Int32) (k : Nat) (os : List Out)
    (h : raiseFrom is prev k rest = .ok os) :
    timesFrom prev os = rest.map (·.time) ∧
    labelTimesFrom prev os =
      (List.range' k (rest.length + 1)).filterMap (fun j => (labelFor is j).map (fun l => (l.name, l.time))) := by
  fun_induction raiseFrom is prev k rest generalizing os with
  | case1 prev k lab endTime =>
    obtain ⟨_, hni, hlab⟩ := emitLabels_spec _ _ _ _ h
    refine ⟨(congrArg (timesFrom prev) (List.append_nil os).symm).trans (timesFrom_append_of_no_instr os [] prev hni), ?_⟩
    rw [hlab, List.length_nil, filterMap_range'_succ]
    exact (List.append_nil _).symm
  | case2 prev k i rest os1 h1 os2 h2 ih =>
    cases h
    obtain ⟨hfold, hni, hlab⟩ := emitLabels_spec _ _ _ _ h1
    obtain ⟨ih1, ih2⟩ := ih os2 h2
    refine ⟨?_, ?_⟩
    · rw [timesFrom_append_of_no_instr _ _ _ hni, hfold]
      simp only [timesFrom, ih1, List.map_cons]
    · rw [labelTimesFrom_append, hfold, hlab]
      exact (congrArg (_ ++ ·) ih2).trans
        (filterMap_range'_succ (fun j => (labelFor is j).map fun l => (l.name, l.time)) k (rest.length + 1)).symm
  | case3 _ _ _ _ _ _ hno => exact absurd h (hno os)
  | case4 _ _ _ _ hno => exact absurd h (hno os)

theorem raise_ok {is : List RInstr} {os : List Out} (h : raise is = .ok os) : raiseFrom is 0 0 is = .ok os := by
  unfold raise at h
  split at h
  · cases h
  · exact h

/-- **stored scripts with jumps**: whenever the raiser produces statements, the label rules give
every instruction its stored time back -/
theorem raise_times (is : List RInstr) (os : List Out) (h : raise is = .ok os) :
    times os = is.map (·.time) :=
  (raiseFrom_spec is is 0 0 os (raise_ok h)).1

/-- ... and the offset labels of the output are those `generate_offset_labels` chose (`labelFor`), each sitting at
the time chosen for it -/
theorem rlabel_time (is : List RInstr) (os : List Out) (h : raise is = .ok os) :
    labelTimesFrom 0 os =
      (List.range (is.length + 1)).filterMap (fun j => (labelFor is j).map (fun l => (l.name, l.time))) := by
  rw [List.range_eq_range']
  exact (raiseFrom_spec is is 0 0 os (raise_ok h)).2

theorem timeAt_mid (pre suf : List RInstr) (i : RInstr) : timeAt (pre ++ i :: suf) pre.length = i.time := by
  simp [timeAt]

theorem prevTimeAt_mid (pre suf : List RInstr) (i : RInstr) : prevTimeAt (pre ++ i :: suf) (pre.length + 1) = i.time := by
  simp [prevTimeAt]

/-- from any boundary on the raiser succeeds, provided the emitter's `prev` is the time in front of
that boundary: every label wants that time or the time behind its boundary -/
theorem raiseFrom_ok (rest pre : List RInstr) :
    ∃ os, raiseFrom (pre ++ rest) (prevTimeAt (pre ++ rest) pre.length) pre.length rest = .ok os := by
  induction rest generalizing pre with
  | nil =>
    refine emitLabels_ok _ _ _ fun l hl => .inr ?_
    rw [hl]
  | cons i rest ih =>
    obtain ⟨os1, h1⟩ := emitLabels_ok (prevTimeAt (pre ++ i :: rest) pre.length) i.time (labelFor (pre ++ i :: rest) pre.length)
      fun l hl => timeAt_mid pre rest i ▸ labelFor_time _ _ l hl
    obtain ⟨os2, h2⟩ := ih (pre ++ [i])
    rw [List.append_assoc, List.length_append, List.singleton_append, List.length_singleton, prevTimeAt_mid] at h2
    exact ⟨os1 ++ .instr :: os2, by simp only [raiseFrom, h1, h2]⟩

/-- the raiser never reaches the "impossible time for label" panic, for any stored script -/
theorem raise_no_panic (is : List RInstr) (site : String) : raise is ≠ .panic site := by
  unfold raise
  split
  · nofun
  · obtain ⟨os, hos⟩ := raiseFrom_ok is []
    exact fun h => nomatch hos.symm.trans h

example : raise [⟨0, none⟩, ⟨10, some (1, some 0)⟩, ⟨-3, some (3, none)⟩]
    = .ok [.instr, .label (.before 0), .rel 10, .instr, .abs (-3), .instr, .label (.dest 3)] := by decide +kernel

theorem labelFor_name (is : List RInstr) (k : Nat) (l : Label) (h : labelFor is k = some l) :
    (k = 0 ∧ (l.name = .start ∨ l.name = .dest 0)) ∨ (0 < k ∧ (l.name = .before (k - 1) ∨ l.name = .dest k)) := by
  revert h
  fun_cases labelFor is k with
  | case1 => exact nofun
  | case2 =>
    intro h; cases h
    have ht := labelAt_time (k - 1) k (prevTimeAt is k) (timeAt is k) (jumpArgs is k)
    unfold renameStart
    by_cases h0 : k = 0
    · rcases ht with ⟨_, htime, hlt, _⟩ | ⟨hn, htime⟩
      · -- an `r` label at the start is renamed: its time differs from the destination's
        rw [if_pos ⟨h0, fun heq => Int32.lt_irrefl ((htime.symm.trans heq) ▸ hlt)⟩]
        exact .inl ⟨h0, .inl rfl⟩
      · rw [if_neg fun hc => hc.2 htime]
        exact .inl ⟨h0, .inr (hn.trans (congrArg LabelName.dest h0))⟩
    · rw [if_neg fun hc => h0 hc.1]
      exact .inr ⟨Nat.pos_of_ne_zero h0, ht.imp (·.1) (·.1)⟩

/-- the boundary a label name belongs to -/
def nameIdx : LabelName → Nat
  | .dest k => k
  | .before k => k + 1
  | .start => 0

theorem labelFor_nameIdx (is : List RInstr) (k : Nat) (l : Label) (h : labelFor is k = some l) : nameIdx l.name = k := by
  rcases labelFor_name is k l h with ⟨rfl, hn | hn⟩ | ⟨hk, hn | hn⟩ <;> rw [hn] <;> simp only [nameIdx]
  exact Nat.sub_add_cancel hk

/-- two different destinations never get the same label name: the start-of-script `r` label is
`label_startr` (the model follows the tree as repaired for the finding `r-label-name-collision-at-script-start`:
with `label_0r` for the start, the stored script `[⟨10, jump to 0 @ 0⟩, ⟨20, jump to 1 @ 10⟩]` has that name
twice and its printed form does not recompile). -/
theorem label_names (is : List RInstr) (k1 k2 : Nat) (l1 l2 : Label)
    (h1 : labelFor is k1 = some l1) (h2 : labelFor is k2 = some l2) (hn : l1.name = l2.name) : k1 = k2 := by
  rw [← labelFor_nameIdx is k1 l1 h1, ← labelFor_nameIdx is k2 l2 h2, hn]

-- the witness of that finding: the two labels have different names
example : raise [⟨10, some (0, some 0)⟩, ⟨20, some (1, some 10)⟩]
      = .ok [.label .start, .rel 10, .instr, .label (.before 0), .rel 10, .instr] := by decide +kernel

end TruthModel.C13

/-! # the extended language: interrupt labels, difficulty tags, `goto L @ t` / `timeof(L)`, `else`
branches, nested functions (model: `Time.X` in `Model/Time.lean`) and const-expression deltas
(`X.deltaStmt` in `Model/TimeDelta.lean`) -/
namespace TruthModel.C13.Ext
open TruthModel TruthModel.Time TruthModel.C13

/-- the state of the extended visitor after statements that produce the records `rs`, end at time
`t'` and contain a non-constant delta iff `bad` -/
def after (st : X.VState) (t' : Int32) (rs : List X.Rec) (bad : Bool) : X.VState :=
  { st with timeStack := t' :: st.timeStack.tail, failed := st.failed || bad, out := rs.reverse ++ st.out }

theorem after_id (st : X.VState) (t : Int32) (rest : List Int32) (hs : st.timeStack = t :: rest) :
    after st t [] false = st := by
  cases st; simp_all [after]

/- The extended visitor on a state spelled out as `⟨time stack, mask stack, failed, out, panicked⟩`. -/
mutual
theorem visitStmt_run (s : X.Stmt) (t : Int32) (rest : List Int32) (m : X.Mask) (drest : List X.Mask) (failed : Bool)
    (out : List X.Rec) :
    X.visitStmt ⟨t :: rest, m :: drest, failed, out, none⟩ s =
      ⟨X.endStmt t s :: rest, m :: drest, X.badStmt s || failed, (X.recsStmt t m rest.length s).reverse ++ out, none⟩ := by
  cases s with
  | tagged k s => exact (congrArg X.popDiff (visitStmt_run s t rest k (m :: drest) failed out)).trans rfl
  | blocks bs =>
    refine (visitBlocks_run bs t rest m drest failed (⟨.block, t, m, rest.length⟩ :: out)).trans ?_
    simp only [X.endStmt, X.badStmt, X.recsStmt, List.reverse_cons, List.append_assoc, List.singleton_append]
  | func body =>
    -- the body runs on a time stack one deeper, starting at 0 under the default mask
    refine (congrArg (fun st => X.exitRoot (X.popDiff st)) (visitBlock_run body 0 (t :: rest) X.defaultMask
      (X.defaultMask :: m :: drest) failed (⟨.item, t, m, rest.length⟩ :: out))).trans ?_
    simp only [X.endStmt, X.badStmt, X.recsStmt, List.reverse_cons, List.append_assoc, List.singleton_append]
    rfl
  | _ => rfl
theorem visitBlock_run (ss : List X.Stmt) (t : Int32) (rest : List Int32) (m : X.Mask) (drest : List X.Mask) (failed : Bool)
    (out : List X.Rec) :
    X.visitBlock ⟨t :: rest, m :: drest, failed, out, none⟩ ss =
      ⟨X.endBlock t ss :: rest, m :: drest, X.badBlock ss || failed, (X.recsBlock t m rest.length ss).reverse ++ out, none⟩ := by
  cases ss with
  | nil => rfl
  | cons s ss =>
    refine (congrArg (X.visitBlock · ss) (visitStmt_run s t rest m drest failed out)).trans ((visitBlock_run ss ..).trans ?_)
    simp only [X.endBlock, X.badBlock, X.recsBlock, Bool.or_assoc, Bool.or_left_comm, List.reverse_append, List.append_assoc]
theorem visitBlocks_run (bs : List (List X.Stmt)) (t : Int32) (rest : List Int32) (m : X.Mask) (drest : List X.Mask)
    (failed : Bool) (out : List X.Rec) :
    X.visitBlocks ⟨t :: rest, m :: drest, failed, out, none⟩ bs =
      ⟨X.endBlocks t bs :: rest, m :: drest, X.badBlocks bs || failed, (X.recsBlocks t m rest.length bs).reverse ++ out, none⟩ := by
  cases bs with
  | nil => rfl
  | cons b bs =>
    refine (congrArg (fun st => X.visitBlocks (X.popDiff st) bs) (visitBlock_run b t rest m (m :: drest) failed out)).trans
      ((visitBlocks_run bs ..).trans ?_)
    simp only [X.endBlocks, X.badBlocks, X.recsBlocks, Bool.or_assoc, Bool.or_left_comm, List.reverse_append, List.append_assoc]
end

theorem visitStmt_after (s : X.Stmt) (st : X.VState) (t : Int32) (rest : List Int32) (m : X.Mask) (drest : List X.Mask)
    (hs : st.timeStack = t :: rest) (hd : st.diffStack = m :: drest) (hp : st.panicked = none) :
    X.visitStmt st s = after st (X.endStmt t s) (X.recsStmt t m rest.length s) (X.badStmt s) := by
  obtain ⟨ts, ds, f, o, p⟩ := st
  cases hs; cases hd; cases hp
  rw [visitStmt_run, Bool.or_comm]; rfl

theorem visitBlocks_after (bs : List (List X.Stmt)) (st : X.VState) (t : Int32) (rest : List Int32) (m : X.Mask) (drest : List X.Mask)
    (hs : st.timeStack = t :: rest) (hd : st.diffStack = m :: drest) (hp : st.panicked = none) :
    X.visitBlocks st bs = after st (X.endBlocks t bs) (X.recsBlocks t m rest.length bs) (X.badBlocks bs) := by
  obtain ⟨ts, ds, f, o, p⟩ := st
  cases hs; cases hd; cases hp
  rw [visitBlocks_run, Bool.or_comm]; rfl

/-- The two-stack machine of `TimeAndDifficultyHelper` records, for every statement in textual
pre-order (any nesting), the time threaded through the text (`N:` sets, `+N:` adds mod 2^32,
everything else - interrupt labels, difficulty labels, block boundaries, `else` - inherits; a
nested function starts at 0 and leaves the enclosing time alone) and the lexically enclosing
difficulty mask; it fails exactly on a non-constant delta and none of the `expect` / `unwrap` sites the model
has (the `panicWith` arms of `Model/Time.lean`) is reachable. -/
theorem xvisitor_eq_spec (body : List X.Stmt) :
    X.run body = if X.badBlock body then .err constErr
                 else .ok (X.recsBlock 0 X.defaultMask 0 body) := by
  unfold X.run
  rw [visitBlock_run]
  simp

theorem xvisitor_no_panic (body : List X.Stmt) (site : String) : X.run body ≠ .panic site := by
  rw [xvisitor_eq_spec]; split <;> simp

example : X.run [.abs 10, .instr, .tagged 3 (.blocks [[.rel 5, .label 0, .interrupt], [.rel 2, .instr]]),
      .func [.rel 1, .instr], .goto 0 none]
    = .ok [⟨.timeLabel, 10, 255, 0⟩, ⟨.instr, 10, 255, 0⟩, ⟨.block, 10, 3, 0⟩, ⟨.timeLabel, 15, 3, 0⟩, ⟨.label 0, 15, 3, 0⟩,
           ⟨.interrupt, 15, 3, 0⟩, ⟨.timeLabel, 17, 3, 0⟩, ⟨.instr, 17, 3, 0⟩, ⟨.item, 17, 255, 0⟩,
           ⟨.timeLabel, 1, 255, 1⟩, ⟨.instr, 1, 255, 1⟩, ⟨.goto 0 none, 17, 255, 0⟩] := by decide +kernel

theorem endBlock_append (t : Int32) (a b : List X.Stmt) :
    X.endBlock t (a ++ b) = X.endBlock (X.endBlock t a) b := by
  induction a generalizing t with
  | nil => rfl
  | cons s ss ih => simp [X.endBlock, ih]

theorem recsBlock_append (t : Int32) (m : X.Mask) (dp : Nat) (a b : List X.Stmt) :
    X.recsBlock t m dp (a ++ b) = X.recsBlock t m dp a ++ X.recsBlock (X.endBlock t a) m dp b := by
  induction a generalizing t with
  | nil => rfl
  | cons s ss ih => simp [X.recsBlock, X.endBlock, ih]

/-- **the time of a label (the value of `timeof(L)` and of the time argument of `goto L`) is the
time reached by everything textually in front of it** in its statement list -/
theorem label_time_position (t : Int32) (m : X.Mask) (dp : Nat) (pre post : List X.Stmt) (n : Nat) :
    X.recsBlock t m dp (pre ++ .label n :: post) =
      X.recsBlock t m dp pre ++ ⟨.label n, X.endBlock t pre, m, dp⟩ :: X.recsBlock (X.endBlock t pre) m dp post := by
  rw [recsBlock_append]; simp [X.recsBlock, X.recsStmt, X.endStmt]

/-- the compile side of the emitter's two placements: a label in front of `+d:` has the time before it, one
behind it the time after (why `label_Nr` and `label_N` are told apart on recompile) -/
theorem label_before_after_time_label (t d : Int32) (m : X.Mask) (dp : Nat) (a b : Nat) :
    X.recsBlock t m dp [.label a, .rel d, .label b] =
      [⟨.label a, t, m, dp⟩, ⟨.timeLabel, t + d, m, dp⟩, ⟨.label b, t + d, m, dp⟩] := by
  rfl

/-- a label at the start of a block has the time in front of the block statement; one at the end
of the (last) block has the time the statement after the block statement gets -/
theorem label_at_block_start (t : Int32) (m : X.Mask) (dp : Nat) (n : Nat) (b : List X.Stmt) (bs : List (List X.Stmt)) :
    X.recsStmt t m dp (.blocks ((.label n :: b) :: bs)) =
      ⟨.block, t, m, dp⟩ :: ⟨.label n, t, m, dp⟩ :: X.recsBlocks t m dp (b :: bs) := by
  rfl

theorem label_at_block_end (t : Int32) (m : X.Mask) (dp : Nat) (n : Nat) (b : List X.Stmt) :
    X.recsStmt t m dp (.blocks [b ++ [.label n]]) =
      ⟨.block, t, m, dp⟩ :: (X.recsBlock t m dp b ++ [⟨.label n, X.endStmt t (.blocks [b ++ [.label n]]), m, dp⟩]) := by
  simp [X.recsStmt, X.recsBlocks, recsBlock_append, endBlock_append, X.recsBlock, X.endStmt, X.endBlocks, X.endBlock]

/-- **`else` starts where the branch before it ends** (textual order, not control flow): the
blocks of one statement are chained -/
theorem else_starts_where_if_ends (t : Int32) (m : X.Mask) (dp : Nat) (b1 b2 : List X.Stmt) :
    X.recsStmt t m dp (.blocks [b1, b2]) =
      ⟨.block, t, m, dp⟩ :: (X.recsBlock t m dp b1 ++ X.recsBlock (X.endBlock t b1) m dp b2) ∧
    X.endStmt t (.blocks [b1, b2]) = X.endBlock (X.endBlock t b1) b2 := by
  simp [X.recsStmt, X.recsBlocks, X.endStmt, X.endBlocks]

/-- **a difficulty label does not change time**: the statement ends at the same time with and without it -/
theorem tag_keeps_time (t : Int32) (k : X.Mask) (s : X.Stmt) :
    X.endStmt t (.tagged k s) = X.endStmt t s := by rfl

mutual
theorem recsStmt_times_mask_indep (t : Int32) (m m' : X.Mask) (dp : Nat) (s : X.Stmt) :
    (X.recsStmt t m dp s).map (fun r => (r.kind, r.time)) = (X.recsStmt t m' dp s).map (fun r => (r.kind, r.time)) := by
  cases s with
  | blocks bs => exact congrArg ((X.Kind.block, t) :: ·) (recsBlocks_times_mask_indep t m m' dp bs)
  | _ => rfl
theorem recsBlock_times_mask_indep (t : Int32) (m m' : X.Mask) (dp : Nat) (ss : List X.Stmt) :
    (X.recsBlock t m dp ss).map (fun r => (r.kind, r.time)) = (X.recsBlock t m' dp ss).map (fun r => (r.kind, r.time)) := by
  cases ss with
  | nil => rfl
  | cons s ss =>
    show List.map _ (_ ++ _) = List.map _ (_ ++ _)
    rw [List.map_append, List.map_append, recsStmt_times_mask_indep t m m' dp s,
      recsBlock_times_mask_indep (X.endStmt t s) m m' dp ss]
theorem recsBlocks_times_mask_indep (t : Int32) (m m' : X.Mask) (dp : Nat) (bs : List (List X.Stmt)) :
    (X.recsBlocks t m dp bs).map (fun r => (r.kind, r.time)) = (X.recsBlocks t m' dp bs).map (fun r => (r.kind, r.time)) := by
  cases bs with
  | nil => rfl
  | cons b bs =>
    show List.map _ (_ ++ _) = List.map _ (_ ++ _)
    rw [List.map_append, List.map_append, recsBlock_times_mask_indep t m m' dp b,
      recsBlocks_times_mask_indep (X.endBlock t b) m m' dp bs]
end

/-- ... and records the same kinds and times (only the mask differs) -/
theorem tag_keeps_times (t : Int32) (m k : X.Mask) (dp : Nat) (s : X.Stmt) :
    (X.recsStmt t m dp (.tagged k s)).map (fun r => (r.kind, r.time)) = (X.recsStmt t m dp s).map (fun r => (r.kind, r.time)) := by
  simp only [X.recsStmt]; exact recsStmt_times_mask_indep t k m dp s

/-- **a nested function starts at 0 and leaves the enclosing time alone** -/
theorem func_isolated (t : Int32) (m : X.Mask) (dp : Nat) (body : List X.Stmt) :
    X.endStmt t (.func body) = t ∧
    X.recsStmt t m dp (.func body) = ⟨.item, t, m, dp⟩ :: X.recsBlock 0 X.defaultMask (dp + 1) body := by
  exact ⟨rfl, rfl⟩

theorem interrupt_inherits (t : Int32) (m : X.Mask) (dp : Nat) :
    X.recsStmt t m dp .interrupt = [⟨.interrupt, t, m, dp⟩] ∧ X.endStmt t .interrupt = t := by
  exact ⟨rfl, rfl⟩

/-- **what the instructions get**: the compile model is the lowering of the specification's
records: times and masks as specified, `goto L @ t` stores `t`, `goto L` and `timeof(L)` the time
recorded for the label statement `L:` -/
theorem xcompile_spec (body : List X.Stmt) :
    X.compile body =
      if X.badBlock body then .err constErr
      else
        let ls := X.lowered (X.recsBlock 0 X.defaultMask 0 body)
        if X.hasDupLabel (X.labelTable ls) then .err X.dupLabelMsg else X.lowerAll (X.labelTable ls) ls := by
  unfold X.compile
  rw [xvisitor_eq_spec]
  by_cases hb : X.badBlock body = true <;> simp [hb]

theorem goto_explicit_time (tbl : List (Nat × Int32)) (d : Nat) (v t : Int32) (m : X.Mask) (dp : Nat) :
    X.lowerRec tbl ⟨.goto d (some v), t, m, dp⟩ = .ok (some (.jump t m v)) := rfl

theorem goto_implicit_time (tbl : List (Nat × Int32)) (d : Nat) (t lt : Int32) (m : X.Mask) (dp : Nat)
    (h : X.lookupLabel tbl d = some lt) :
    X.lowerRec tbl ⟨.goto d none, t, m, dp⟩ = .ok (some (.jump t m lt)) ∧
    X.lowerRec tbl ⟨.timeof d, t, m, dp⟩ = .ok (some (.timeof t m lt)) := by
  simp [X.lowerRec, h]

example : X.compile [.instr, .rel 10, .label 0, .interrupt, .rel 6, .label 1, .tagged 0xF3 .instr, .goto 0 (some 5), .goto 1 none, .timeof 0,
      .blocks [[.rel 5, .label 2, .instr], [.rel 7, .instr, .rel 1]], .func [.rel 3, .instr], .goto 2 none]
    = .ok [.plain 0 255, .interrupt 10 255, .plain 16 0xF3, .jump 16 255 5, .jump 16 255 16, .timeof 16 255 10,
           .plain 21 255, .plain 28 255, .jump 29 255 21] := by decide +kernel

/-- **the value of `+EXPR:` is the const evaluator's value**: whenever the const evaluator of C11
gives the integer `v` for EXPR under the const table, the label adds exactly `v` -/
theorem delta_is_const_value (F : FloatOps) (cs : Consts) (e : Expr) (v : Int32)
    (h : constEval F cs e = .ok (.int v)) : X.deltaStmt F cs e = .rel v := by
  have := C11.constEval_simplify F cs e (.int v) h
  simp [X.deltaStmt, this, Value.toExpr]

/-- a delta that is a register read is the diagnostic, not a guess -/
theorem delta_reg_is_error (F : FloatOps) (cs : Consts) (r : Nat) (sig : Option Sigil) :
    X.deltaStmt F cs (.reg r sig) = .relBad := by
  rfl

example (F : FloatOps) : X.deltaStmt F C11.exCs (.binop .mul (.litI 2) (.var 0 none)) = .rel 10 := by
  apply delta_is_const_value; rfl

theorem erase_liftOuts (os : List Time.Out) (h : Time.Out.instr ∉ os) : (X.liftOuts os).map X.Out.erase = os := by
  induction os with
  | nil => rfl
  | cons o os ih =>
    have h' : Time.Out.instr ∉ os := fun hr => h (List.mem_cons_of_mem _ hr)
    cases o with
    | instr => exact absurd List.mem_cons_self h
    | label n => exact congrArg (_ :: ·) (ih h')
    | abs v => exact congrArg (_ :: ·) (ih h')
    | rel d => exact congrArg (_ :: ·) (ih h')

theorem stmtOf_erase (all : List Time.RInstr) (i : X.RInstr) (o : X.Out) (h : X.stmtOf all i = .ok o) : o.erase = .instr := by
  revert h
  fun_cases X.stmtOf all i with
  | case3 => exact nofun
  | _ => intro h; cases h; rfl

theorem xraiseFrom_erase (all : List Time.RInstr) (rest : List X.RInstr) (prev : Int32) (k : Nat) (os : List X.Out)
    (h : X.raiseFrom all prev k rest = .ok os) :
    Time.raiseFrom all prev k (rest.map X.RInstr.erase) = .ok (os.map X.Out.erase) := by
  fun_induction X.raiseFrom all prev k rest generalizing os with
  | case1 prev k lab endTime os1 h1 =>
    cases h
    simp only [List.map, Time.raiseFrom]
    exact h1.trans (congrArg Outcome.ok (erase_liftOuts _ (emitLabels_spec _ _ _ _ h1).2.1).symm)
  | case4 prev k i rest os1 h1 o ho os2 h2 ih =>
    cases h
    have ht : (X.RInstr.erase i).time = i.time := rfl
    simp only [List.map, Time.raiseFrom, ht, h1, ih os2 h2, List.map_append,
      erase_liftOuts _ (emitLabels_spec _ _ _ _ h1).2.1, stmtOf_erase _ _ _ ho]
  | case5 _ _ _ _ _ _ _ _ hno => exact absurd h (hno os)
  | case2 | case3 | case6 | case7 | case8 | case9 => cases h

/-- the extended raiser refines the base one: erasing masks and kinds from its input and output gives a run of `Time.raise` -/
theorem xraise_erase (is : List X.RInstr) (os : List X.Out) (h : X.raise is = .ok os) :
    Time.raise (is.map X.RInstr.erase) = .ok (os.map X.Out.erase) := by
  unfold X.raise at h
  unfold Time.raise
  dsimp only at h
  split at h
  · simp at h
  · rename_i hb
    simp only [List.length_map] at hb ⊢
    simp only [hb]
    exact xraiseFrom_erase _ _ _ _ _ h

/-- the label rules give every emitted instruction statement (plain, `interrupt[n]:`, `goto`,
tagged or not) its stored time back -/
theorem xraise_times (is : List X.RInstr) (os : List X.Out) (h : X.raise is = .ok os) :
    times (os.map X.Out.erase) = is.map (·.time) := by
  have := raise_times _ _ (xraise_erase is os h)
  simpa [X.RInstr.erase, Function.comp_def] using this

theorem xrlabel_time (is : List X.RInstr) (os : List X.Out) (h : X.raise is = .ok os) :
    labelTimesFrom 0 (os.map X.Out.erase) =
      (List.range (is.length + 1)).filterMap (fun j => (labelFor (is.map X.RInstr.erase) j).map (fun l => (l.name, l.time))) := by
  have := rlabel_time _ _ (xraise_erase is os h)
  simpa using this

/-- **`goto L` vs `goto L @ t`**: whichever form is printed, reading it back (`goto L` = time of
the label, which by `xrlabel_time` is `l.time`) gives the stored time argument -/
theorem goto_reproduces_arg (all : List Time.RInstr) (i : X.RInstr) (d : Nat) (a : Int32) (l : Label)
    (hk : i.kind = .jump d (some a)) (hl : labelFor all d = some l) :
    ∃ tm, X.stmtOf all i = .ok (.goto i.mask l.name tm) ∧ tm.getD l.time = a ∧ (tm = none ↔ a = l.time) := by
  refine ⟨if a = l.time then none else some a, ?_, ?_, ?_⟩
  · simp [X.stmtOf, hk, hl]
  · split <;> simp_all
  · split <;> simp_all

/-- every jump destination has a label, so the `offset_labels[&label_offset]` index in `raise_intrinsic_parts`
finds its key (the `noLabelMsg` arm of `X.stmtOf`; the step from here to `X.raise ≠ .panic ..` is not stated) -/
theorem jump_has_label (all : List Time.RInstr) (i : Time.RInstr) (d : Nat) (tm : Option Int32)
    (hi : i ∈ all) (hj : i.jump = some (d, tm)) : (labelFor all d).isSome := by
  have hne : jumpArgs all d ≠ [] := by
    intro hc
    have : tm.getD (timeAt all d) ∈ jumpArgs all d := by
      unfold jumpArgs
      rw [List.mem_filterMap]
      exact ⟨i, hi, by simp [hj]⟩
    rw [hc] at this; simp at this
  unfold labelFor
  split
  · rename_i h; exact absurd h hne
  · simp

/-- an interrupt label is emitted as its own statement behind the labels of its time -/
example : X.raise [⟨0, 255, .plain⟩, ⟨10, 255, .jump 1 (some 0)⟩, ⟨20, 255, .interrupt⟩, ⟨20, 3, .jump 3 (some 20)⟩, ⟨30, 255, .jump 0 none⟩]
    = .ok [.label (.dest 0), .instr 255, .label (.before 0), .rel 10, .goto 255 (.before 0) none, .rel 10, .interrupt 255,
           .label (.dest 3), .goto 3 (.dest 3) none, .rel 10, .jumpO 255 (.dest 0)] := by decide +kernel

example : X.raise [⟨-1, 255, .interrupt⟩, ⟨5, 255, .jump 0 (some 7)⟩]
    = .ok [.abs (-1), .label (.dest 0), .interrupt 255, .abs 0, .rel 5, .goto 255 (.dest 0) (some 7)] := by decide +kernel

/-- the full round trip through the extended compile model (times, masks and jump arguments of a
recompiled decompilation): stated, not proved here; compared on every run (`xraise` + `xcompile`
streams) and searched (`xrt`) -/
def raise_compile_roundtrip_full : Prop :=
  ∀ (is : List X.RInstr) (os : List X.Out), X.raise is = .ok os →
    X.compile (os.map X.Out.toStmt) = .ok (is.map X.RInstr.expected)

end TruthModel.C13.Ext
