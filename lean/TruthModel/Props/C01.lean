import TruthModel.Props.C03
import TruthModel.Props.C12
import TruthModel.Lemmas.RoundTrip
/-
C01 — decompile then recompile reproduces the binary bit-for-bit.

The property composes several layers (argument codec: C12, time labels: C13, difficulty
masks: C14, label offsets: C18, block recovery: C06/C07, text: C08).  This file holds, at
the level of script bytes, the corollary of C03 (every script the writer can emit is read
back to an instruction list whose re-encoding is the very same bytes), and at the level of instruction
lists the composition, for the flat decompile path (blocks, intrinsics, call sugar and difficulty switches off,
with or without `--no-arguments`) and the flat compile path of `Model/RoundTrip.lean`; and around its hypothesis:
when an instruction is `Canonical` (`canonical_of_compiled`, `canonical_of_fixed_width`) and what a non-canonical
one loses (`noncanonical_warns` with `raiseFlat_warns`, the `silent_*` witnesses).
Not proved here: intrinsic sugar, block recovery + desugaring (C06/C07), the text layer (C08),
file containers (C03/C20) — those are searched end to end by the harness.
-/
namespace TruthModel.C01
open TruthModel TruthModel.InstrIO TruthModel.C03

theorem reread_rewrite (f : Fmt) (is : List Instr) (bs : Bytes)
    (hw : writeInstrs f is = .ok bs)
    (hs : ∀ i ∈ is, Stored f i ∧ NotTerminalLooking f i) :
    ∃ is', readInstrs f bs = .ok is' ∧ writeInstrs f is' = .ok bs :=
  ⟨is, readInstrs_writeInstrs f is bs hw hs, hw⟩

/-- no information is lost by reading: two emitted scripts with the same bytes are the same
instruction list -/
theorem emitted_bytes_determine_script (f : Fmt) (is₁ is₂ : List Instr) (bs : Bytes)
    (h₁ : writeInstrs f is₁ = .ok bs) (h₂ : writeInstrs f is₂ = .ok bs)
    (hs₁ : ∀ i ∈ is₁, Stored f i ∧ NotTerminalLooking f i)
    (hs₂ : ∀ i ∈ is₂, Stored f i ∧ NotTerminalLooking f i) : is₁ = is₂ := by
  have a := readInstrs_writeInstrs f is₁ bs h₁ hs₁
  have b := readInstrs_writeInstrs f is₂ bs h₂ hs₂
  rw [a] at b
  injection b

example : ∃ bs, writeInstrs .anm07 [{ time := 10, opcode := 3, mask := 1, blob := [1, 0, 0, 0] }] = .ok bs := ⟨_, rfl⟩

open TruthModel.Abi TruthModel.Offsets TruthModel.C18 TruthModel.RoundTrip

theorem raiseFlat_of (L : Lang) (a : Bool) (is : List RawInstr) (es : List Early) (cs : List FCall) (ss : List FlatStmt)
    (hdec : decodeAll L a 0 is = .ok (es, []))
    (hnobad : hasBadJump (es.map (Early.toR L.mode (boundaries L.hdr is))) = false)
    (hcalls : raiseCalls L (boundaries L.hdr is) (es.map (Early.toR L.mode (boundaries L.hdr is))) es = .ok (cs, []))
    (hem : emitFrom L (boundaries L.hdr is) (es.map (Early.toR L.mode (boundaries L.hdr is))) 0 0 (is.zip cs) = .ok ss) :
    raiseFlat L a is = .ok (ss, unknownWarn L a is) := by
  simp only [raiseFlat, hdec, hnobad, Bool.false_eq_true, if_false, hcalls, hem]
  simp

theorem lowerFlat_of (L : Lang) (ss : List FlatStmt) (items : List Item) (code : List LStmt) (ovr : List Ovr) (out : Lowered)
    (is : List RawInstr)
    (hfirst : ∀ f : FCall → Outcome Unit, (∀ x ∈ items, f { x.2.1 with diff := x.2.2 } = .ok ()) → firstErr f ss = .ok ())
    (hok : ∀ x ∈ items, CallOk L { x.2.1 with diff := x.2.2 })
    (hb : build L 0 ss = (code, ovr)) (hlt : lowerTail L.hdr L.hasRegs L.mode code = .ok out) (hp : patch ovr out.instrs = is) :
    lowerFlat L ss = .ok is := by
  have c2 := hfirst (typeCheck L) fun x hx => (hok x hx).types
  have c3 := hfirst (constCheck L) fun x hx => (hok x hx).consts
  have c5 := hfirst blobCheck fun x hx => (hok x hx).blob
  cases hd : L.diffAllowed with
  | true =>
    have c1 := hfirst (diffCheck L) fun x hx => (hok x hx).diff hd
    simp only [lowerFlat, hd, if_true, c1, c2, c3, c5, seqU, hb, hlt, hp]
  | false =>
    have c4 := hfirst forbidDiff fun x hx => (hok x hx).noDiff hd
    simp only [lowerFlat, hd, Bool.false_eq_true, if_false, c2, c3, c4, c5, seqU, hb, hlt, hp]

/-- Decompile then recompile reproduces the instructions (flat path, with or without
`--no-arguments`).  For every language (any label mode, any signature table, with or without
registers / difficulty support, any flag table satisfying the invariant of C14) and every script in
which every opcode that has a signature has a valid one (`InstrAbi::validate`), every instruction is
`Canonical` and every jump offset is an instruction boundary of the script or its end (and a header of positive
size: instruction sizes positive, so boundaries and hence label names distinct): `raiseFlat`
succeeds, its only possible warning is the unknown-signature one, and `lowerFlat` of the emitted
statements is the very same instruction list: times, difficulty masks, argument bytes, parameter
masks, `arg0` fields, jumps to every boundary (shared labels, `r` labels, the start label, the end
label). -/
theorem lower_raise_flat (L : Lang) (arguments : Bool) (is : List RawInstr)
    (hhdr : 0 < L.hdr) (hinv : C14.Inv L.defs)
    (hvalid : ∀ i ∈ is, ∀ abi, effSig L arguments i.opcode = some abi → validAbi abi = true)
    (hcanon : Canonical L arguments is = true)
    (hjumps : JumpsOnBoundaries L arguments is = true) :
    ∃ ss, raiseFlat L arguments is = .ok (ss, unknownWarn L arguments is) ∧ lowerFlat L ss = .ok is := by
  have hnd := boundaries_nodup L.hdr hhdr is
  have hdec := canon_decodeAll L arguments is none 0 hcanon
  let offs := boundaries L.hdr is
  let es := earlies L arguments 0 is
  let ris := es.map (Early.toR L.mode offs)
  let tbl := tblFrom offs ris 0 (is.length + 1)
  obtain ⟨hnobad, hjok⟩ := jumps_ok L arguments is hnd hdec hjumps
  obtain ⟨items, rfl, hi2, hi3, hi4, hi5⟩ := items_of_canon L arguments offs ris tbl hinv is none 0 hcanon hvalid hjok
  have htimes : ris.map (·.time) = items.map (fun x => Int32.ofInt x.1.time) := by
    refine Eq.trans (b := (es.map (·.raw)).map fun i => Int32.ofInt i.time) ?_ ?_
    · simp only [ris, List.map_map]; rfl
    · rw [earlies_raw, List.map_map]; rfl
  obtain ⟨ss, hem, hbuild, hfirst⟩ := emit_build L offs ris items [] ris rfl htimes hi4
  change emitFrom L offs ris 0 0 _ = _ at hem
  change build L 0 ss = _ at hbuild
  refine ⟨ss, ?_, ?_⟩
  · rw [← List.zip_map'] at hem
    exact raiseFlat_of L arguments _ es (items.map (·.2.1)) ss hdec hnobad hi3 hem
  · have hdrop : offs.drop 0 = offsetsFrom 0 (items.map (fun x => instrSize L.hdr x.1) ++ [0]) := by
      simp only [List.drop_zero, offs, boundaries, List.map_map]; rfl
    obtain ⟨g, code', raws, hg, hlab, henc, hsec, hpatch⟩ := passes L offs hnd ris tbl items 0 0 none [] hdrop (by intro j l _ _ _; simp) hi2
    have hlt : lowerTail L.hdr L.hasRegs L.mode (codeFrom L offs ris 0 items) = .ok ⟨raws, g⟩ := by
      have hlab' : g.labels = tbl := by simp only [hlab, tbl, List.length_map]
      simp only [lowerTail, gatherLabelInfo, hg, encodeLabels, hlab', henc, hsec]
    exact lowerFlat_of L ss items _ _ ⟨raws, g⟩ _ hfirst hi5 hbuild hlt hpatch

/-- with a signature for every opcode (or under `--no-arguments`) the decompile prints no warning at all -/
theorem lower_raise_flat_no_warning (L : Lang) (arguments : Bool) (is : List RawInstr)
    (hhdr : 0 < L.hdr) (hinv : C14.Inv L.defs)
    (hvalid : ∀ i ∈ is, ∀ abi, effSig L arguments i.opcode = some abi → validAbi abi = true)
    (hknown : arguments = false ∨ ∀ i ∈ is, (L.sig i.opcode).isSome = true)
    (hcanon : Canonical L arguments is = true) (hjumps : JumpsOnBoundaries L arguments is = true) :
    ∃ ss, raiseFlat L arguments is = .ok (ss, []) ∧ lowerFlat L ss = .ok is := by
  obtain ⟨ss, h1, h2⟩ := lower_raise_flat L arguments is hhdr hinv hvalid hcanon hjumps
  have : unknownWarn L arguments is = [] := by
    unfold unknownWarn
    rcases hknown with h | h
    · rw [h]; rfl
    · have : (is.any fun i => (L.sig i.opcode).isNone) = false := by
        refine List.any_eq_false.mpr fun i hi => ?_
        have := h i hi
        cases hs : L.sig i.opcode with
        | none => rw [hs] at this; cases this
        | some _ => exact Bool.false_ne_true
      rw [this, Bool.and_false]; rfl
  rw [this] at h1
  exact ⟨ss, h1, h2⟩

/-- `--no-arguments`: every script whose instructions are whole numbers of dwords (and whose
header fields have the widths of `RawInstr`) decompiles without warning and compiles back to the same
instructions — whatever the signature table says, valid or not.  (The statements are `@blob` calls, with
`@mask` / `@arg0` where they are not the defaults: `RoundTrip.instr_unknown`.) -/
theorem blob_roundtrip (L : Lang) (is : List RawInstr) (hhdr : 0 < L.hdr) (hinv : C14.Inv L.defs)
    (h : ∀ i ∈ is, wfInstr L i = true ∧ i.blob.length % 4 = 0) :
    ∃ ss, raiseFlat L false is = .ok (ss, []) ∧ lowerFlat L ss = .ok is := by
  have hcanon : ∀ (is : List RawInstr) (st : EncState), (∀ i ∈ is, wfInstr L i = true ∧ i.blob.length % 4 = 0) → canonFrom L false st is = true := by
    intro is
    induction is with
    | nil => intro st _; rfl
    | cons i rest ih =>
      intro st h
      obtain ⟨h1, h2⟩ := h i List.mem_cons_self
      have : canonInstr L false st i = some st := by simp [canonInstr, h1, effSig, h2]
      simp only [canonFrom, this]
      exact ih st (fun j hj => h j (List.mem_cons_of_mem _ hj))
  have hc : Canonical L false is = true := hcanon is none h
  have hj : JumpsOnBoundaries L false is = true := by
    simp only [JumpsOnBoundaries, canon_decodeAll L false is none 0 hc, List.all_eq_true]
    intro e he
    simp [Early.jump, earlies_blob L is 0 e he]
  exact lower_raise_flat_no_warning L false is hhdr hinv (by intro i _ abi hs; simp [effSig] at hs) (.inl rfl) hc hj

/-- what `compile` writes for a call with `ArgsOk` arguments (call checks, then `encode_args`; at most 16
parameters, float-stored register numbers that survive `as i32` / `as f32`) is canonical: strings of every
size kind, masks, the furigana quirk and `arg0` included -/
theorem canonical_of_compiled (L : Lang) (st st' : EncState) (abi : Abi) (args : List Arg) (raw : Raw) (w : List String) (i : RawInstr)
    (hsig : L.sig i.opcode = some abi) (hv : validAbi abi = true) (hn : (abi.filter Enc.contributes).length ≤ 16)
    (ha : ArgsOk st abi args = true) (hfr : floatRegsOk L args = true)
    (hc : compileCall L.hasRegs st abi args = .ok (raw, w, st'))
    (hi : i.blob = raw.blob ∧ i.mask = raw.mask ∧ i.extra = raw.arg0) (hwf : wfInstr L i = true) :
    canonInstr L true st i = some st' := by
  simp only [compileCall] at hc
  split at hc
  · rename_i hcc
    obtain ⟨hde, hw⟩ := C12.decode_encode L.hasRegs st abi args raw w st' hv hn ha hc
    have hraw : raw = ⟨i.blob, i.mask, i.extra⟩ := by
      obtain ⟨b, m, x⟩ := raw
      obtain ⟨rfl, rfl, rfl⟩ := hi
      rfl
    rw [hraw] at hde
    obtain ⟨full, hda, hdrop, hnz⟩ := decompileCall_quiet hde
    obtain ⟨a0, hdi⟩ := decodeArgs_iff_decodeInstr.mp hda
    -- nothing is left over as `pseudo_arg0`: an `arg0` parameter takes the header field, and without one the encoder wrote none
    have ha0 : a0 = none := by
      rw [decodeInstr_arg0 hdi]
      cases hany : abi.any Enc.isArg0 with
      | true => rfl
      | false =>
        have hp := hc
        rw [C12.encodeArgs_plain L.hasRegs st args fun e he => Bool.eq_false_iff.mpr fun h => Bool.false_ne_true
          (hany.symm.trans (List.any_eq_true.mpr ⟨e, he, h⟩))] at hp
        split at hp
        · cases hp
        · obtain ⟨o, _, rfl, _⟩ := encodePlain_ok hp
          exact hi.2.2
    simp only [canonInstr, hwf, Bool.not_true, Bool.false_eq_true, if_false, effSig, if_true, hsig, hdi, hnz, hdrop, hfr, hcc, hc]
    simp [hi.1, hi.2.1, hi.2.2, ha0, pseudoArg0, arg0After]
  · cases hc
  · cases hc

/-- for signatures without string and `arg0` parameters a syntactic condition suffices for `canonInstr`:
the instruction decodes without warning, its padding bytes are zero, its register bits sit only on
register-capable parameters and its float-stored register numbers survive (C12 `encode_decode_partial`); in a
language with registers, the header field `extra` unset -/
theorem canonical_of_fixed_width (L : Lang) (st : EncState) (abi : Abi) (i : RawInstr) (full : List Arg) (a0 : Option Int)
    (hsig : L.sig i.opcode = some abi) (hsf : strFree abi = true) (hna : noArg0 abi = true)
    (hn : (abi.filter Enc.contributes).length ≤ 16) (hregs : L.hasRegs = true)
    (hwf : wfInstr L i = true) (hx : i.extra = none)
    (hdec : decodeInstr abi i = .ok ((full, a0), [])) (hpad : nonzeroPadding abi full = false)
    (hm : maskOk abi i.mask = true) (hfr : floatRegsOk L (dropPadding abi full) = true) :
    canonInstr L true st i = some st := by
  have hdec' := decodeArgs_iff_decodeInstr.mpr ⟨a0, hdec⟩
  have henc := C12.encode_decode_partial st abi ⟨i.blob, i.mask, i.extra⟩ full hsf hna hn hdec' hpad hm (wfInstr_ok hwf).mask hx
  have ha0 : a0 = none := by
    have hany : abi.any Enc.isArg0 = false := by simpa [noArg0] using hna
    rw [decodeInstr_arg0 hdec, hany, hx]; rfl
  have hcc := checkCall_of_wf abi full (decodeInstr_wf abi i full a0 [] hdec) hna
  simp only [canonInstr, hwf, Bool.not_true, Bool.false_eq_true, if_false, effSig, if_true, hsig, hdec, hpad, hfr, hcc, hregs, henc]
  simp [ha0, pseudoArg0, arg0After, hx]

/-- A non-canonical instruction of a
fixed-width signature that decodes at all is one the decompiler warns about (a decode warning:
leftover bytes / unused mask bits, or the non-zero padding warning) — or it belongs to one of two
classes that are lost *silently*: a register bit on an immediate-only parameter (`maskOk` fails;
"TODO: Add a way to fallback to @mask for bad mask bits" in `decode_args_with_abi`), or a
float-stored register number that `x as i32` / `reg as f32` do not reproduce. -/
theorem noncanonical_warns (L : Lang) (st : EncState) (abi : Abi) (i : RawInstr) (full : List Arg) (a0 : Option Int) (w : List String)
    (hsig : L.sig i.opcode = some abi) (hsf : strFree abi = true) (hna : noArg0 abi = true)
    (hn : (abi.filter Enc.contributes).length ≤ 16) (hregs : L.hasRegs = true)
    (hwf : wfInstr L i = true) (hx : i.extra = none)
    (hdec : decodeInstr abi i = .ok ((full, a0), w))
    (hnc : canonInstr L true st i = none) :
    w ≠ [] ∨ nonzeroPadding abi full = true ∨ maskOk abi i.mask = false ∨ floatRegsOk L (dropPadding abi full) = false := by
  by_cases hw : w = []
  · subst hw
    by_cases hpad : nonzeroPadding abi full = true
    · exact .inr (.inl hpad)
    · by_cases hm : maskOk abi i.mask = true
      · by_cases hfr : floatRegsOk L (dropPadding abi full) = true
        · have := canonical_of_fixed_width L st abi i full a0 hsig hsf hna hn hregs hwf hx hdec (Bool.eq_false_iff.mpr hpad) hm hfr
          rw [this] at hnc; cases hnc
        · exact .inr (.inr (.inr (Bool.eq_false_iff.mpr hfr)))
      · exact .inr (.inr (.inl (Bool.eq_false_iff.mpr hm)))
  · exact .inl hw

/-- the second half of `noncanonical_warns`: its first two alternatives do surface in the warnings of `raiseFlat` -/
theorem raiseFlat_warns (L : Lang) (is : List RawInstr) (ss : List FlatStmt) (ws : List String)
    (h : raiseFlat L true is = .ok (ss, ws)) (i : RawInstr) (hi : i ∈ is) (abi : Abi) (hsig : L.sig i.opcode = some abi)
    (full : List Arg) (a0 : Option Int) (w : List String) (hdec : decodeInstr abi i = .ok ((full, a0), w))
    (hw : w ≠ [] ∨ nonzeroPadding abi full = true) : ws ≠ [] := by
  revert h
  fun_cases raiseFlat L true is with
  | case2 offs es w1 hd ris hbad cs w2 hc ss' hem =>
    intro h; cases h
    obtain ⟨p1, e, he, _, hedec⟩ := decodeAll_warnings L true is 0 es w1 hd i hi abi full a0 w (by simp [effSig, hsig]) hdec
    intro hws
    obtain ⟨h1, h2⟩ := List.append_eq_nil_iff.mp (List.append_eq_nil_iff.mp hws).1
    rcases hw with hw | hw
    · cases w with
      | nil => exact hw rfl
      | cons x xs => exact absurd (h1 ▸ p1 x List.mem_cons_self) List.not_mem_nil
    · exact absurd (h2 ▸ raiseCalls_warnings L _ _ es cs w2 hc e he abi full hedec hw) List.not_mem_nil
  | _ => exact nofun

/-- a stand-in for IEEE single on the two values the witnesses need: `-0.0` and `+0.0` are both
integer-valued and read as register 0, register 0 is written `+0.0` -/
def demoFr : FloatReg where
  toReg b := if b = 0x80000000 ∨ b = 0 then some 0 else none
  ofReg _ := 0

/-- a language with registers, difficulty labels and absolute label offsets (the `TestLanguage` header) -/
def demoLang : Lang where
  hdr := 4
  mode := .absolute
  sig op :=
    if op = 1 then some [.int .w4 true false true]                 -- `S(imm)`
    else if op = 2 then some [.float false]                        -- `f`
    else if op = 3 then some [.str (.toBlobEnd 4) ⟨0, 0, 0⟩ false] -- `z(bs=4)`
    else if op = 4 then some [.jumpOffset, .jumpTime]              -- `ot`
    else if op = 5 then some [.int .w4 true false false, .padding false, .int .w2 true false false]  -- `S-s`
    else none
  hasRegs := true
  diffAllowed := true
  defs := Diff.defaultDefs
  fr := demoFr

/-- the hypotheses of `lower_raise_flat` on a script with a register argument, a backward jump to the
script start that asks for the time after the first time increase (`label_0`), a jump to the
second instruction that uses its time (`timeof`), a jump to the end of the script,
a negative time, and non-default difficulty masks -/
def demoScript : List RawInstr := [
  ⟨-1, 5, 1, [0x10, 0x27, 0, 0, 0, 0xFF, 0x7F], 255, none⟩,
  ⟨10, 4, 0, [0, 0, 0, 0, 10, 0, 0, 0], 0x0F, none⟩,
  ⟨10, 4, 0, [11, 0, 0, 0, 10, 0, 0, 0], 255, none⟩,
  ⟨20, 4, 0, [47, 0, 0, 0, 20, 0, 0, 0], 0xF0, none⟩]

example : 0 < demoLang.hdr ∧ Canonical demoLang true demoScript = true ∧ JumpsOnBoundaries demoLang true demoScript = true := by
  decide +kernel

example : raiseFlat demoLang true demoScript = .ok ([
    .abs (-1),
    .label "label_0",
    .call { opcode := 5, args := [.reg 10000 false, .int 32767] },
    .abs 0, .rel 10,
    .label "label_11",
    .call { diff := some ['0', '1', '2', '3'], opcode := 4, args := [.offsetof "label_0", .int 10] },
    .call { opcode := 4, args := [.offsetof "label_11", .timeof "label_11"] },
    .rel 10,
    .call { diff := some ['4', '5', '6', '7'], opcode := 4, args := [.offsetof "label_47", .timeof "label_47"] },
    .label "label_47"], []) := by
  decide +kernel

theorem demo_valid : ∀ i ∈ demoScript, ∀ abi, effSig demoLang true i.opcode = some abi → validAbi abi = true := by
  have h : ∀ i ∈ demoScript, (match effSig demoLang true i.opcode with | some abi => validAbi abi | none => true) = true := by
    decide +kernel
  intro i hi abi hs
  have := h i hi
  rwa [hs] at this

example : ∃ ss, raiseFlat demoLang true demoScript = .ok (ss, []) ∧ lowerFlat demoLang ss = .ok demoScript :=
  lower_raise_flat_no_warning demoLang true demoScript (by decide +kernel) C14.inv_default demo_valid (.inr (by decide +kernel)) (by decide +kernel) (by decide +kernel)

/-- two of the hypotheses of `canonical_of_fixed_width` (`hdec`, `hm`) on the first instruction of `demoScript`, which is
canonical -/
example : decodeInstr [.int .w4 true false false, .padding false, .int .w2 true false false]
      ⟨-1, 5, 1, [0x10, 0x27, 0, 0, 0, 0xFF, 0x7F], 255, none⟩ = .ok (([.int 10000 true, .int 0 false, .int 32767 false], none), []) ∧
    maskOk [.int .w4 true false false, .padding false, .int .w2 true false false] 1 = true := by decide +kernel

example : ∃ ss, raiseFlat demoLang false [⟨5, 9, 3, [1, 2, 3, 4], 0x0F, some 7⟩] = .ok (ss, []) ∧
    lowerFlat demoLang ss = .ok [⟨5, 9, 3, [1, 2, 3, 4], 0x0F, some 7⟩] :=
  blob_roundtrip demoLang _ (by decide +kernel) C14.inv_default (by decide +kernel)

/-! ### losses the decompiler does not warn about (model witnesses; each replays on the real CLI) -/

/-- a register bit on an immediate-only parameter is dropped without warning (`@mask` is not emitted) -/
theorem silent_register_bit_on_immediate :
    Canonical demoLang true [⟨0, 1, 1, [1, 0, 0, 0], 255, none⟩] = false ∧
    raiseFlat demoLang true [⟨0, 1, 1, [1, 0, 0, 0], 255, none⟩] = .ok ([.call { opcode := 1, args := [.int 1] }], []) ∧
    lowerFlat demoLang [.call { opcode := 1, args := [.int 1] }] = .ok [⟨0, 1, 0, [1, 0, 0, 0], 255, none⟩] := by
  decide +kernel

/-- a float-stored register number that `as i32` / `as f32` do not reproduce (`-0.0`) is normalised without warning -/
theorem silent_float_register :
    Canonical demoLang true [⟨0, 2, 1, [0, 0, 0, 0x80], 255, none⟩] = false ∧
    raiseFlat demoLang true [⟨0, 2, 1, [0, 0, 0, 0x80], 255, none⟩] = .ok ([.call { opcode := 2, args := [.reg 0 true] }], []) ∧
    lowerFlat demoLang [.call { opcode := 2, args := [.reg 0 true] }] = .ok [⟨0, 2, 1, [0, 0, 0, 0], 255, none⟩] := by
  decide +kernel

/-- a block-padded string with one block of padding too many is re-encoded shorter without warning -/
theorem silent_overpadded_string :
    Canonical demoLang true [⟨0, 3, 0, [0x61, 0, 0, 0, 0, 0, 0, 0], 255, none⟩] = false ∧
    raiseFlat demoLang true [⟨0, 3, 0, [0x61, 0, 0, 0, 0, 0, 0, 0], 255, none⟩] = .ok ([.call { opcode := 3, args := [.str [0x61]] }], []) ∧
    lowerFlat demoLang [.call { opcode := 3, args := [.str [0x61]] }] = .ok [⟨0, 3, 0, [0x61, 0, 0, 0], 255, none⟩] := by
  decide +kernel

/-- `--no-arguments` on an instruction whose arguments are not a whole number of dwords: no warning,
and the printed `@blob` literal is rejected by the compiler (open finding) -/
theorem blob_not_dwords_does_not_recompile :
    raiseFlat demoLang false [⟨0, 1, 0, [1, 2], 255, none⟩] = .ok ([.call { opcode := 1, blob := some [1, 2] }], []) ∧
    lowerFlat demoLang [.call { opcode := 1, blob := some [1, 2] }] = .err blobLenMsg := by
  decide +kernel

/-- `None` and `Some(0)` in the `arg0` field are the same bytes in every format: the one in-memory
difference `Canonical` excludes is invisible in the written file -/
theorem extra_zero_same_bytes (f : InstrIO.Fmt) (i : InstrIO.Instr) (h : i.extra = none) :
    InstrIO.writeInstr f { i with extra := some 0 } = InstrIO.writeInstr f i := by
  -- the writers read `extra` only as `extra.getD 0`
  obtain ⟨t, op, m, b, d, x⟩ := i
  cases h
  cases f <;> rfl
end TruthModel.C01
