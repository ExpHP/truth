import TruthModel.Props.C03Instr
import TruthModel.Props.C03Files
import TruthModel.Props.C03Anm
import TruthModel.Props.C03Ecl10
/-
C03 — a successful compile never writes a file that differs from what was asked.
-/
