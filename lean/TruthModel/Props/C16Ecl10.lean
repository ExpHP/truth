import TruthModel.Props.C16Files
import TruthModel.Model.FilesEcl10
import TruthModel.Lemmas.Abi
/-
C16 for stack ECL (TH10 and later; `Model/InstrIO10.lean`, `Model/FilesEcl10.lean`): for every byte string and every text
codec `read` ends in a file or one of six diagnostics, never a panic (none of its three panic arms, two `assert_eq!` and the
position subtraction, is reachable: `ecl10_asserts_dead` says why) and never "fuel".  What it builds is bounded by the input LINEARLY: every sub
must end exactly at the next offset of the table, so the subs that were read tile a part of the
file and cost no more than it (`readSubsAux_tiles`; contrast `anm_shared_texture_reads`).  Each reader has one statement `X_ends` (`Ends`,
`Lemmas/Readers.lean`).
-/
namespace TruthModel.C16
open TruthModel TruthModel.InstrIO TruthModel.Files

theorem readInstr10_ends (bs : Bytes) :
    Ends [eofErr, badSize] (fun p => bs.length = p.2.length + instrSize10 p.1 ∧ 16 ≤ instrSize10 p.1) (readInstr10 bs) := by
  unfold readInstr10
  refine .int rdI32_takes fun time r1 _ l1 => ?_
  refine .nat rdU16_takes fun opcode r2 _ l2 => ?_
  refine .nat rdU16_takes fun size r3 _ l3 => ?_
  refine .nat rdU16_takes fun mask r4 _ l4 => ?_
  refine .nat rdU8_takes fun difficulty r5 _ l5 => ?_
  refine .nat rdU8_takes fun argCount r6 _ l6 => ?_
  refine .nat rdU8_takes fun pop r7 _ l7 => ?_
  refine .blob fun _ r8 l8 _ => ?_
  refine .ite (fun _ => .err (.tail _ (.head _))) fun _ => ?_
  refine .blob fun blob r9 l9 hb => .ok ⟨?_, Nat.le_add_right 16 _⟩
  show _ = _ + (16 + _)
  rw [l1, l2, l3, l4, l5, l6, l7, l8, l9, hb, Nat.add_comm 16]
  simp only [Nat.add_assoc]

theorem readInstr10_no_panic (bs : Bytes) : (readInstr10 bs).isPanic = false := (readInstr10_ends bs).isPanic

/-- the only diagnostics of `read_instr`: a short read, or a size field below the header size -/
theorem readInstr10_err (bs : Bytes) (c : String) (h : readInstr10 bs = .err c) : c = eofErr ∨ c = badSize := by
  have := (readInstr10_ends bs).errIn c h
  simpa using this

/-- **a parsed instruction consumed exactly `instr_size` bytes**: 16 bytes of header and the blob -/
theorem readInstr10_consumes (bs : Bytes) (i : Instr10) (r : Bytes) (h : readInstr10 bs = .ok (i, r)) :
    bs.length = r.length + instrSize10 i ∧ 16 ≤ instrSize10 i := (readInstr10_ends bs).of_ok h

/-- what `read_byte_vec(size - 16)` returns is part of the input -/
theorem readInstr10_alloc_bound (bs : Bytes) (i : Instr10) (r : Bytes) (h : readInstr10 bs = .ok (i, r)) :
    i.blob.length + 16 ≤ bs.length := by
  rw [(readInstr10_consumes bs i r h).1]
  exact Nat.le_trans (Nat.le_of_eq (Nat.add_comm _ 16)) (Nat.le_add_left _ _)

/-- the loop unfolded once, for the round trip in `Props/C03Ecl10.lean` (as `readSubsAux_step`, `readSubsAux_nil_names` below) -/
theorem readInstrs10Aux_succ (e : Option Nat) (n : Nat) (acc : List Instr10) (cur : Nat) (bs : Bytes) :
    readInstrs10Aux e (n + 1) acc cur bs =
      match endCheck e cur with
      | .stop => .ok acc.reverse
      | .past => .err readPastEnd
      | .go =>
        match readInstr10 bs with
        | .ok (i, r) => readInstrs10Aux e n (i :: acc) (cur + instrSize10 i) r
        | .err c => .err c
        | .panic s => .panic s := by
  rw [readInstrs10Aux]
  rfl

/-- bytes of a script as stored (headers + argument blobs) -/
def sizeSum10 (is : List Instr10) : Nat := (is.map instrSize10).sum

theorem sizeSum10_cons (i : Instr10) (is : List Instr10) : sizeSum10 (i :: is) = instrSize10 i + sizeSum10 is := by
  simp [sizeSum10]

theorem sizeSum10_reverse (is : List Instr10) : sizeSum10 is.reverse = sizeSum10 is := by
  simp [sizeSum10, List.sum_reverse]

theorem endCheck_stop {e : Option Nat} {cur : Nat} (h : endCheck e cur = .stop) : e = some cur := by
  unfold endCheck at h
  split at h
  · cases h
  · split at h
    · cases h
    · split at h
      · rename_i h1; rw [h1]
      · cases h

/-- `cur - sizeSum10 acc` is the offset at which the script began, the same at every step; with an end offset the loop stops only at `cur = e`,
so what was read is exactly the bytes from the beginning to `e` -/
theorem readInstrs10Aux_ends (e : Option Nat) (n : Nat) (acc : List Instr10) (cur : Nat) (bs : Bytes) (hn : bs.length < n) :
    Ends instrReadErrs (fun is => sizeSum10 is ≤ sizeSum10 acc + bs.length ∧ ∀ e', e = some e' → cur + sizeSum10 is = e' + sizeSum10 acc)
      (readInstrs10Aux e n acc cur bs) := by
  fun_induction readInstrs10Aux e n acc cur bs with
  | case1 => exact absurd hn (Nat.not_lt_zero _)
  | case2 fuel acc cur bs hc =>
    refine .ok ⟨by rw [sizeSum10_reverse]; exact Nat.le_add_right _ _, fun e' he' => ?_⟩
    rw [endCheck_stop hc] at he'
    cases he'
    rw [sizeSum10_reverse, Nat.add_comm]
  | case3 => exact .err (by simp [instrReadErrs])
  | case4 fuel acc cur bs hc i r hr ih =>
    obtain ⟨hlen, h16⟩ := readInstr10_consumes bs i r hr
    refine (ih (Nat.lt_of_lt_of_le (Nat.lt_add_of_pos_right (Nat.lt_of_lt_of_le (by decide) h16))
      (hlen ▸ Nat.le_of_lt_succ hn))).mono (fun _ h => h) fun is h => ?_
    simp only [sizeSum10_cons] at h
    refine ⟨?_, fun e' he' => ?_⟩
    · rw [hlen]
      exact Nat.le_trans h.1 (Nat.le_of_eq (by rw [Nat.add_comm (instrSize10 i), Nat.add_assoc, Nat.add_comm (instrSize10 i)]))
    · have := h.2 e' he'
      rw [Nat.add_right_comm, ← Nat.add_assoc e', Nat.add_right_comm e'] at this
      exact Nat.add_right_cancel this
  | case5 fuel acc cur bs hc c hr => exact (readInstr10_ends bs).err_of hr (by simp [instrReadErrs])
  | case6 fuel acc cur bs hc p hr => exact (readInstr10_ends bs).panic_of hr

theorem readInstrs10_ends (e : Option Nat) (start : Nat) (bs : Bytes) :
    Ends instrReadErrs (fun is => sizeSum10 is ≤ bs.length ∧ ∀ e', e = some e' → start + sizeSum10 is = e')
      (readInstrs10 e start bs) :=
  (readInstrs10Aux_ends e _ [] start bs (Nat.lt_succ_self _)).mono (fun _ h => h) fun is h => by
    simpa [sizeSum10] using h

theorem readInstrs10_no_panic (e : Option Nat) (start : Nat) (bs : Bytes) : (readInstrs10 e start bs).isPanic = false :=
  (readInstrs10_ends e start bs).isPanic

/-- **the fuel handed to the script loop always suffices** -/
theorem readInstrs10_fuel_suffices (e : Option Nat) (start : Nat) (bs : Bytes) : readInstrs10 e start bs ≠ .err "fuel" := by
  intro h
  have := (readInstrs10_ends e start bs).errIn _ h
  revert this
  decide +kernel

/-- **a script ends in a list of instructions or one of three diagnostics, for every byte string** -/
theorem readInstrs10_total (e : Option Nat) (start : Nat) (bs : Bytes) :
    (∃ is, readInstrs10 e start bs = .ok is) ∨ ∃ c ∈ instrReadErrs, readInstrs10 e start bs = .err c :=
  (readInstrs10_ends e start bs).total

/-- **a script read between `start` and `e` is exactly `e - start` bytes of instructions, all of them input** -/
theorem readInstrs10_exact (e start : Nat) (bs : Bytes) (is : List Instr10) (h : readInstrs10 (some e) start bs = .ok is) :
    start + sizeSum10 is = e ∧ sizeSum10 is ≤ bs.length :=
  have hq := (readInstrs10_ends (some e) start bs).of_ok h
  ⟨hq.2 e rfl, hq.1⟩

example : readInstrs10 (some 36) 0 ([5, 0, 0, 0, 10, 0, 20, 0, 3, 0, 255, 5, 2, 0, 0, 0, 1, 0, 0, 0] ++ [0, 0, 0, 0, 11, 0, 16, 0, 0, 0, 3, 0, 0, 0, 0, 0]) =
    .ok [{ time := 5, opcode := 10, mask := 3, difficulty := 255, argCount := 5, pop := 2, blob := [1, 0, 0, 0] },
         { time := 0, opcode := 11, mask := 0, difficulty := 3, argCount := 0, pop := 0, blob := [] }] := by decide +kernel
/-- a size field below 16 is a diagnostic, not an underflow -/
example : readInstr10 [0, 0, 0, 0, 1, 0, 15, 0, 0, 0, 255, 0, 0, 0, 0, 0] = .err badSize := by decide +kernel
/-- an end offset inside an instruction is a diagnostic -/
example : readInstrs10 (some 10) 0 [0, 0, 0, 0, 1, 0, 16, 0, 0, 0, 255, 0, 0, 0, 0, 0] = .err readPastEnd := by decide +kernel

def ecl10ReadErrs : List String := [eofErr, badSize, readPastEnd, badMagic, undecodable, notSorted]

theorem eofErr_mem_ecl10 : eofErr ∈ ecl10ReadErrs := by simp only [ecl10ReadErrs, List.mem_cons, true_or]

theorem badMagic_mem_ecl10 : badMagic ∈ ecl10ReadErrs := by simp only [ecl10ReadErrs, List.mem_cons, true_or, or_true]

theorem undecodable_mem_ecl10 : undecodable ∈ ecl10ReadErrs := by simp only [ecl10ReadErrs, List.mem_cons, true_or, or_true]

theorem notSorted_mem_ecl10 : notSorted ∈ ecl10ReadErrs := by simp only [ecl10ReadErrs, List.mem_cons, true_or, or_true]

theorem expectMagic_ends (m bs : Bytes) : Ends ecl10ReadErrs (fun r => bs.length = r.length + m.length) (expectMagic m bs) := by
  unfold expectMagic
  split
  · exact eofErr_mem_ecl10
  · next hb =>
    split
    · exact (rdBytes_len hb).1
    · exact badMagic_mem_ecl10

theorem readCStr1_len (bs s r : Bytes) (h : readCStr1 bs = some (s, r)) : bs.length = r.length + s.length + 1 := by
  fun_induction readCStr1 bs generalizing s r with
  | case1 => cases h
  | case2 => cases h; rfl
  | case3 b t hb s' r' h' ih => cases h; rw [List.length_cons, ih _ _ h']; rfl
  | case4 => cases h

/-- `readCStr1` is the generic model of `read_cstring_blockwise` (`Abi.readCStringBlockwise`, the one C15 uses)
at block size 1 -/
theorem readCStr1_blockwise : ∀ (bs acc : Bytes) (fuel : Nat), bs.length < fuel → (∀ x ∈ acc, x ≠ 0) →
    Abi.readCStringBlockwise 1 fuel acc bs =
      match readCStr1 bs with
      | some (s, r) => .ok (acc ++ s, r)
      | none => .err "unexpected EOF" := by
  intro bs
  induction bs with
  | nil =>
    intro acc fuel hf _
    cases fuel with
    | zero => exact absurd hf (Nat.not_lt_zero _)
    | succ n => simp [Abi.readCStringBlockwise, readCStr1]
  | cons b r ih =>
    intro acc fuel hf hacc
    cases fuel with
    | zero => exact absurd hf (Nat.not_lt_zero _)
    | succ n =>
      rw [Abi.readCStringBlockwise]
      simp only [List.length_cons, List.take_succ_cons, List.take_zero, List.drop_succ_cons, List.drop_zero]
      rw [if_neg (by decide), if_neg (Nat.not_lt.2 (Nat.le_add_left 1 r.length))]
      by_cases hb : b = 0
      · subst hb
        simp only [List.getLast?_append, List.getLast?_singleton, Option.some_or, readCStr1, if_true, List.append_nil]
        rw [if_pos (by decide), show acc ++ [0] = acc ++ Abi.zeros 1 from rfl,
          Abi.stripTrailingZeros_append_zeros acc 1 (Abi.contains_of_not_mem fun h => hacc 0 h rfl)]
      · have hne : ¬ (acc ++ [b]).getLast? = some 0 := by
          simp only [List.getLast?_append, List.getLast?_singleton, Option.some_or, Option.some.injEq]
          exact hb
        rw [if_neg (by simpa using hne)]
        have := ih (acc ++ [b]) n (Nat.lt_of_succ_lt_succ hf) (by
          intro x hx
          rcases List.mem_append.1 hx with h | h
          · exact hacc x h
          · simp only [List.mem_cons, List.not_mem_nil, or_false] at h; subst h; exact hb)
        rw [this]
        simp only [readCStr1, hb, if_false]
        cases readCStr1 r with
        | none => rfl
        | some p => simp

theorem readStrsAux_ends {α} (dec : Bytes → Option α) (k : Nat) (acc : List α) (n : Nat) (bs : Bytes) :
    Ends ecl10ReadErrs (fun p => p.1.length = acc.length + k ∧ bs.length + n = p.2.2.length + p.2.1 ∧ n + k ≤ p.2.1)
      (readStrsAux dec k acc n bs) := by
  fun_induction readStrsAux dec k acc n bs with
  | case1 => exact .ok (by simp)
  | case2 => exact eofErr_mem_ecl10
  | case3 => exact undecodable_mem_ecl10
  | case4 k acc n bs raw r h1 s hs ih =>
    refine ih.mono (fun _ h => h) fun p h => ?_
    have := readCStr1_len _ _ _ h1
    simp only [List.length_cons] at h
    omega

theorem readStringList_ends {α} (dec : Bytes → Option α) (count : Nat) (bs : Bytes) :
    Ends ecl10ReadErrs (fun p => p.1.length = count ∧ bs.length = p.2.2.length + p.2.1 ∧ count ≤ p.2.1)
      (readStringList dec count bs) := by
  unfold readStringList
  refine (readStrsAux_ends dec count [] 0 bs).step fun ⟨ss, n, r⟩ hq h1 => ?_
  rw [hq]; dsimp only
  split
  · exact eofErr_mem_ecl10
  · next h2 =>
    have := (rdBytes_len h2).1
    simp only [List.length_nil] at h1
    refine .ok ?_
    dsimp only
    omega

theorem readStringList_len {α} {dec : Bytes → Option α} {count : Nat} {bs : Bytes} {ss : List α} {n : Nat} {r : Bytes}
    (h : readStringList dec count bs = .ok (ss, n, r)) : ss.length = count ∧ bs.length = r.length + n ∧ count ≤ n :=
  (readStringList_ends dec count bs).of_ok h

theorem readInclude_ends {α} (dec : Bytes → Option α) (m bs : Bytes) :
    Ends ecl10ReadErrs (fun p => bs.length = p.2.2.length + p.2.1 ∧ p.1.length + m.length + 4 ≤ p.2.1) (readInclude dec m bs) := by
  unfold readInclude
  refine (expectMagic_ends m bs).step fun r1 hq h1 => ?_
  rw [hq]; dsimp only
  split
  · exact eofErr_mem_ecl10
  · next count r2 h2 =>
    have := rdU32_len h2
    refine (readStringList_ends dec count r2).step fun ⟨ss, n, r3⟩ hq h3 => ?_
    rw [hq]
    refine .ok ?_
    dsimp only at h3 ⊢
    omega

theorem readSubHeader_ends (bs : Bytes) : Ends ecl10ReadErrs (fun r => bs.length = r.length + 16) (readSubHeader bs) := by
  unfold readSubHeader
  refine (expectMagic_ends eclhMagic bs).step fun r1 hq (h1 : bs.length = r1.length + 4) => ?_
  rw [hq]; dsimp only
  split
  · exact eofErr_mem_ecl10
  · next h2 =>
    exact .ok (h1.trans (by rw [(rdU32s_len h2).1, Nat.add_assoc]))

/-- **one sub that was read lies between its offset and the next one, inside the file**: the header and
the instructions are exactly the `e - off` bytes in between -/
theorem readSub10_ends (file : Bytes) (off e : Nat) :
    Ends ecl10ReadErrs (fun is => off + 16 + sizeSum10 is = e ∧ e ≤ file.length) (readSub10 file off e) := by
  unfold readSub10
  refine .ite (fun _ => notSorted_mem_ecl10) fun _ => ?_
  refine (readSubHeader_ends (seek file off)).step fun r hq h1 => ?_
  rw [hq]
  refine (readInstrs10_ends (some e) (off + 16) r).mono (instrReadErrs_sub _) fun is h2 => ?_
  have h3 := h2.2 e rfl
  have h4 : (seek file off).length = file.length - off := List.length_drop ..
  omega

theorem readSub10_exact {file : Bytes} {off e : Nat} {is : List Instr10} (h : readSub10 file off e = .ok is) :
    off + 16 + sizeSum10 is = e ∧ e ≤ file.length := (readSub10_ends file off e).of_ok h

theorem readSubsAux_step (file : Bytes) (off e : Nat) (offs : List Nat) (name : Text) (names : List Text)
    (acc : List (Text × List Instr10)) :
    readSubsAux file (off :: e :: offs) (name :: names) acc =
      match readSub10 file off e with
      | .ok is => readSubsAux file (e :: offs) names (insertSub acc name is)
      | .err c => .err c
      | .panic p => .panic p := by
  rw [readSubsAux]
  rfl

theorem readSubsAux_nil_names (file : Bytes) (offs : List Nat) (acc : List (Text × List Instr10)) :
    readSubsAux file offs [] acc = .ok acc := by
  unfold readSubsAux
  split
  · rename_i heq; cases heq
  · rfl

/-- **every assertion and the position subtraction of `read` are dead code** (stated on the values
the model computes at those three places): the reader is where it has just been moved to, or where
the consumed bytes put it -/
theorem ecl10_asserts_dead (includeOffset includeLength c1 c2 : Nat) :
    (if decide (36 ≠ includeOffset) then includeOffset else 36) = includeOffset ∧
    ¬ (includeOffset + c1 + c2 < includeOffset) ∧
    (if decide (includeOffset + c1 + c2 - includeOffset ≠ includeLength) then includeOffset + includeLength else includeOffset + c1 + c2)
      = includeOffset + includeLength := by
  refine ⟨?_, by omega, ?_⟩
  · by_cases h : 36 = includeOffset <;> simp [h]
  · by_cases h : includeOffset + c1 + c2 - includeOffset = includeLength
    · simp only [h, ne_eq, not_true_eq_false, decide_false, Bool.false_eq_true, if_false]; omega
    · simp [h]

/-- what a sub costs: its 16-byte header and its instructions as stored -/
def subCost (s : Text × List Instr10) : Nat := 16 + sizeSum10 s.2

def subsCost (l : List (Text × List Instr10)) : Nat := (l.map subCost).sum

theorem subsCost_append (a b : List (Text × List Instr10)) : subsCost (a ++ b) = subsCost a + subsCost b := by
  simp [subsCost]

theorem subsCost_cons (x : Text × List Instr10) (xs : List (Text × List Instr10)) : subsCost (x :: xs) = subCost x + subsCost xs := by
  simp [subsCost]

theorem replace_absent (name : Text) (is : List Instr10) : ∀ (xs : List (Text × List Instr10)), name ∉ xs.map (·.1) →
    xs.map (fun x => if x.1 == name then (x.1, is) else x) = xs := by
  intro xs
  induction xs with
  | nil => intro _; rfl
  | cons x xs ih =>
    intro h
    simp only [List.map_cons, List.mem_cons, not_or] at h
    have hx : (x.1 == name) = false := by
      apply Bool.eq_false_iff.2
      intro hb
      exact h.1 (beq_iff_eq.1 hb).symm
    simp only [List.map_cons, hx, Bool.false_eq_true, if_false, ih h.2]

theorem replace_keys (name : Text) (is : List Instr10) (xs : List (Text × List Instr10)) :
    (xs.map (fun x => if x.1 == name then (x.1, is) else x)).map (·.1) = xs.map (·.1) := by
  induction xs with
  | nil => rfl
  | cons x xs ih =>
    simp only [List.map_cons, ih]
    split <;> rfl

/-- `IndexMap::insert` keeps the keys distinct -/
theorem insertSub_nodup (acc : List (Text × List Instr10)) (name : Text) (is : List Instr10) (h : (acc.map (·.1)).Nodup) :
    ((insertSub acc name is).map (·.1)).Nodup := by
  unfold insertSub
  split
  · rw [replace_keys]; exact h
  · rename_i hany
    rw [List.map_append, List.nodup_append]
    refine ⟨h, by simp, ?_⟩
    intro a ha b hb
    simp only [List.map_cons, List.map_nil, List.mem_cons, List.not_mem_nil, or_false] at hb
    subst hb
    intro hab
    subst hab
    apply hany
    obtain ⟨x, hx, hxa⟩ := List.mem_map.1 ha
    exact List.any_eq_true.2 ⟨x, hx, by simp [hxa]⟩

/-- with distinct keys an insertion adds at most the new value (a replaced value is dropped) -/
theorem subsCost_insertSub (acc : List (Text × List Instr10)) (name : Text) (is : List Instr10) (h : (acc.map (·.1)).Nodup) :
    subsCost (insertSub acc name is) ≤ subsCost acc + (16 + sizeSum10 is) := by
  unfold insertSub
  split
  · rename_i hany
    clear hany
    induction acc with
    | nil => simp [subsCost]
    | cons x xs ih =>
      simp only [List.map_cons, List.nodup_cons] at h
      by_cases hx : (x.1 == name) = true
      · have hn : name ∉ xs.map (·.1) := by rw [← beq_iff_eq.1 hx]; exact h.1
        simp only [List.map_cons, hx, if_true, replace_absent name is xs hn, subsCost_cons, subCost]
        omega
      · have := ih h.2
        simp only [List.map_cons, hx, Bool.false_eq_true, if_false, subsCost_cons] at this ⊢
        omega
  · simp [subsCost, subCost]

theorem subsCost_ge (l : List (Text × List Instr10)) : 16 * l.length ≤ subsCost l := by
  induction l with
  | nil => simp [subsCost]
  | cons x xs ih =>
    rw [subsCost_cons, List.length_cons, Nat.mul_succ, Nat.add_comm]
    exact Nat.add_le_add (Nat.le_add_right 16 _) ih

theorem readSubsAux_ends (file : Bytes) (names : List Text) (offs : List Nat) (acc : List (Text × List Instr10))
    (hn : (acc.map (·.1)).Nodup) :
    Ends ecl10ReadErrs (fun res => (res.map (·.1)).Nodup ∧ subsCost res ≤ subsCost acc + (file.length - offs.headD 0))
      (readSubsAux file offs names acc) := by
  fun_induction readSubsAux file offs names acc with
  | case1 off e offs name names acc is his ih =>
    obtain ⟨h1, h2⟩ := (readSub10_ends file off e).of_ok his
    refine (ih (insertSub_nodup acc name is hn)).mono (fun _ h => h) fun res hc => ?_
    have := subsCost_insertSub acc name is hn
    simp only [List.headD_cons] at hc ⊢
    exact ⟨hc.1, by omega⟩
  | case2 off e offs name names acc c hq => exact (readSub10_ends file off e).pass_err hq
  | case3 off e offs name names acc p hq => exact (readSub10_ends file off e).panic_of hq
  | case4 => exact .ok ⟨hn, Nat.le_add_right _ _⟩

/-- **what the subs that were read cost**: distinct names, and no more than the bytes between the first offset and the end of
the file.  The reason is that they tile that part of the file: every sub ends exactly at the next offset of the table
(`readSub10_exact`), the last one at the end of the file (which `read` pushes as the last offset: `offs` is never empty). -/
theorem readSubsAux_tiles (file : Bytes) : ∀ (names : List Text) (offs : List Nat) (acc res : List (Text × List Instr10)),
    readSubsAux file offs names acc = .ok res → (acc.map (·.1)).Nodup →
      (res.map (·.1)).Nodup ∧ subsCost res ≤ subsCost acc + (file.length - offs.headD 0) :=
  fun names offs acc _ h hn => (readSubsAux_ends file names offs acc hn).of_ok h

theorem readEcl10Subs_ends (sj : Abi.Sjis) (file : Bytes) (n : Nat) (r : Bytes) :
    Ends ecl10ReadErrs (fun subs => subsCost subs ≤ file.length) (readEcl10Subs sj file n r) := by
  unfold readEcl10Subs
  split
  · exact eofErr_mem_ecl10
  · next r1 _ =>
    refine (readStringList_ends sj.dec n r1).step fun _ hq _ => ?_
    rw [hq]
    refine (readSubsAux_ends file _ _ [] List.nodup_nil).mono (fun _ h => h) fun res hc => ?_
    exact Nat.le_trans hc.2 (Nat.le_trans (Nat.le_of_eq (Nat.zero_add _)) (Nat.sub_le _ _))

/-- the middle of `read` without its three dead arms -/
theorem readEcl10Includes_eq (sj : Abi.Sjis) (file : Bytes) (il io n : Nat) (r : Bytes) :
    readEcl10Includes sj file il io n r =
      match readInclude sj.dec animMagic (if 36 ≠ io then seek file io else r) with
      | .err c => .err c
      | .panic p => .panic p
      | .ok (anim, c1, r) =>
      match readInclude sj.dec ecliMagic r with
      | .err c => .err c
      | .panic p => .panic p
      | .ok (ecli, c2, r) =>
      match readEcl10Subs sj file n (if io + c1 + c2 - io ≠ il then seek file (io + il) else r) with
      | .err c => .err c
      | .panic p => .panic p
      | .ok subs => .ok { anim, ecli, subs } := by
  have hd := fun c1 c2 => ecl10_asserts_dead io il c1 c2
  simp only [decide_eq_true_eq] at hd
  unfold readEcl10Includes
  simp only [decide_eq_true_eq, (hd 0 0).1, fun c1 c2 => (hd c1 c2).2.1, fun c1 c2 => (hd c1 c2).2.2, ne_eq, not_true_eq_false,
    if_false]
  rfl

theorem readEcl10Includes_ends (sj : Abi.Sjis) (file : Bytes) (il io n : Nat) (r : Bytes) (hr : r.length ≤ file.length) :
    Ends ecl10ReadErrs (fun f => f.anim.length + f.ecli.length + 16 ≤ file.length ∧ subsCost f.subs ≤ file.length)
      (readEcl10Includes sj file il io n r) := by
  rw [readEcl10Includes_eq]
  refine (readInclude_ends sj.dec animMagic (if 36 ≠ io then seek file io else r)).step fun ⟨anim, c1, r1⟩ hq h1 => ?_
  rw [hq]; dsimp only
  refine (readInclude_ends sj.dec ecliMagic r1).step fun ⟨ecli, c2, r2⟩ hq h2 => ?_
  rw [hq]; dsimp only
  refine (readEcl10Subs_ends sj file n (if io + c1 + c2 - io ≠ il then seek file (io + il) else r2)).step fun subs hq hs => ?_
  rw [hq]
  refine .ok ⟨?_, hs⟩
  have h4 : (if 36 ≠ io then seek file io else r).length ≤ file.length := by
    split
    · exact seek_length_le _ _
    · exact hr
  simp only [animMagic, ecliMagic, List.length_cons, List.length_nil] at h1 h2
  show anim.length + ecli.length + 16 ≤ file.length
  omega

theorem ecl10_read_ends (sj : Abi.Sjis) (bs : Bytes) :
    Ends ecl10ReadErrs (fun f => f.anim.length + f.ecli.length + 16 ≤ bs.length ∧ subsCost f.subs ≤ bs.length) (readEcl10 sj bs) := by
  unfold readEcl10
  refine (expectMagic_ends scptMagic bs).step fun r0 hq h0 => ?_
  rw [hq]; dsimp only
  refine .int rdI16_takes fun _ r1 _ l1 => ?_
  refine .nat rdU16_takes fun il r2 _ l2 => ?_
  refine .nat rdU32_takes fun io r3 _ l3 => ?_
  refine .nat rdU32_takes fun _ r4 _ l4 => ?_
  refine .nat rdU32_takes fun n r5 _ l5 => ?_
  refine .u32s fun _ r6 l6 _ => readEcl10Includes_ends sj bs _ _ _ r6 ?_
  rw [h0, l1, l2, l3, l4, l5, l6]
  simp only [Nat.add_assoc]
  exact Nat.le_add_right _ _

/-- **stack ECL: `read` ends in a file or a diagnostic for EVERY byte string and every text codec.** -/
theorem ecl10_read_no_panic (sj : Abi.Sjis) (bs : Bytes) : (readEcl10 sj bs).isPanic = false := (ecl10_read_ends sj bs).isPanic

theorem ecl10_read_err (sj : Abi.Sjis) (bs : Bytes) : ErrIn ecl10ReadErrs (readEcl10 sj bs) := (ecl10_read_ends sj bs).errIn

/-- **stack ECL: every byte string gives a file or one of six diagnostics** (unexpected EOF, bad
instruction size, script read past its end, wrong magic, undecodable string, unsorted sub offsets) -
in particular never the internal "fuel" diagnostic. -/
theorem ecl10_read_total (sj : Abi.Sjis) (bs : Bytes) :
    (∃ f, readEcl10 sj bs = .ok f) ∨ ∃ c ∈ ecl10ReadErrs, readEcl10 sj bs = .err c :=
  (ecl10_read_ends sj bs).total

/-- **stack ECL: what `read` builds is bounded by the input, linearly** - one entry per string of the
include lists (each took at least one byte), and ALL subs together (16 bytes of header each and the
instructions as stored) no larger than the file: no offset-table amplification in this format. -/
theorem ecl10_read_alloc_bound (sj : Abi.Sjis) (bs : Bytes) (f : Ecl10File) (h : readEcl10 sj bs = .ok f) :
    f.anim.length + f.ecli.length + 16 ≤ bs.length ∧ subsCost f.subs ≤ bs.length ∧ 16 * f.subs.length ≤ bs.length := by
  obtain ⟨ha, hb⟩ := (ecl10_read_ends sj bs).of_ok h
  exact ⟨ha, hb, Nat.le_trans (subsCost_ge f.subs) hb⟩

/-- non-vacuity: a file with two subs is read -/
def ecl10Sample : Bytes :=
  [83, 67, 80, 84, 1, 0, 24, 0, 36, 0, 0, 0, 0, 0, 0, 0, 2, 0, 0, 0, 0, 0, 0, 0, 0, 0, 0, 0, 0, 0, 0, 0, 0, 0, 0, 0,
   65, 78, 73, 77, 1, 0, 0, 0, 97, 46, 97, 110, 109, 0, 0, 0, 69, 67, 76, 73, 0, 0, 0, 0,
   76, 0, 0, 0, 112, 0, 0, 0, 109, 97, 105, 110, 0, 115, 49, 0,
   69, 67, 76, 72, 16, 0, 0, 0, 0, 0, 0, 0, 0, 0, 0, 0, 5, 0, 0, 0, 10, 0, 20, 0, 3, 0, 255, 5, 2, 0, 0, 0, 1, 0, 0, 0,
   69, 67, 76, 72, 16, 0, 0, 0, 0, 0, 0, 0, 0, 0, 0, 0]

def asciiSjis : Abi.Sjis :=
  { enc := fun s => if s.all (fun c => c.toNat < 128) then some (s.map fun c => UInt8.ofNat c.toNat) else none,
    dec := fun b => if b.all (· < 128) then some (b.map fun x => Char.ofNat x.toNat) else none }

set_option maxRecDepth 100000 in
example : readEcl10 asciiSjis ecl10Sample = .ok
    { anim := ["a.anm".toList], ecli := [],
      subs := [("main".toList, [{ time := 5, opcode := 10, mask := 3, difficulty := 255, argCount := 5, pop := 2, blob := [1, 0, 0, 0] }]),
               ("s1".toList, [])] } := by decide +kernel

end TruthModel.C16
