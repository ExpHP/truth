import TruthModel.Lemmas.LowerStmtSound
import TruthModel.Lemmas.BodySim
import TruthModel.Lemmas.RegRename
/-
C02 - compiling expressions and statements preserves what the script does: whole flat bodies, the composition with
register assignment (C05), runs that do not stop.

The model has two expression compilers, `Model/LowerJumps.lean` (labels, jumps, ternaries; the one compared with the real
`Lowerer`) and its straight-line restriction `Model/Lower.lean`.  Here every statement is simulated by its fragment
(`stmtSim_intT`: from a target state that agrees with the source machine only below the INITIAL temp counter, carrying
`IntStore` along), and `Lower.body_sim` glues the fragments into whole bodies, also with jumps that go backwards: source
machine `runJS` (AstVm::_run on the flat list), target `execT` on `lowerBodyJ body`.

The proved fragment: integer expressions (literals, registers and locals read as `int`, `-x` `!x` `~x`, all 19 binary
operators, ternaries at any depth) from stores holding integers.  NOT proved: `InitOK` for the fragments the compiler emits
with labels of its own (it stays a hypothesis of `lowerBody_assigned_sound`); floats, casts, difficulty switches (`C02_full`,
`lowerCondJump_full`, `lowerTernary_full` stay as stated).  The hypothesis `BodyWF.jumpTimes` is necessary: after
`goto L @ t` with `t` later than the time label of `L`, a compiler-generated label sets the script time back (open finding
`script-time-ahead-of-time-labels-reset-by-compiler-label` of known_findings.json; the implementation does the same).
-/
namespace TruthModel.C02
open TruthModel TruthModel.Regs TruthModel.Lower

/-- the source machine of `Model/BodySem.lean` runs the statements `runStmt` runs -/
theorem runStmtS_eq (F : FloatOps) (diff : Nat) (m : Machine) (s : SStmt) : runStmtS F diff m s = runStmt F diff m s := by
  cases s with
  | decl d ty init => cases init <;> rfl
  | _ => rfl

/-- the statements of the proved fragment, with `IntT` expressions (ternaries anywhere); `g0` is the temp counter the body
starts with -/
def StmtOKT (g0 : Nat) : JSStmt → Prop
  | .base (.decl _ _ none) => True
  | .base (.decl d ty (some e)) => ty = .int ∧ d < g0 ∧ IntT e ∧ belowT g0 e
  | .base (.assign _ v e) => v.readTy = .int ∧ below g0 v.name ∧ IntT e ∧ belowT g0 e
  | .base (.call _ args) => ∀ e ∈ args, IntT e ∧ belowT g0 e
  | .base (.scopeEnd _) => True
  | .base .other => False
  | .label _ => True
  | .goto _ => True
  | .condGoto _ c _ => CondOKT g0 c ∧ ∀ v k, c = .predec v k → below g0 v.name
  | .wait _ => True

theorem exitOf_if (b : Bool) (g : Goto) : Lower.exitOf (if b then some g else none) = exitIf b g := by
  cases b <;> rfl

/-- **stmtSim_intT**: every statement of `StmtOKT` is simulated by its fragment: the per-statement theorems of
`Lemmas/LowerStmtSound.lean`, from a target state that agrees with the source machine below the INITIAL temp counter `g0` -/
theorem stmtSim_intT (F : FloatOps) (I : JIntrinsics) (db ab diff mask g0 lg0 : Nat) (hm : maskOn mask diff = true)
    {st : JSStmt} (hok : StmtOKT g0 st) (htl : ∀ tg, jumpOfS st = some tg → tg.l < lg0)
    {g lg : Nat} {t : Int} {code : List JStmt} {g' lg' : Nat} (hg : g0 ≤ g) (hlg : lg0 ≤ lg)
    (h : lowerStmtJ I db ab g lg t mask st = .ok (code, g', lg')) :
    StmtSim F diff (below g0) IntStore st t code := by
  intro j m m' fl hinv htj hst hlog htm hrun
  cases st with
  | base s =>
    simp only [runStmtJ] at hrun
    rcases hs : runStmtS F diff m s with m1 | x | x <;> simp only [hs, Outcome.ok.injEq, Prod.mk.injEq, reduceCtorEq] at hrun
    obtain ⟨rfl, rfl⟩ := hrun
    cases s with
    | decl d ty init =>
      cases init with
      | none =>
        cases h
        cases hs
        exact ⟨j, rfl, hinv, hst, hlog, htj⟩
      | some e =>
        obtain ⟨rfl, hd, hi, hb⟩ := hok
        simp only [lowerStmtJ] at h
        rcases h1 : lowerAssignJ I db ab g lg t mask ⟨.loc d, none, .int⟩ .set e with ⟨c, g1, lg1⟩ | x | x <;>
          simp only [h1, reduceCtorEq] at h
        cases h
        exact lowerAssignT_sound (v := ⟨.loc d, none, .int⟩) (op := .set) (code := c) hm hg hinv htj hst hlog rfl hd hi hb hs h1
    | assign op v e =>
      obtain ⟨hv, hvb, hi, hb⟩ := hok
      exact lowerAssignT_sound hm hg hinv htj hst hlog hv hvb hi hb hs h
    | call opcode args =>
      have hi : ∀ e ∈ args, IntT e := fun e he => (hok e he).1
      have hb : ∀ e ∈ args, belowT g0 e := fun e he => (hok e he).2
      exact lowerCallT_sound hm hg hinv htj hst hlog hi hb hs h
    | scopeEnd d =>
      cases h
      cases hs
      exact ⟨j, rfl, hinv, hst, hlog, htj⟩
    | other => exact hok.elim
  | label _ | wait _ =>
    cases h
    cases hrun
    exact ⟨j, rfl, hinv, hst, hlog, htj⟩
  | goto tg =>
    simp only [lowerStmtJ] at h
    rcases hj : lowerJmp I mask tg with c | x | x <;> simp only [hj, Outcome.ok.injEq, Prod.mk.injEq, reduceCtorEq] at h
    cases lowerJmp_ok hj
    obtain ⟨rfl, _, _⟩ := h
    cases hrun
    exact ⟨j, by simp [execFrag, stepJ, hm, Lower.exitOf], hinv, hst, hlog, htj⟩
  | condGoto kw c tg =>
    obtain ⟨hc, hcv⟩ := hok
    simp only [lowerStmtJ] at h
    simp only [runStmtJ] at hrun
    rcases hev : evalCond F diff m.store c with ⟨taken, τ'⟩ | x | x <;>
      simp only [hev, Outcome.ok.injEq, Prod.mk.injEq, reduceCtorEq] at hrun
    obtain ⟨rfl, rfl⟩ := hrun
    obtain ⟨s', hex, hint', hst', hlog', htime'⟩ :=
      lowerCondGoto_sound hm hg hc hinv htj
        (Nat.lt_of_lt_of_le (htl tg rfl) hlg) hst (fun v k hvk => hst _ (hcv v k hvk)) hev h
    exact ⟨s', by rw [exitOf_if]; exact hex, hint', hst', hlog'.trans hlog, htime'⟩

theorem bodySim_intT (F : FloatOps) (I : JIntrinsics) (db ab diff mask g0 lg0 : Nat) {t0 : Int} {body : List JSStmt}
    (hm : maskOn mask diff = true) (hok : ∀ st ∈ body, StmtOKT g0 st) (wf : BodyWF lg0 t0 body) :
    BodySim F diff (below g0) IntStore I db ab mask g0 lg0 body :=
  fun st hst _ _ _ _ _ _ hg hlg h =>
    stmtSim_intT F I db ab diff mask g0 lg0 hm (hok st hst) (fun tg htg => wf.targetsLt st hst tg htg) hg hlg h

/-- right-hand sides of the proved fragment: an integer expression, or (for `=`) one ternary over integer expressions -/
def RhsOK (g0 : Nat) (op : AssignOp) (e : SExpr) : Prop :=
  (IntOnly e ∧ exprBelow g0 e) ∨
  (op = .set ∧ ∃ c l r, e = .ternary c l r ∧ (IntOnly c ∧ IntOnly l ∧ IntOnly r) ∧
    (exprBelow g0 c ∧ exprBelow g0 l ∧ exprBelow g0 r))

/-- the statements of the proved fragment: integer destinations below the temp counter, integer expressions over
variables below the temp counter (`IntOnly`, `exprBelow`), one ternary on the right of `=`; every condition of
`CondOK`, the counter of a counting jump below the temp counter; labels, gotos, time labels, scope ends -/
def StmtOK (g0 : Nat) : JSStmt → Prop
  | .base (.decl _ _ none) => True
  | .base (.decl d ty (some e)) => ty = .int ∧ d < g0 ∧ RhsOK g0 .set e
  | .base (.assign op v e) => v.readTy = .int ∧ below g0 v.name ∧ RhsOK g0 op e
  | .base (.call _ args) => ∀ e ∈ args, IntOnly e ∧ exprBelow g0 e
  | .base (.scopeEnd _) => True
  | .base .other => False
  | .label _ => True
  | .goto _ => True
  | .condGoto _ c _ => CondOK g0 c ∧ ∀ v k, c = .predec v k → below g0 v.name
  | .wait _ => True

theorem rhsOK_intT {g0 : Nat} {op : AssignOp} {e : SExpr} (h : RhsOK g0 op e) : IntT e ∧ belowT g0 e := by
  rcases h with ⟨hi, hb⟩ | ⟨_, c, l, r, rfl, ⟨hic, hil, hir⟩, ⟨hbc, hbl, hbr⟩⟩
  · exact ⟨intT_of_intOnly hi, belowT_of_exprBelow hb⟩
  · exact ⟨⟨intT_of_intOnly hic, intT_of_intOnly hil, intT_of_intOnly hir⟩,
      ⟨belowT_of_exprBelow hbc, belowT_of_exprBelow hbl, belowT_of_exprBelow hbr⟩⟩

theorem stmtOKT_of_stmtOK {g0 : Nat} : ∀ {st : JSStmt}, StmtOK g0 st → StmtOKT g0 st
  | .base (.decl _ _ (some _)), h | .base (.assign _ _ _), h => ⟨h.1, h.2.1, rhsOK_intT h.2.2⟩
  | .base (.call _ _), h => fun e he => ⟨intT_of_intOnly (h e he).1, belowT_of_exprBelow (h e he).2⟩
  | .condGoto _ _ _, h => ⟨condOKT_of_condOK h.1, h.2⟩
  | .base .other, h => h.elim
  | .base (.decl _ _ none), _ | .base (.scopeEnd _), _ | .label _, _ | .goto _, _ | .wait _, _ => trivial

theorem stmtSim_int (F : FloatOps) (I : JIntrinsics) (db ab diff mask g0 lg0 : Nat) (hm : maskOn mask diff = true)
    {st : JSStmt} (hok : StmtOK g0 st) (htl : ∀ tg, jumpOfS st = some tg → tg.l < lg0)
    {g lg : Nat} {t : Int} {code : List JStmt} {g' lg' : Nat} (hg : g0 ≤ g) (hlg : lg0 ≤ lg)
    (h : lowerStmtJ I db ab g lg t mask st = .ok (code, g', lg')) :
    StmtSim F diff (below g0) IntStore st t code :=
  stmtSim_intT F I db ab diff mask g0 lg0 hm (stmtOKT_of_stmtOK hok) htl hg hlg h

/-- **lowerBodyT_sound** (C02 for whole flat bodies, before register assignment).  `body` is a flat list of source
statements - declarations, `=` and the eleven assign-ops, instruction calls with complex arguments, labels, `goto`,
`if|unless (c) goto L [@ t]` for every integer condition, counting jumps, relative time labels, scope ends; integer
expressions with ternaries at any depth (`StmtOKT`); labels defined once, jumps to labels below the compiler's label counter, time labels that do not go
backwards, explicit jump times not after the time of the target label (`BodyWF`).  For EVERY intrinsic table in which
the body compiles, every difficulty the statement mask is on, every fuel and every pair of initial states related by
`SimRel` (same observable variables, integer store, same time / real time once waited for the first statement):
if the source machine `runJS` (AstVm on the source) terminates, then the timed program-counter machine `execT` on
`lowerBodyJ body` (AstVm on the raised compiled script) terminates, having logged the same calls - opcode, argument
values, and the same `real_time` stamp for every call - with every variable below the temp counter (every register,
every user local) holding the same value, and with the same `time` and `real_time` once it has waited for the time
at the end of the body (the compiled script never waits for a trailing time label). -/
theorem lowerBodyT_sound (F : FloatOps) (I : JIntrinsics) (db ab diff mask g0 lg0 : Nat) (t0 : Int) (body : List JSStmt)
    (P : List (Int × JStmt)) (hm : maskOn mask diff = true) (hok : ∀ st ∈ body, StmtOKT g0 st) (wf : BodyWF lg0 t0 body)
    (hL : lowerBodyJ I db ab mask g0 lg0 t0 body = .ok P)
    (S0 : VM) (U0 : TVM) (hinit : SimRel (below g0) IntStore (timeAt t0 body 0) S0 U0)
    (fuel : Nat) (Sf : VM) (hrun : runJS F diff (stampBody t0 body) fuel 0 S0 = .ok Sf) :
    ∃ fuel' Uf, execT F diff P fuel' 0 U0 = .ok Uf ∧ SimRel (below g0) IntStore (endTime t0 body) Sf Uf := by
  obtain ⟨Uf, hreach, hR⟩ := body_sim hL wf (bodySim_intT F I db ab diff mask g0 lg0 hm hok wf) fuel 0 S0 U0 Sf hrun hinit
  rw [fragPos_zero] at hreach
  obtain ⟨fuel', hf⟩ := execT_of_reachT hreach
  exact ⟨fuel', Uf, hf, hR⟩

/-- **lowerBody_sound**: `lowerBodyT_sound` for bodies of `StmtOK` statements (integer expressions, one ternary on the
right of `=`) -/
theorem lowerBody_sound (F : FloatOps) (I : JIntrinsics) (db ab diff mask g0 lg0 : Nat) (t0 : Int) (body : List JSStmt)
    (P : List (Int × JStmt)) (hm : maskOn mask diff = true) (hok : ∀ st ∈ body, StmtOK g0 st) (wf : BodyWF lg0 t0 body)
    (hL : lowerBodyJ I db ab mask g0 lg0 t0 body = .ok P)
    (S0 : VM) (U0 : TVM) (hinit : SimRel (below g0) IntStore (timeAt t0 body 0) S0 U0)
    (fuel : Nat) (Sf : VM) (hrun : runJS F diff (stampBody t0 body) fuel 0 S0 = .ok Sf) :
    ∃ fuel' Uf, execT F diff P fuel' 0 U0 = .ok Uf ∧ SimRel (below g0) IntStore (endTime t0 body) Sf Uf :=
  lowerBodyT_sound F I db ab diff mask g0 lg0 t0 body P hm (fun st hst => stmtOKT_of_stmtOK (hok st hst)) wf hL S0 U0 hinit fuel Sf hrun

/-- the usual start: both machines at time 0 with empty logs from the same store of integers -/
theorem simRel_init (g0 : Nat) (T : Int) (σ : Store) (hσ : IntStore σ) (hT : 0 ≤ T) :
    SimRel (below g0) IntStore T ⟨⟨σ, [], 0⟩, 0, []⟩ ⟨⟨⟨σ, [], 0⟩, 0, []⟩, none⟩ :=
  ⟨rfl, rfl, rfl, rfl, fun _ _ => rfl, hσ, hT⟩

/-- `lowerBody_sound` from the usual start, spelled out: same log, same stamps, same variables below the temp
counter; same time and real time after waiting for the end of the body -/
theorem lowerBody_sound_init (F : FloatOps) (I : JIntrinsics) (db ab diff mask g0 lg0 : Nat) (body : List JSStmt)
    (P : List (Int × JStmt)) (hm : maskOn mask diff = true) (hok : ∀ st ∈ body, StmtOK g0 st) (wf : BodyWF lg0 0 body)
    (hL : lowerBodyJ I db ab mask g0 lg0 0 body = .ok P) (σ : Store) (hσ : IntStore σ)
    (fuel : Nat) (Sf : VM) (hrun : runJS F diff (stampBody 0 body) fuel 0 ⟨⟨σ, [], 0⟩, 0, []⟩ = .ok Sf) :
    ∃ fuel' Uf, execT F diff P fuel' 0 ⟨⟨⟨σ, [], 0⟩, 0, []⟩, none⟩ = .ok Uf ∧
      Uf.vm.m.log = Sf.m.log ∧ Uf.vm.stamps = Sf.stamps ∧ (∀ x, below g0 x → Uf.vm.m.store x = Sf.m.store x) ∧
      (Uf.vm.waitTo (endTime 0 body)).m.time = (Sf.waitTo (endTime 0 body)).m.time ∧
      (Uf.vm.waitTo (endTime 0 body)).real = (Sf.waitTo (endTime 0 body)).real := by
  obtain ⟨fuel', Uf, hf, hR⟩ := lowerBody_sound F I db ab diff mask g0 lg0 0 body P hm hok wf hL _ _
    (simRel_init g0 _ σ hσ (le_timeAt body 0 0 wf.waits)) fuel Sf hrun
  exact ⟨fuel', Uf, hf, hR.log, hR.stamps, hR.store, hR.time, hR.real⟩


/-! ### the hypotheses of `lowerBody_sound` are satisfiable: a counting loop that jumps back in time -/

/-- `BodyWF` as a computation, for concrete bodies -/
def bodyWFb (lg0 : Nat) (t0 : Int) (body : List JSStmt) : Bool :=
  decide (userLabels body).Nodup && (userLabels body).all (· < lg0) &&
  body.all (fun st => match jumpOfS st with
    | some g => decide (g.l < lg0) && (match g.time, findLabelS (stampBody t0 body) g.l 0 with
      | some x, some (_, tl) => decide (x ≤ tl)
      | _, _ => true)
    | none => true) &&
  body.all (fun st => match st with
    | .wait n => decide (0 ≤ n)
    | _ => true)

theorem bodyWF_of_check {lg0 : Nat} {t0 : Int} {body : List JSStmt} (h : bodyWFb lg0 t0 body = true) : BodyWF lg0 t0 body := by
  simp only [bodyWFb, Bool.and_eq_true, List.all_eq_true, decide_eq_true_eq] at h
  obtain ⟨⟨⟨h1, h2⟩, h3⟩, h4⟩ := h
  refine ⟨h1, h2, ?_, ?_, ?_⟩
  · intro st hst g hg
    have := h3 st hst
    simp only [hg, Bool.and_eq_true, decide_eq_true_eq] at this
    exact this.1
  · intro n hn
    simpa using h4 _ hn
  · intro st hst g x hg hx i tl hf
    have := h3 st hst
    simp only [hg, hx, hf, Bool.and_eq_true, decide_eq_true_eq] at this
    exact this.2

/-- `A = 3; lab0: ins_200(A + B * -(A + 1)); +5: if (--A > 0) goto lab0 @ 0; B = (A == 0) ? B - 1 : 9; ins_201(B);` -/
def sampleBody : List JSStmt :=
  [.base (.assign .set rA (.litI 3)), .label 0, .base (.call 200 [sampleExpr]), .wait 5,
   .condGoto .kif (.predec rA .gt) ⟨0, some 0⟩,
   .base (.assign .set rB (.ternary (.binop .eq (.var rA) (.litI 0)) (.binop .sub (.var rB) (.litI 1)) (.litI 9))),
   .base (.call 201 [.var rB])]

theorem sampleBody_ok : ∀ st ∈ sampleBody, StmtOK 100 st := by
  intro st hst
  simp only [sampleBody, List.mem_cons, List.not_mem_nil, or_false] at hst
  rcases hst with rfl | rfl | rfl | rfl | rfl | rfl | rfl
  · exact ⟨rfl, trivial, Or.inl ⟨trivial, trivial⟩⟩
  · trivial
  · exact List.forall_mem_singleton.mpr ⟨sampleExpr_int, sampleExpr_below⟩
  · trivial
  · exact ⟨rfl, fun v k h => by cases h; trivial⟩
  · exact ⟨rfl, trivial, Or.inr ⟨rfl, _, _, _, rfl, by simp [IntOnly, rA, rB, VarRef.readTy], by simp [exprBelow, below, rA, rB]⟩⟩
  · exact List.forall_mem_singleton.mpr ⟨rfl, trivial⟩

theorem sampleBody_wf : BodyWF 1000 0 sampleBody := bodyWF_of_check (by decide +kernel)

def bodyLen : Outcome (List (Int × JStmt)) → Option Nat
  | .ok P => some P.length
  | _ => none

theorem ok_of_bodyLen {o : Outcome (List (Int × JStmt))} {n : Nat} (h : bodyLen o = some n) : ∃ P, o = .ok P := by
  cases o with
  | ok P => exact ⟨P, rfl⟩
  | _ => cases h

/-- the body compiles under both tables (native jumps / the cmp + jmp pair with fallback arithmetic) -/
theorem sampleBody_lowers : bodyLen (lowerBodyJ jTwoPart 255 0 255 100 1000 0 sampleBody) = some 18 := by decide +kernel
example : bodyLen (lowerBodyJ jNative 255 0 255 100 1000 0 sampleBody) = some 17 := by decide +kernel

def runLog : Outcome VM → Option (List (Nat × List Value) × List Int × Int × Int)
  | .ok s => some (s.m.log, s.stamps, s.m.time, s.real)
  | _ => none

theorem ok_of_runLog {o : Outcome VM} {r} (h : runLog o = some r) : ∃ S, o = .ok S ∧ (S.m.log, S.stamps, S.m.time, S.real) = r := by
  cases o with
  | ok S => exact ⟨S, rfl, Option.some.inj h⟩
  | _ => cases h

/-- the source run terminates: three calls of ins_200 at real times 0, 5, 10 (the jump goes back to time 0, the real
time does not), then ins_201(8) -/
theorem sampleBody_runs : runLog (runJS someFloats 0 (stampBody 0 sampleBody) 40 0 ⟨⟨fun _ => .int 7, [], 0⟩, 0, []⟩) =
    some ([(200, [.int (-25)]), (200, [.int (-19)]), (200, [.int (-13)]), (201, [.int 6])], [0, 5, 10, 15], 5, 15) := by
  decide +kernel

/-- `lowerBody_sound` applied: the compiled loop logs the same four calls at the same real times -/
example : ∃ P fuel' Uf, lowerBodyJ jTwoPart 255 0 255 100 1000 0 sampleBody = .ok P ∧
    execT someFloats 0 P fuel' 0 ⟨⟨⟨fun _ => .int 7, [], 0⟩, 0, []⟩, none⟩ = .ok Uf ∧
    Uf.vm.m.log = [(200, [.int (-25)]), (200, [.int (-19)]), (200, [.int (-13)]), (201, [.int 6])] ∧
    Uf.vm.stamps = [0, 5, 10, 15] := by
  obtain ⟨P, hL⟩ := ok_of_bodyLen sampleBody_lowers
  obtain ⟨Sf, hr, hrun⟩ := ok_of_runLog sampleBody_runs
  simp only [Prod.mk.injEq] at hrun
  obtain ⟨fuel', Uf, hf, hlog, hstamps, _⟩ := lowerBody_sound_init someFloats jTwoPart 255 0 0 255 100 1000 sampleBody P
    (by decide) sampleBody_ok sampleBody_wf hL (fun _ => .int 7) (fun _ => ⟨7, rfl⟩) 40 Sf hr
  exact ⟨P, fuel', Uf, hL, hf, hlog.trans hrun.1, hstamps.trans hrun.2.1⟩


/-! ### `StmtOKT` is inhabited by a body with nested ternaries -/

/-- `A = (B < (A > 3 ? A : 5) ? A + (B ? 1 : 2) : 0) * 2; if ((A ? B : 3) == 7) goto lab0; ins_200(A ? B + 1 : 0); lab0:` -/
def ternBody : List JSStmt :=
  [.base (.assign .set rA (.binop .mul
      (.ternary (.binop .lt (.var rB) (.ternary (.binop .gt (.var rA) (.litI 3)) (.var rA) (.litI 5)))
        (.binop .add (.var rA) (.ternary (.var rB) (.litI 1) (.litI 2))) (.litI 0)) (.litI 2))),
   .condGoto .kif (.expr (.binop .eq (.ternary (.var rA) (.var rB) (.litI 3)) (.litI 7))) ⟨0, none⟩,
   .base (.call 200 [.ternary (.var rA) (.binop .add (.var rB) (.litI 1)) (.litI 0)]),
   .label 0]

theorem ternBody_ok : ∀ st ∈ ternBody, StmtOKT 100 st := by
  intro st hst
  simp only [ternBody, List.mem_cons, List.not_mem_nil, or_false] at hst
  rcases hst with rfl | rfl | rfl | rfl
  · exact ⟨rfl, trivial, by simp [IntT, rA, rB, VarRef.readTy], by simp [belowT, below, rA, rB]⟩
  · exact ⟨⟨by simp [IntT, rA, rB, VarRef.readTy], by simp [belowT, below, rA, rB]⟩, fun v k h => by cases h⟩
  · exact List.forall_mem_singleton.mpr ⟨by simp [IntT, rA, rB, VarRef.readTy], by simp [belowT, below, rA, rB]⟩
  · trivial


theorem ternBody_lowers : bodyLen (lowerBodyJ jTwoPart 255 0 255 100 1000 0 ternBody) = some 48 := by decide +kernel

theorem ternBody_runs : runLog (runJS someFloats 0 (stampBody 0 ternBody) 10 0 ⟨⟨fun _ => .int 7, [], 0⟩, 0, []⟩) =
    some ([(200, [.int 0])], [0], 0, 0) := by decide +kernel

/-- `lowerBodyT_sound` applied: the compiled body (48 statements, nested labels) logs `ins_200(0)` at real time 0 -/
example : ∃ P fuel' Uf, lowerBodyJ jTwoPart 255 0 255 100 1000 0 ternBody = .ok P ∧
    execT someFloats 0 P fuel' 0 ⟨⟨⟨fun _ => .int 7, [], 0⟩, 0, []⟩, none⟩ = .ok Uf ∧
    Uf.vm.m.log = [(200, [.int 0])] ∧ Uf.vm.stamps = [0] ∧ Uf.vm.m.store (.reg 1000) = .int 0 := by
  obtain ⟨P, hL⟩ := ok_of_bodyLen ternBody_lowers
  obtain ⟨Sf, hr, hrun⟩ := ok_of_runLog ternBody_runs
  simp only [Prod.mk.injEq] at hrun
  obtain ⟨fuel', Uf, hf, hR⟩ := lowerBodyT_sound someFloats jTwoPart 255 0 0 255 100 1000 0 ternBody P (by decide) ternBody_ok
    (bodyWF_of_check (by decide +kernel)) hL _ _ (simRel_init 100 _ (fun _ => .int 7) (fun _ => ⟨7, rfl⟩) (by decide)) 10 Sf hr
  have hA : Sf.m.store (.reg 1000) = .int 0 := by
    have : (match runJS someFloats 0 (stampBody 0 ternBody) 10 0 ⟨⟨fun _ => .int 7, [], 0⟩, 0, []⟩ with
      | .ok s => s.m.store (.reg 1000) | _ => .int 1) = .int 0 := by decide +kernel
    rw [hr] at this; exact this
  exact ⟨P, fuel', Uf, hL, hf, hR.log.trans hrun.1, hR.stamps.trans hrun.2.1, by rw [hR.store (.reg 1000) trivial, hA]⟩


section regassign
open TruthModel.C05

/-- the stream as `assign_registers` sees it -/
abbrev regsView (I : JIntrinsics) (order : JumpOrder) (P : List (Int × JStmt)) : List Regs.Stmt :=
  P.map (fun x => toRegsStmtJ I order x.1 x.2)

/-- **assign_preserves_exec** (C02 ∘ C05).  Let `assign_registers` (`Regs.assign`, the repaired explicit-register scan,
no parameters) succeed on a lowered stream `P` with labels and jumps.  Then `Lower.scanJ` - the same loop, keeping the
state in front of every statement - succeeds, the stream `P'` it rewrote IS the stream `assign_registers` emitted, and
for every annotation `D` of certainly-initialised locals that satisfies `InitOK` (every operand is a single operand;
every local read is initialised; scopes and initialisation are consistent along every jump), every fuel and state:
whatever the timed machine `execT` computes on `P` it computes, with the same fuel, on `P'`: same log with the same
`real_time` stamps, same `time` and `real_time`, and the same final value in every register that is mentioned in the
script or is not general-purpose.  (Locals and temporaries of `P` are variables of their own; in `P'` they live in
registers: two live locals never share one and no mentioned register is handed out - `C05.assign_inv`.) -/
theorem assign_preserves_exec (F : FloatOps) (diff : Nat) (h : Hooks) (hk : HooksOk h) (tyOf : Def → RTy) (I : JIntrinsics)
    (order : JumpOrder) (P : List (Int × JStmt)) (res : Regs.Result)
    (ha : assign .deep h tyOf [] (regsView I order P) = .ok res) :
    ∃ sts P', scanJ h tyOf (clashing (mentioned (regsView I order P)) []) I order (init h (mentioned (regsView I order P)) []) P
        = .ok (sts, P') ∧ res.stream = regsView I order P' ∧
      ∀ D, InitOK diff P sts D → ∀ (fuel : Nat) (s sf : TVM), execT F diff P fuel 0 s = .ok sf →
        ∃ uf, execT F diff P' fuel 0 s = .ok uf ∧ uf.vm.m.log = sf.vm.m.log ∧ uf.vm.stamps = sf.vm.stamps ∧
          uf.vm.m.time = sf.vm.m.time ∧ uf.vm.real = sf.vm.real ∧
          ∀ r, (r ∈ mentioned (regsView I order P) ∨ (r ∉ h.general .int ∧ r ∉ h.general .float)) →
            uf.vm.m.store (.reg r) = sf.vm.m.store (.reg r) := by
  obtain ⟨sts, P', hscan, hstream⟩ := scanJ_of_assign ha
  refine ⟨sts, P', hscan, hstream, ?_⟩
  intro D hD fuel s sf hrun
  have hinv := inv_init h tyOf (mentioned (regsView I order P)) [] hk
  have hlive0 : liveAt sts 0 = [] := by
    have := scanJ_head hscan
    simp [liveAt, this, init, initLive]
  have R0 : RelT h (mentioned (regsView I order P)) (liveAt sts 0) (D 0) s s :=
    ⟨rfl, rfl, rfl, rfl, rfl, ⟨by intro d r hl; rw [hlive0] at hl; simp [lookup] at hl, fun _ _ => rfl⟩⟩
  obtain ⟨uf, pcf, hf, Rf⟩ := assign_preserves_execT (F := F) hscan hinv
    (fun pc t st hp a ha r hr => regs_mentioned hp ha hr) hD fuel 0 s s sf hrun R0
  -- a register that is mentioned or not general-purpose is never handed out
  exact ⟨uf, hf, Rf.log, Rf.stamps, Rf.time, Rf.real,
    fun r hr => Rf.store.reg r fun hal => hr.elim hal.2 fun hr => hal.1.elim hr.1 hr.2⟩

/-- written before read, from `D`: every local a statement reads is in `D`, the locals initialised so far (`initStep`) -/
def wbrFrom (diff : Nat) : List Def → List (Int × JStmt) → Bool
  | _, [] => true
  | D, (_, s) :: rest => (readLocs s).all (fun d => D.contains d) && wbrFrom diff (initStep diff D s) rest

/-- no jumps, single operands only, every local written before it is read (in stream order) -/
def straightOK (diff : Nat) (P : List (Int × JStmt)) : Bool :=
  P.all (fun x => (jumpOf x.2).isNone) && P.all (fun x => (stmtArgs x.2).all Arg.isAtom) && wbrFrom diff [] P

theorem wbrFrom_drop {diff : Nat} {P : List (Int × JStmt)} (h : wbrFrom diff [] P = true) :
    ∀ k, wbrFrom diff (linD diff P k) (P.drop k) = true := by
  intro k
  induction k with
  | zero => exact h
  | succ k ih =>
    rcases Nat.lt_or_ge k P.length with hlt | hge
    · rw [List.drop_eq_getElem_cons hlt] at ih
      simp only [wbrFrom, Bool.and_eq_true] at ih
      simp only [linD, List.getElem?_eq_getElem hlt]
      exact ih.2
    · rw [List.drop_eq_nil_of_le (Nat.le_succ_of_le hge)]; rfl

theorem initOK_of_straightOK {diff : Nat} {P : List (Int × JStmt)} (sts : List State) (hok : straightOK diff P = true) :
    InitOK diff P sts (linD diff P) := by
  simp only [straightOK, Bool.and_eq_true, List.all_eq_true] at hok
  obtain ⟨⟨h1, h2⟩, h3⟩ := hok
  refine initOK_linear diff P sts ?_ ?_ ?_
  · intro pc t s hp
    simpa using h1 (t, s) (List.mem_of_getElem? hp)
  · intro pc t s hp a ha
    exact h2 (t, s) (List.mem_of_getElem? hp) a ha
  · intro pc t s hp d hd
    obtain ⟨hlt, heq⟩ := List.getElem?_eq_some_iff.mp hp
    have hw := wbrFrom_drop h3 pc
    rw [List.drop_eq_getElem_cons hlt, heq] at hw
    simp only [wbrFrom, Bool.and_eq_true, List.all_eq_true] at hw
    simpa using hw.1 d hd

/-- **assign_preserves_exec_straight**: the jump-free case, all hypotheses decidable: a stream without jumps whose
operands are single operands and whose locals are written before they are read (`straightOK`) runs after register
assignment as before -/
theorem assign_preserves_exec_straight (F : FloatOps) (diff : Nat) (h : Hooks) (hk : HooksOk h) (tyOf : Def → RTy)
    (I : JIntrinsics) (order : JumpOrder) (P : List (Int × JStmt)) (res : Regs.Result)
    (ha : assign .deep h tyOf [] (regsView I order P) = .ok res) (hok : straightOK diff P = true) :
    ∃ P', res.stream = regsView I order P' ∧
      ∀ (fuel : Nat) (s sf : TVM), execT F diff P fuel 0 s = .ok sf →
        ∃ uf, execT F diff P' fuel 0 s = .ok uf ∧ uf.vm.m.log = sf.vm.m.log ∧ uf.vm.stamps = sf.vm.stamps ∧
          uf.vm.m.time = sf.vm.m.time ∧ uf.vm.real = sf.vm.real ∧
          ∀ r, (r ∈ mentioned (regsView I order P) ∨ (r ∉ h.general .int ∧ r ∉ h.general .float)) →
            uf.vm.m.store (.reg r) = sf.vm.m.store (.reg r) := by
  obtain ⟨sts, P', _, hstream, hall⟩ := assign_preserves_exec F diff h hk tyOf I order P res ha
  exact ⟨P', hstream, hall (linD diff P) (initOK_of_straightOK sts hok)⟩


/-- **lowerBody_assigned_sound** (C02 for flat integer bodies AFTER register assignment, the composition of
`lowerBody_sound` with `assign_preserves_exec`): the script `assign_registers` emits for the lowered body logs what
the source logs, at the same real times, and leaves every register that the script mentions or that is not
general-purpose with the value the source leaves in it.  What is still a hypothesis is `InitOK`: an annotation of
certainly-initialised locals for the lowered stream that is consistent along its jumps (for streams without jumps it is
decidable: `straightOK`). -/
theorem lowerBody_assigned_sound (F : FloatOps) (I : JIntrinsics) (order : JumpOrder) (db ab diff mask g0 lg0 : Nat)
    (body : List JSStmt) (P : List (Int × JStmt)) (h : Hooks) (hk : HooksOk h) (tyOf : Def → RTy) (res : Regs.Result)
    (hm : maskOn mask diff = true) (hok : ∀ st ∈ body, StmtOK g0 st) (wf : BodyWF lg0 0 body)
    (hL : lowerBodyJ I db ab mask g0 lg0 0 body = .ok P)
    (ha : assign .deep h tyOf [] (regsView I order P) = .ok res) :
    ∃ sts P', scanJ h tyOf (clashing (mentioned (regsView I order P)) []) I order (init h (mentioned (regsView I order P)) []) P
        = .ok (sts, P') ∧ res.stream = regsView I order P' ∧
      ∀ D, InitOK diff P sts D → ∀ (σ : Store), IntStore σ → ∀ (fuel : Nat) (Sf : VM),
        runJS F diff (stampBody 0 body) fuel 0 ⟨⟨σ, [], 0⟩, 0, []⟩ = .ok Sf →
        ∃ fuel' Uf, execT F diff P' fuel' 0 ⟨⟨⟨σ, [], 0⟩, 0, []⟩, none⟩ = .ok Uf ∧
          Uf.vm.m.log = Sf.m.log ∧ Uf.vm.stamps = Sf.stamps ∧
          (∀ r, (r ∈ mentioned (regsView I order P) ∨ (r ∉ h.general .int ∧ r ∉ h.general .float)) →
            Uf.vm.m.store (.reg r) = Sf.m.store (.reg r)) ∧
          (Uf.vm.waitTo (endTime 0 body)).m.time = (Sf.waitTo (endTime 0 body)).m.time ∧
          (Uf.vm.waitTo (endTime 0 body)).real = (Sf.waitTo (endTime 0 body)).real := by
  obtain ⟨sts, P', hscan, hstream, hall⟩ := assign_preserves_exec F diff h hk tyOf I order P res ha
  refine ⟨sts, P', hscan, hstream, ?_⟩
  intro D hD σ hσ fuel Sf hrun
  obtain ⟨fuel', Uf, hf, hlog, hstamps, hstore, htime, hreal⟩ :=
    lowerBody_sound_init F I db ab diff mask g0 lg0 body P hm hok wf hL σ hσ fuel Sf hrun
  obtain ⟨uf, hf', hlog', hstamps', htime', hreal', hregs⟩ := hall D hD fuel' _ Uf hf
  have hc := VM.waitTo_congr (a := uf.vm) (b := Uf.vm) (endTime 0 body) htime' hreal'
  refine ⟨fuel', uf, hf', hlog'.trans hlog, hstamps'.trans hstamps, ?_, hc.1.trans htime, hc.2.trans hreal⟩
  intro r hr
  rw [hregs r hr]
  exact hstore (.reg r) trivial

/-! ### the hypotheses of `assign_preserves_exec_straight` and `lowerBody_assigned_sound` are satisfiable -/

/-- `A = A + B * -(A + 1); ins_200(A + B * -(A + 1), B);`: two temporaries -/
def straightBody : List JSStmt := [.base (.assign .set rA sampleExpr), .base (.call 200 [sampleExpr, .var rB])]

def streamOf : Outcome (List (Int × JStmt)) → List (Int × JStmt)
  | .ok P => P
  | _ => []

def straightP : List (Int × JStmt) := streamOf (lowerBodyJ jNative 255 0 255 100 1000 0 straightBody)

/-- four general-purpose integer registers, two of them named by the script -/
def fourInts : Hooks := ⟨fun ty => match ty with | .int => [1000, 1001, 1002, 1003] | .float => [], fun _ => none⟩

theorem fourInts_ok : HooksOk fourInts := by unfold HooksOk; decide

example : straightP.length = 13 := by decide +kernel
theorem straightP_ok : straightOK 0 straightP = true := by decide +kernel

def assignedRegs : Outcome Regs.Result → Option (List Reg)
  | .ok r => some (r.locals.map (·.reg))
  | _ => none

theorem ok_of_assignedRegs {o : Outcome Regs.Result} {rs : List Reg} (h : assignedRegs o = some rs) : ∃ res, o = .ok res := by
  cases o with
  | ok res => exact ⟨res, rfl⟩
  | _ => cases h

/-- register assignment succeeds: both temporaries get 1002 one after the other, never 1000 / 1001 -/
theorem straightP_assigns :
    assignedRegs (assign .deep fourInts (tyOfTable (typeTableJ straightP)) [] (regsView jNative .locTime straightP)) =
      some [1002, 1002] := by decide +kernel

/-- `assign_preserves_exec_straight` applied -/
example : ∃ res P', assign .deep fourInts (tyOfTable (typeTableJ straightP)) [] (regsView jNative .locTime straightP) = .ok res ∧
    res.stream = regsView jNative .locTime P' ∧
    ∀ (fuel : Nat) (s sf : TVM), execT someFloats 0 straightP fuel 0 s = .ok sf →
      ∃ uf, execT someFloats 0 P' fuel 0 s = .ok uf ∧ uf.vm.m.log = sf.vm.m.log ∧
        uf.vm.m.store (.reg 1000) = sf.vm.m.store (.reg 1000) := by
  obtain ⟨res, hres⟩ := ok_of_assignedRegs straightP_assigns
  obtain ⟨P', hs, hall⟩ := assign_preserves_exec_straight someFloats 0 fourInts fourInts_ok _ jNative .locTime straightP res hres straightP_ok
  refine ⟨res, P', hres, hs, ?_⟩
  intro fuel s sf hrun
  obtain ⟨uf, h1, h2, _, _, _, h3⟩ := hall fuel s sf hrun
  exact ⟨uf, h1, h2, h3 1000 (Or.inl (by decide +kernel))⟩


theorem straightP_lowers : lowerBodyJ jNative 255 0 255 100 1000 0 straightBody = .ok straightP := by
  obtain ⟨P, hP⟩ := ok_of_bodyLen (n := 13) (o := lowerBodyJ jNative 255 0 255 100 1000 0 straightBody) (by decide +kernel)
  rw [straightP, hP]; rfl

/-- `lowerBody_assigned_sound` applied to the straight-line body: all hypotheses hold (`InitOK` by the linear analysis) -/
example : ∃ res P', assign .deep fourInts (tyOfTable (typeTableJ straightP)) [] (regsView jNative .locTime straightP) = .ok res ∧
    res.stream = regsView jNative .locTime P' ∧
    ∀ (fuel : Nat) (Sf : VM), runJS someFloats 0 (stampBody 0 straightBody) fuel 0 ⟨⟨fun _ => .int 7, [], 0⟩, 0, []⟩ = .ok Sf →
      ∃ fuel' Uf, execT someFloats 0 P' fuel' 0 ⟨⟨⟨fun _ => .int 7, [], 0⟩, 0, []⟩, none⟩ = .ok Uf ∧ Uf.vm.m.log = Sf.m.log ∧
        Uf.vm.m.store (.reg 1000) = Sf.m.store (.reg 1000) := by
  obtain ⟨res, hres⟩ := ok_of_assignedRegs straightP_assigns
  have hbody : ∀ st ∈ straightBody, StmtOK 100 st := by
    intro st hst
    simp only [straightBody, List.mem_cons, List.not_mem_nil, or_false] at hst
    rcases hst with rfl | rfl
    · exact ⟨rfl, trivial, Or.inl ⟨sampleExpr_int, sampleExpr_below⟩⟩
    · exact List.forall_mem_cons.mpr ⟨⟨sampleExpr_int, sampleExpr_below⟩, List.forall_mem_singleton.mpr ⟨rfl, trivial⟩⟩
  have hwf : BodyWF 1000 0 straightBody := bodyWF_of_check (by decide +kernel)
  obtain ⟨sts, P', _, hs, hall⟩ := lowerBody_assigned_sound someFloats jNative .locTime 255 0 0 255 100 1000 straightBody straightP
    fourInts fourInts_ok _ res (by decide) hbody hwf straightP_lowers hres
  refine ⟨res, P', hres, hs, ?_⟩
  intro fuel Sf hrun
  obtain ⟨fuel', Uf, hf, hlog, _, hregs, _⟩ :=
    hall _ (initOK_of_straightOK sts straightP_ok) (fun _ => .int 7) (fun _ => ⟨7, rfl⟩) fuel Sf hrun
  exact ⟨fuel', Uf, hf, hlog, hregs 1000 (Or.inl (by decide +kernel))⟩

/-! a stream WITH a jump that satisfies `InitOK`: `L5: int x (local 7); x = 3; if (--x) goto L5;` - the local is written
before the counting jump reads it on every path, and nothing is live at the target of the jump -/
def loopP : List (Int × JStmt) :=
  [(0, .label 0 5), (0, .base (.alloc 7 .int)),
   (0, .base (.instr ⟨255, .assignOp .set .int, [.loc 7 .int, .imm (.int 3)]⟩)),
   (0, .countJmp 255 .ne (.loc 7 .int) 5 none)]

def loopD : Nat → List Def
  | 3 => [7]
  | 4 => [7]
  | _ => []

theorem loopP_cases {Q : Nat → JStmt → Prop} (h0 : Q 0 (.label 0 5)) (h1 : Q 1 (.base (.alloc 7 .int)))
    (h2 : Q 2 (.base (.instr ⟨255, .assignOp .set .int, [.loc 7 .int, .imm (.int 3)]⟩)))
    (h3 : Q 3 (.countJmp 255 .ne (.loc 7 .int) 5 none)) : ∀ (pc : Nat) (t : Int) (s : JStmt), loopP[pc]? = some (t, s) → Q pc s
  | 0, _, _, hp | 1, _, _, hp | 2, _, _, hp | 3, _, _, hp => by cases hp; assumption
  | n + 4, _, _, hp => by cases hp

example (sts : List State) (hlive0 : ∀ st, sts[0]? = some st → st.live = []) : InitOK 0 loopP sts loopD where
  atoms := loopP_cases (Q := fun _ s => ∀ a ∈ stmtArgs s, a.isAtom = true) (by decide) (by decide) (by decide) (by decide)
  reads := loopP_cases (Q := fun pc s => ∀ d ∈ readLocs s, d ∈ loopD pc) (by decide) (by decide) (by decide) (by decide)
  next := loopP_cases (Q := fun pc s => ∀ d ∈ loopD (pc + 1), d ∈ writeLocs 0 s ∨ d ∈ loopD pc)
    (by decide) (by decide) (by decide) (by decide)
  alloc := fun pc t d ty hp => loopP_cases (Q := fun pc s => ∀ d ty, s = .base (.alloc d ty) → d ∉ loopD (pc + 1))
    nofun (fun _ _ h => by cases h; decide) nofun nofun pc t _ hp d ty rfl
  jump := fun pc t s l tm i tl hp hj hf => by
    revert l tm i tl
    refine loopP_cases (Q := fun pc s => ∀ l tm i tl, jumpOf s = some (l, tm) → findLabelJ (loopP.map (·.2)) l 0 = some (i, tl) →
      (∀ d ∈ loopD i, d ∈ writeLocs 0 s ∨ d ∈ loopD pc) ∧
      ∀ stp sti, sts[pc]? = some stp → sts[i]? = some sti → ∀ d r, lookup sti.live d = some r → lookup stp.live d = some r)
      nofun nofun nofun ?_ pc t s hp
    -- the counting jump goes to statement 0, where nothing is initialised and nothing is live
    intro l tm i tl hj hf
    cases hj
    cases hf
    refine ⟨fun _ hd => (by cases hd), ?_⟩
    intro stp sti _ h0 d r hl
    rw [hlive0 sti h0] at hl
    cases hl


end regassign

theorem runJS_fuel_of_stepsS {F : FloatOps} {diff : Nat} {B : List (Int × JSStmt)} {n j pc pc' : Nat} {S S' : VM}
    (h : StepsS F diff B n j pc S pc' S') : ∀ fuel, fuel ≤ n → runJS F diff B fuel pc S = .panic "out of fuel" := by
  induction h with
  | refl pc S => intro fuel hf; cases Nat.le_zero.mp hf; rfl
  | step n j pc S pc1 S1 pc2 S2 hs _ ih =>
    intro fuel hf
    cases fuel with
    | zero => rfl
    | succ fuel => simp only [runJS, hs]; exact ih fuel (Nat.le_of_succ_le_succ hf)

/-- **lowerBodyT_diverges** (the other direction of `lowerBodyT_sound`): under the same hypotheses, if the source machine
can make any number of steps - it neither runs off the end of the body nor fails, so it exceeds every iteration limit
(`runJS_fuel_of_stepsS`) - then the compiled script does not stop either: `execT` runs out of every fuel. -/
theorem lowerBodyT_diverges (F : FloatOps) (I : JIntrinsics) (db ab diff mask g0 lg0 : Nat) (t0 : Int) (body : List JSStmt)
    (P : List (Int × JStmt)) (hm : maskOn mask diff = true) (hok : ∀ st ∈ body, StmtOKT g0 st) (wf : BodyWF lg0 t0 body)
    (hL : lowerBodyJ I db ab mask g0 lg0 t0 body = .ok P)
    (S0 : VM) (U0 : TVM) (hinit : SimRel (below g0) IntStore (timeAt t0 body 0) S0 U0)
    (hdiv : ∀ n, ∃ j pc S, StepsS F diff (stampBody t0 body) n j 0 S0 pc S) :
    ∀ fuel, execT F diff P fuel 0 U0 = .panic "out of fuel" := by
  intro fuel
  obtain ⟨c, pc, U, hc, hr⟩ := body_diverges hL wf (bodySim_intT F I db ab diff mask g0 lg0 hm hok wf) S0 U0 hinit hdiv fuel
  exact execT_fuel_of_reachTn hr fuel hc

theorem lowerBody_diverges (F : FloatOps) (I : JIntrinsics) (db ab diff mask g0 lg0 : Nat) (t0 : Int) (body : List JSStmt)
    (P : List (Int × JStmt)) (hm : maskOn mask diff = true) (hok : ∀ st ∈ body, StmtOK g0 st) (wf : BodyWF lg0 t0 body)
    (hL : lowerBodyJ I db ab mask g0 lg0 t0 body = .ok P)
    (S0 : VM) (U0 : TVM) (hinit : SimRel (below g0) IntStore (timeAt t0 body 0) S0 U0)
    (hdiv : ∀ n, ∃ j pc S, StepsS F diff (stampBody t0 body) n j 0 S0 pc S) :
    ∀ fuel, execT F diff P fuel 0 U0 = .panic "out of fuel" :=
  lowerBodyT_diverges F I db ab diff mask g0 lg0 t0 body P hm (fun st hst => stmtOKT_of_stmtOK (hok st hst)) wf hL S0 U0 hinit hdiv


/-! ### the hypotheses of `lowerBody_diverges` are satisfiable: `lab0: A = A + 1; goto lab0;` -/

def foreverBody : List JSStmt := [.label 0, .base (.assign .add rA (.litI 1)), .goto ⟨0, none⟩]

def allSevenAt (n : Int32) : VM := ⟨⟨fun x => if x = .reg 1000 then .int n else .int 7, [], 0⟩, 0, []⟩

theorem forever_step1 (n : Int32) : stepS someFloats 0 (stampBody 0 foreverBody) 1 (allSevenAt n) = .ok (some (2, allSevenAt (n + 1))) := by
  have : allSevenAt (n + 1) = ⟨⟨upd (allSevenAt n).m.store (.reg 1000) (.int (n + 1)), [], 0⟩, 0, []⟩ := by
    unfold allSevenAt upd
    congr 2
    funext x; by_cases h : x = .reg 1000 <;> simp [h]
  rw [this]; rfl

theorem forever_runs : ∀ (n : Nat) (k : Int32) (pc : Nat), pc < 3 →
    ∃ j pc' S, StepsS someFloats 0 (stampBody 0 foreverBody) n j pc (allSevenAt k) pc' S := by
  intro n
  induction n with
  | zero => exact fun k pc _ => ⟨0, pc, _, .refl _ _⟩
  | succ n ih =>
    intro k pc hpc
    match pc, hpc with
    | 0, _ =>
      obtain ⟨j, pc', S, h⟩ := ih k 1 (by decide)
      exact ⟨_, pc', S, .step _ _ _ _ _ _ _ _ rfl h⟩
    | 1, _ =>
      obtain ⟨j, pc', S, h⟩ := ih (k + 1) 2 (by decide)
      exact ⟨_, pc', S, .step _ _ _ _ _ _ _ _ (forever_step1 k) h⟩
    | 2, _ =>
      obtain ⟨j, pc', S, h⟩ := ih k 0 (by decide)
      exact ⟨_, pc', S, .step _ _ _ _ _ _ _ _ rfl h⟩

example : ∃ P, lowerBodyJ jNative 255 0 255 100 1000 0 foreverBody = .ok P ∧
    ∀ fuel, execT someFloats 0 P fuel 0 ⟨allSevenAt 7, none⟩ = .panic "out of fuel" := by
  obtain ⟨P, hL⟩ := ok_of_bodyLen (n := 3) (o := lowerBodyJ jNative 255 0 255 100 1000 0 foreverBody) (by decide +kernel)
  refine ⟨P, hL, ?_⟩
  have hok : ∀ st ∈ foreverBody, StmtOK 100 st := by
    intro st hst
    simp only [foreverBody, List.mem_cons, List.not_mem_nil, or_false] at hst
    rcases hst with rfl | rfl | rfl
    · trivial
    · exact ⟨rfl, trivial, Or.inl ⟨trivial, trivial⟩⟩
    · trivial
  have hwf : BodyWF 1000 0 foreverBody := bodyWF_of_check (by decide +kernel)
  have hinit : SimRel (below 100) IntStore (timeAt 0 foreverBody 0) (allSevenAt 7) ⟨allSevenAt 7, none⟩ :=
    ⟨rfl, rfl, rfl, rfl, fun _ _ => rfl, fun x => by by_cases h : x = .reg 1000 <;> simp [allSevenAt, h], by decide⟩
  exact lowerBody_diverges someFloats jNative 255 0 0 255 100 1000 0 foreverBody P (by decide) hok hwf hL _ _ hinit
    (fun n => forever_runs n 7 0 (by decide))


end TruthModel.C02
