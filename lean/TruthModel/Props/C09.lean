import TruthModel.Lemmas.Types
/-
C09 — the type checker accepts exactly the well-typed scripts and predicts value types.

The property theorems (model and declarative rules: `Model/Types.lean`), for every context, expression and
program of the model, at any nesting depth.  These are the names DESIGN.md and MANIFEST.json cite; several are
instances of a general form in `Lemmas/Types.lean`, which is the one to build on.
* Expressions: `check_expr` is sound and complete for contexts whose signatures have their optional
  parameters at the end (`SigsOk`); without that it is false of `check_expr_call` (`padding_witness`: the
  arity test counts required parameters, the zip pairs arguments with all parameters).  In the tree as
  repaired in 9d4386e padding is not a parameter, so every context the implementation builds satisfies `SigsOk`.
* Statements: `stmts_accept_iff_welltyped` is about `codeCfg`, the code as it is.  The constructs
  `Visitor::visit_stmt` of the pinned tree did not look into (free blocks, label expressions, the declared type
  of const items) are switches of the model (`Cfg`), all on; `_for_cfg` is the equivalence for every setting,
  `_status` decides the full statement for whatever `codeCfg` is, section 5 has a witness for each switch off.
* `compute_ty` agrees with `check_expr` (section 2) and `++` / `--` on a constant is rejected (4c): each is a
  switch of the model (`computeTyEnumIsInt`, `checksXcrementTarget`) with a witness for the other setting and
  a `_status` theorem.  A witness theorem whose hypothesis is the other setting of a global switch
  (`computeTy_disagrees_on_string_enum`, `xcrement_const_accepted_when_unchecked`,
  `stmts_accept_iff_welltyped_false_while_blocks_skipped`) says nothing about the model as it is set.
* Static type = dynamic type is stated for `evalT`, the evaluator of the whole language; on the
  fragment of the C11 model it is the C11 evaluator (`evalT_eq_eval`).  Calls have no value in `evalT`
  (`.err`, as in `AstVm::eval`), so for them the statement is empty.
-/
namespace TruthModel.C09
open TruthModel TruthModel.Types

/-- context of the `example`s; the signatures are `ins_0(S, f)`, `ins_1(S, _, _)` -/
def exΓ : Ctx where
  regTy r := if r < 4 then .typed .int else if r < 8 then .typed .float else .untyped
  varTy n := if n = 0 then .typed .int else if n = 1 then .typed .float
    else if n = 2 then .typed .str else .untyped
  sig f := if f = 0 then some [⟨.typed .int, false⟩, ⟨.typed .float, false⟩]
    else if f = 1 then some [⟨.typed .int, false⟩, ⟨.typed .int, true⟩, ⟨.typed .int, true⟩]
    else none
  isConst n := n = 2

theorem exΓ_sigsOk : SigsOk exΓ := by
  intro f ps h
  simp only [exΓ] at h
  split at h
  · cases h; rfl
  · split at h
    · cases h; rfl
    · cases h

theorem check_sound (Γ : Ctx) (hΓ : SigsOk Γ) (e : TExpr) (t : ETy)
    (h : check Γ e = .ok t) : HasType Γ e t :=
  (check_iff Γ hΓ e t).mp h

theorem check_sound_for_setting (Γ : Ctx) (hΓ : SigsOk Γ) (e : TExpr) (t : ETy)
    (h : check Γ e = .ok t) (hX : checksXcrementTarget = true ∨ WritesOk Γ e) : HasType Γ e t :=
  check_sound_aux Γ hΓ e t h hX

theorem check_complete (Γ : Ctx) (hΓ : SigsOk Γ) (e : TExpr) (t : ETy)
    (h : HasType Γ e t) : check Γ e = .ok t :=
  check_complete_aux Γ hΓ e t h

theorem check_accepts_iff_hasType (Γ : Ctx) (hΓ : SigsOk Γ) (e : TExpr) (t : ETy) :
    check Γ e = .ok t ↔ HasType Γ e t :=
  check_iff Γ hΓ e t

theorem check_never_panics (Γ : Ctx) (e : TExpr) (s : String) : check Γ e ≠ .panic s :=
  check_ne_panic Γ e s

theorem hasType_functional (Γ : Ctx) (hΓ : SigsOk Γ) (e : TExpr) (t u : ETy)
    (h1 : HasType Γ e t) (h2 : HasType Γ e u) : t = u := by
  rw [← check_iff Γ hΓ] at h1 h2
  rw [h1] at h2; cases h2; rfl

-- `ins_0($REG[0] + int(%REG[4] * 1.5), REG[5] < 2.0 ? 1.0 : %REG[1])` is accepted (void) ...
example : check exΓ
    (.call 0 (.cons (.binop .add (.reg 0 (some .int))
                  (.unop .castI (.binop .mul (.reg 4 (some .float)) (.litF 0x3fc00000))))
      (.cons (.ternary (.binop .lt (.reg 5 none) (.litF 0x40000000)) (.litF 0x3f800000)
                  (.reg 1 (some .float))) .nil))) = .ok .void := by
  decide +kernel
-- ... and the same call with the inner literal `1.5` replaced by `1` (depth 4) is rejected
example : check exΓ
    (.call 0 (.cons (.binop .add (.reg 0 (some .int))
                  (.unop .castI (.binop .mul (.reg 4 (some .float)) (.litI 1))))
      (.cons (.ternary (.binop .lt (.reg 5 none) (.litF 0x40000000)) (.litF 0x3f800000)
                  (.reg 1 (some .float))) .nil))) = .err tyErr := rfl
example : HasType exΓ (.binop .lt (.reg 5 none) (.litF 0)) (.value .int) :=
  .binop (t := .float) ⟨Or.inr rfl, rfl⟩ (.reg rfl) (.litF 0)

/-- `exΓ` plus a string enum (number 1; enum 0 is an int enum), the user functions
`int fn0(int, float)`, `void fn1()`, `float fn2(var)` -/
def exΓ2 : Ctx := { exΓ with
  enumStr := fun en => en = 1
  fsig := fun f => if f = 0 then ([.typed .int, .typed .float], .value .int)
    else if f = 1 then ([], .void) else ([.untyped], .value .float) }

theorem exΓ2_sigsOk : SigsOk exΓ2 := exΓ_sigsOk

theorem call_eq_callx (Γ : Ctx) (f : Nat) (args : TArgs) :
    check Γ (.callx false f .nil args) = check Γ (.call f args) ∧
      computeTy Γ (.callx false f .nil args) = computeTy Γ (.call f args) := by
  constructor
  · simp only [check, checkPseudos, TPseudos.isNil, TPseudos.hasBlob, Ctx.calleeSig]
    cases Γ.sig f <;> simp
  · simp only [computeTy, TPseudos.hasBlob, Ctx.calleeSig]
    cases Γ.sig f <;> simp

-- `ins_0(($REG[0] : : 2 : fn0(1, 2.0)), (1.5 : %REG[1]))`: blank case, nested user call
example : check exΓ2
    (.call 0 (.cons (.diffSwitch (.reg 0 (some .int)) (.blank (.case (.litI 2)
        (.case (.callx true 0 .nil (.cons (.litI 1) (.cons (.litF 0x40000000) .nil))) .nil))))
      (.cons (.diffSwitch (.litF 0x3fc00000) (.case (.reg 1 (some .float)) .nil)) .nil)))
    = .ok .void := by decide +kernel
-- one float case in the int switch (third position, after a blank): rejected
example : check exΓ2
    (.diffSwitch (.reg 0 (some .int)) (.blank (.case (.litF 0x40000000) .nil))) = .err tyErr := rfl
example : HasType exΓ2 (.diffSwitch (.litI 1) (.blank (.case (.reg 0 none) .nil))) (.value .int) :=
  .diffSwitch (.litI 1) (.blank (.case (.reg rfl) .nil))
-- `$REG[0]++` is an int, `REG[4]--` (a float register) and `%REG[0]++` are rejected
example : check exΓ2 (.xcrement false true ⟨true, 0, some .int⟩) = .ok (.value .int) := by decide +kernel
example : check exΓ2 (.xcrement false false ⟨true, 4, none⟩) = .err tyErr := rfl
example : check exΓ2 (.xcrement true true ⟨true, 0, some .float⟩) = .err tyErr := rfl
example : check exΓ2 (.xcrement true true ⟨true, 9, none⟩) = .err prefixErr := rfl
-- enum constants have the type of their enum, label properties are ints
example : check exΓ2 (.binop .add (.enumConst 0 3) (.labelProp 1)) = .ok (.value .int) := by decide +kernel
example : check exΓ2 (.enumConst 1 0) = .ok (.value .str) := by decide +kernel
-- pseudo-arguments: `ins_0(@mask=1 + 1, 2, 1.0)`, `ins_5(@blob="00")` (no signature needed),
-- `@blob` with a normal argument, a float mask, a string that is not one, a pseudo-argument on a
-- user function
example : check exΓ2 (.callx false 0 (.cons .mask (.binop .add (.litI 1) (.litI 1)) .nil)
    (.cons (.litI 2) (.cons (.litF 0x3f800000) .nil))) = .ok .void := by decide +kernel
example : check exΓ2 (.callx false 5 (.cons .blob (.litS "00") .nil) .nil) = .ok .void := by decide +kernel
example : check exΓ2 (.callx false 0 (.cons .blob (.litS "00") .nil) (.cons (.litI 2) .nil))
    = .err blobArgsErr := rfl
example : check exΓ2 (.callx false 0 (.cons .mask (.litF 0) .nil)
    (.cons (.litI 2) (.cons (.litF 0x3f800000) .nil))) = .err tyErr := rfl
example : check exΓ2 (.callx false 0 (.cons .blob (.litI 0) .nil) .nil) = .err tyErr := rfl
example : check exΓ2 (.callx true 1 (.cons .mask (.litI 1) .nil) .nil) = .err pseudoCallErr := rfl
-- user functions: value-returning call as an operand; arity; parameter type; `var` parameter
example : check exΓ2 (.binop .mul (.callx true 0 .nil (.cons (.litI 1) (.cons (.litF 0) .nil)))
    (.litI 2)) = .ok (.value .int) := by decide +kernel
example : check exΓ2 (.callx true 0 .nil (.cons (.litI 1) .nil)) = .err arityErr := rfl
example : check exΓ2 (.callx true 0 .nil (.cons (.litI 1) (.cons (.litI 0) .nil))) = .err tyErr := rfl
example : check exΓ2 (.callx true 2 .nil (.cons (.litS "a") .nil)) = .ok (.value .float) := by decide +kernel
example : HasType exΓ2 (.callx true 2 .nil (.cons (.litS "a") .nil)) (.value .float) :=
  .callUser (f := 2) (.cons (.litS "a") (Or.inl rfl) .nil)

/-! ## 2. `compute_ty` agrees with `check_expr`: the `debug_assert_eq!` cannot fire -/

/-- The statement of the property.  It depends on the switch `computeTyEnumIsInt`
(`computeTy_agrees_status`): with `compute_ty` answering `Int` for every qualified enum constant it is false,
since `check_expr` answers the enum's type and the built-in enum `EclSubName` is a string enum. -/
def computeTy_agrees_full : Prop :=
  ∀ (Γ : Ctx) (e : TExpr) (t : ETy), check Γ e = .ok t → computeTy Γ e = .ok t

theorem computeTy_agrees_for_setting (Γ : Ctx) (e : TExpr) (t : ETy) (h : check Γ e = .ok t)
    (hE : computeTyEnumIsInt = false ∨ NoStrEnumConst Γ e) :
    computeTy Γ e = .ok t :=
  computeTy_of_check Γ e t h hE

theorem computeTy_agrees (Γ : Ctx) (e : TExpr) (t : ETy) (h : check Γ e = .ok t) :
    computeTy Γ e = .ok t :=
  -- `rfl`: `computeTyEnumIsInt` is off in Model/Types.lean (e91a1bf)
  computeTy_of_check Γ e t h (Or.inl rfl)

theorem computeTy_agrees_nonstring (Γ : Ctx) (e : TExpr) (t : ETy) (h : check Γ e = .ok t)
    (ht : t ≠ .value .str) : computeTy Γ e = .ok t :=
  computeTy_of_check_gen Γ e t h (Or.inr ht)

theorem debug_assert_never_fires_for_setting (Γ : Ctx) (e : TExpr) (t : ETy)
    (h : check Γ e = .ok t) (hE : computeTyEnumIsInt = false ∨ NoStrEnumConst Γ e) :
    ∀ e' ∈ subsE e, ∃ t', check Γ e' = .ok t' ∧ computeTy Γ e' = .ok t' := by
  intro e' he'
  obtain ⟨t', ht'⟩ := subs_accepted Γ e t h e' he'
  exact ⟨t', ht', computeTy_of_check Γ e' t' ht' (EnumOk.sub hE fun y hy => subsE_trans e e' he' y hy)⟩

/-- `check_expr` evaluates `debug_assert_eq!(out, expr.compute_ty(ctx))` at every node it
returns `Ok(out)` from.  When the whole expression is accepted, every subexpression (also call
arguments, switch cases, pseudo-argument values) was accepted, and at each of them both sides of
the assertion are equal. -/
theorem debug_assert_never_fires (Γ : Ctx) (e : TExpr) (t : ETy) (h : check Γ e = .ok t) :
    ∀ e' ∈ subsE e, ∃ t', check Γ e' = .ok t' ∧ computeTy Γ e' = .ok t' :=
  debug_assert_never_fires_for_setting Γ e t h (Or.inl rfl)

/-- The witness for `computeTyEnumIsInt = true` (the tree before e91a1bf; known_findings.json
"assertion `left == right` failed", `truecl compile -g 10` of `void foo() { ins_11(EclSubName.foo); }`):
`EclSubName.foo` (enum 1 of `exΓ2` is a string enum) is accepted with type string, `compute_ty` says int, so the
`debug_assert_eq!` at the end of `check_expr` fires in a build with debug assertions. -/
theorem computeTy_disagrees_on_string_enum (h : computeTyEnumIsInt = true) :
    check exΓ2 (.enumConst 1 0) = .ok (.value .str) ∧
      computeTy exΓ2 (.enumConst 1 0) = .ok (.value .int) := by
  constructor
  · decide
  · simp [computeTy, h]

example : computeTy exΓ2 (.enumConst 1 0) = .ok (.value .str) := by decide +kernel

theorem computeTy_agrees_status :
    if computeTyEnumIsInt then ¬ computeTy_agrees_full else computeTy_agrees_full := by
  split
  · rename_i h
    intro hfull
    have := computeTy_disagrees_on_string_enum h
    rw [hfull _ _ _ this.1] at this
    exact absurd this.2 (by decide)
  · rename_i h
    intro Γ e t hc
    exact computeTy_of_check Γ e t hc (Or.inl (by simpa using h))

example : computeTy exΓ (.ternary (.reg 0 none) (.unop .neg (.reg 4 none)) (.litF 0))
    = .ok (.value .float) := by decide +kernel
-- on an expression that was NOT accepted `compute_ty` may return anything / hit its `expect`
example : computeTy exΓ (.reg 9 none) = .panic "already type-checked" := rfl

def stmts_accept_iff_welltyped_full : Prop :=
  ∀ (Γ : Ctx), SigsOk Γ → ∀ (ρ : Option ETy) (ss : Stmts),
    checkStmts codeCfg Γ ρ ss = .ok () ↔ WellTypedStmts Γ ρ ss

theorem stmts_accept_iff_welltyped_for_cfg (cfg : Cfg) (Γ : Ctx) (hΓ : SigsOk Γ)
    (ρ : Option ETy) (ss : Stmts) (hc : CoveredS cfg Γ ss) :
    checkStmts cfg Γ ρ ss = .ok () ↔ WellTypedStmts Γ ρ ss :=
  checkStmts_iff cfg Γ hΓ ρ ss hc

mutual
theorem covered_fixed (Γ : Ctx) : (s : Stmt) → Covered fixedCfg Γ s
  | .exprStmt _ | .assign _ _ _ | .decl _ _ | .condJump _ | .inert | .ret _ | .decls _ => trivial
  | .constDecl _ _ | .interruptLabel _ | .relTimeLabel _ | .constDecls _ => .inl rfl
  | .ite _ t e => ⟨coveredS_fixed Γ t, coveredS_fixed Γ e⟩
  | .while_ _ b | .doWhile _ b | .loop b | .times _ _ b | .func _ b | .script b => coveredS_fixed Γ b
  | .block b => ⟨rfl, coveredS_fixed Γ b⟩
theorem coveredS_fixed (Γ : Ctx) : (ss : Stmts) → CoveredS fixedCfg Γ ss
  | .nil => trivial
  | .cons s ss => ⟨covered_fixed Γ s, coveredS_fixed Γ ss⟩
end

theorem stmts_accept_iff_welltyped_fixed (Γ : Ctx) (hΓ : SigsOk Γ) (ρ : Option ETy) (ss : Stmts) :
    checkStmts fixedCfg Γ ρ ss = .ok () ↔ WellTypedStmts Γ ρ ss :=
  checkStmts_iff fixedCfg Γ hΓ ρ ss (coveredS_fixed Γ ss)

mutual
/-- `CoveredS` once free blocks are walked: only labels and const declarations are left -/
def LabelsConstsHarmless (cfg : Cfg) (Γ : Ctx) : Stmt → Prop
  | .block body => LabelsConstsHarmlessS cfg Γ body
  | .interruptLabel e => cfg.checksLabelExprs = true ∨ litTy e = some .int
  | .relTimeLabel e => cfg.checksLabelExprs = true ∨ litTy e = some .int
  | .constDecl x e => cfg.checksConstDeclTy = true ∨ ∃ t, litTy e = some t ∧ Γ.varTy x = .typed t
  | .ite _ t e => LabelsConstsHarmlessS cfg Γ t ∧ LabelsConstsHarmlessS cfg Γ e
  | .while_ _ body => LabelsConstsHarmlessS cfg Γ body
  | .doWhile _ body => LabelsConstsHarmlessS cfg Γ body
  | .loop body => LabelsConstsHarmlessS cfg Γ body
  | .times _ _ body => LabelsConstsHarmlessS cfg Γ body
  | .func _ body => LabelsConstsHarmlessS cfg Γ body
  | .script body => LabelsConstsHarmlessS cfg Γ body
  | .exprStmt _ => True
  | .assign _ _ _ => True
  | .decl _ _ => True
  | .condJump _ => True
  | .inert => True
  | .ret _ => True
  | .decls _ => True
  | .constDecls ds => cfg.checksConstDeclTy = true ∨
      ∀ p ∈ ds, ∃ t, litTy p.2 = some t ∧ Γ.varTy p.1 = .typed t
def LabelsConstsHarmlessS (cfg : Cfg) (Γ : Ctx) : Stmts → Prop
  | .nil => True
  | .cons s ss => LabelsConstsHarmless cfg Γ s ∧ LabelsConstsHarmlessS cfg Γ ss
end

mutual
theorem covered_of_blocks_walked (cfg : Cfg) (hb : cfg.walksFreeBlocks = true) (Γ : Ctx) :
    (s : Stmt) → LabelsConstsHarmless cfg Γ s → Covered cfg Γ s
  | .exprStmt _ | .assign _ _ _ | .decl _ _ | .condJump _ | .inert | .ret _ | .decls _ =>
    fun _ => trivial
  | .constDecl _ _ | .interruptLabel _ | .relTimeLabel _ | .constDecls _ => id
  | .ite _ t e => fun h =>
    ⟨coveredS_of_blocks_walked cfg hb Γ t h.1, coveredS_of_blocks_walked cfg hb Γ e h.2⟩
  | .while_ _ b | .doWhile _ b | .loop b | .times _ _ b | .func _ b | .script b =>
    coveredS_of_blocks_walked cfg hb Γ b
  | .block b => fun h => ⟨hb, coveredS_of_blocks_walked cfg hb Γ b h⟩
theorem coveredS_of_blocks_walked (cfg : Cfg) (hb : cfg.walksFreeBlocks = true) (Γ : Ctx) :
    (ss : Stmts) → LabelsConstsHarmlessS cfg Γ ss → CoveredS cfg Γ ss
  | .nil => fun _ => trivial
  | .cons s ss => fun h =>
    ⟨covered_of_blocks_walked cfg hb Γ s h.1, coveredS_of_blocks_walked cfg hb Γ ss h.2⟩
end

theorem stmts_accept_iff_welltyped_blocks_walked (cfg : Cfg) (hb : cfg.walksFreeBlocks = true)
    (Γ : Ctx) (hΓ : SigsOk Γ) (ρ : Option ETy) (ss : Stmts)
    (hc : LabelsConstsHarmlessS cfg Γ ss) :
    checkStmts cfg Γ ρ ss = .ok () ↔ WellTypedStmts Γ ρ ss :=
  checkStmts_iff cfg Γ hΓ ρ ss (coveredS_of_blocks_walked cfg hb Γ ss hc)

/-- The property for programs, about the code as it is (the model follows the tree as repaired in 9b7e57b,
353f983, 0757655): `type_check::run` accepts a program exactly when it is well-typed under the declarative
rules, wherever the offending construct sits, to any depth. -/
theorem stmts_accept_iff_welltyped : stmts_accept_iff_welltyped_full := by
  intro Γ hΓ ρ ss
  -- `rfl`: all three switches of `codeCfg` are on in Model/Types.lean
  have h : codeCfg = fixedCfg := rfl
  rw [h]
  exact stmts_accept_iff_welltyped_fixed Γ hΓ ρ ss

-- a program with loops, conditions, declarations and a call nested three levels deep:
--   script { int v0 = $REG[0] + 1; times($REG[1]) { if (%REG[4] < 1.0) { ins_0(v0, 2.0); } } }
def exProgram : Stmts :=
  .cons (.script
    (.cons (.decl 0 (some (.binop .add (.reg 0 (some .int)) (.litI 1))))
    (.cons (.times none (.reg 1 (some .int))
      (.cons (.ite (.binop .lt (.reg 4 (some .float)) (.litF 0x3f800000))
        (.cons (.exprStmt (.call 0 (.cons (.var 0 none) (.cons (.litF 0x40000000) .nil)))) .nil)
        .nil) .nil)) .nil))) .nil

example : CoveredS codeCfg exΓ exProgram := coveredS_fixed exΓ exProgram
example : checkStmts codeCfg exΓ none exProgram = .ok () := by decide +kernel
example : WellTypedStmts exΓ none exProgram :=
  (stmts_accept_iff_welltyped_for_cfg codeCfg exΓ exΓ_sigsOk none exProgram
    (coveredS_fixed exΓ exProgram)).mp (by decide +kernel)

/-- `T a = e1, b, c = e3;` is checked like `T a = e1; T b; T c = e3;` (every variable is examined,
the first diagnostic is the one of the first failing variable) -/
theorem decls_eq_sequence (cfg : Cfg) (Γ : Ctx) (ρ : Option ETy) :
    (ds : List (Nat × Option TExpr)) → (rest : Stmts) →
    checkStmts cfg Γ ρ (.cons (.decls ds) rest) =
      checkStmts cfg Γ ρ (ds.foldr (fun d acc => .cons (.decl d.1 d.2) acc) rest) := by
  intro ds
  induction ds with
  | nil => exact fun _ => ok_andThen _
  | cons d ds ih =>
    exact fun rest =>
      (andThen_assoc _ _ _).trans (congrArg ((checkDecl Γ d.1 d.2).andThen ·) (ih rest))

/-- a tower of `n` free blocks / loops / conditionals around `return e;` -/
def wrapRet (e : Option TExpr) : Nat → Stmts
  | 0 => .cons (.ret e) .nil
  | k + 1 =>
    if k % 3 = 0 then .cons (.block (wrapRet e k)) .nil
    else if k % 3 = 1 then .cons (.loop (wrapRet e k)) .nil
    else .cons (.ite (.litI 1) (wrapRet e k) .nil) .nil

theorem wellTyped_wrapRet (Γ : Ctx) (ρ : Option ETy) (e : Option TExpr) (n : Nat) :
    WellTypedStmts Γ ρ (wrapRet e n) ↔ WellTypedStmt Γ ρ (.ret e) := by
  fun_induction wrapRet e n with
  | case1 => exact and_iff_left trivial
  | case2 k h0 ih => exact (and_iff_left trivial).trans ih
  | case3 k h0 h1 ih => exact (and_iff_left trivial).trans ih
  | case4 k h0 h1 ih =>
    exact (and_iff_left trivial).trans
      ⟨fun h => ih.mp h.2.1, fun h => ⟨.litI 1, ih.mpr h, trivial⟩⟩

theorem return_checked_at_every_depth (Γ : Ctx) (hΓ : SigsOk Γ) (rt : ETy) (e : Option TExpr)
    (depth : Nat) :
    checkStmts codeCfg Γ none (.cons (.func rt (wrapRet e depth)) .nil) = .ok () ↔
      WellTypedStmt Γ (some rt) (.ret e) := by
  rw [stmts_accept_iff_welltyped Γ hΓ, ← wellTyped_wrapRet Γ (some rt) e depth]
  simp only [WellTypedStmts, WellTypedStmt, and_true]

-- `int fn0(int v0, float v1) { float v1 = v1, v1; if (v0) { loop { return fn0(v0--, (v1 : : 2.0)) + En0.c; } } return 1; }`
def exFuncProgram : Stmts :=
  .cons (.func (.value .int)
    (.cons (.decls [(1, some (.var 1 none)), (1, none)])
    (.cons (.ite (.var 0 none)
      (.cons (.loop (.cons (.ret (some (.binop .add
        (.callx true 0 .nil (.cons (.xcrement false false ⟨false, 0, none⟩)
          (.cons (.diffSwitch (.var 1 none) (.blank (.case (.litF 0x40000000) .nil))) .nil)))
        (.enumConst 0 3)))) .nil)) .nil) .nil)
    (.cons (.ret (some (.litI 1))) .nil)))) .nil

example : checkStmts codeCfg exΓ2 none exFuncProgram = .ok () := by decide +kernel
example : WellTypedStmts exΓ2 none exFuncProgram :=
  (stmts_accept_iff_welltyped exΓ2 exΓ2_sigsOk none exFuncProgram).mp (by decide +kernel)
-- a float in the second declarator of `float v1 = v1, v1 = 1;`, `return 1.5;` three levels deep in
-- an int function, `const int a = 1, b = 2.0;`: rejected
example : checkStmts codeCfg exΓ2 none (.cons (.script (.cons
    (.decls [(1, some (.litF 0)), (1, some (.litI 1))]) .nil)) .nil) = .err tyErr := rfl
example : checkStmts codeCfg exΓ2 none (.cons (.func (.value .int) (.cons (.block (.cons (.loop
    (.cons (.block (.cons (.ret (some (.litF 0x3fc00000))) .nil)) .nil)) .nil)) .nil)) .nil)
    = .err tyErr := rfl
example : checkStmts codeCfg exΓ2 none (.cons (.constDecls [(0, .litI 1), (0, .litF 0x40000000)]) .nil)
    = .err tyErr := rfl
example : checkStmts codeCfg exΓ2 none (.cons (.constDecls [(0, .litI 1), (0, .labelProp 2)]) .nil)
    = .ok () := by decide +kernel

-- free blocks nested three deep around an ill-typed assignment: rejected iff blocks are walked
def exNestedBlocks : Stmts :=
  .cons (.script (.cons (.block (.cons (.times none (.litI 2) (.cons (.block (.cons (.block
    (.cons (.assign ⟨true, 4, none⟩ .assign (.litI 1)) .nil)) .nil)) .nil)) .nil)) .nil)) .nil

example : checkStmts ⟨true, false, false⟩ exΓ none exNestedBlocks = .err tyErr := rfl
example : checkStmts ⟨false, false, false⟩ exΓ none exNestedBlocks = .ok () := by decide +kernel
example : LabelsConstsHarmlessS codeCfg exΓ exNestedBlocks := by
  simp [exNestedBlocks, LabelsConstsHarmlessS, LabelsConstsHarmless]

/-- `evalT`: the VM model of C11 extended with difficulty switches and the value `AstVm::eval` gives
`++v` / `v--` (the write to `v` is not modelled: `evalT` carries no state, so the statement speaks of one
read of each variable), enum constants and label properties as the values the compiler substitutes;
any float semantics, any difficulty. -/
theorem type_preservation (F : FloatOps) (Γ : Ctx) (cs : Consts) (env : Env)
    (hE : EnvOk Γ cs env) (x : XEnv) (hX : XEnvOk Γ x) (e : TExpr) (t : Ty)
    (h : HasType Γ e (.value t)) :
    ∀ v, evalT F cs env x e = .ok v → v.ty = t :=
  (preservationT_aux F Γ cs env hE x hX e t h).1

/-- the C11 form: on the expressions of the VM model of C11 (`erase`: literals, variables,
operators, ternaries), where `evalT` and `eval` coincide -/
theorem type_preservation_vm (F : FloatOps) (Γ : Ctx) (cs : Consts) (env : Env)
    (hE : EnvOk Γ cs env) (e : TExpr) (t : Ty) (h : HasType Γ e (.value t))
    (e' : Expr) (he : e.erase = some e') :
    ∀ v, eval F cs env e' = .ok v → v.ty = t := by
  -- any values for the constructs `erase` excludes
  let x : XEnv := ⟨0, fun en _ => if Γ.enumStr en then .str "" else .int 0, fun _ => 0⟩
  have hX : XEnvOk Γ x := ⟨by intro en n; simp only [x, Ctx.enumTy]; split <;> rfl⟩
  rw [← evalT_erase F cs env x e e' he]
  exact (preservationT_aux F Γ cs env hE x hX e t h).1

theorem evalT_eq_eval (F : FloatOps) (cs : Consts) (env : Env) (x : XEnv) (e : TExpr) (e' : Expr)
    (he : e.erase = some e') : evalT F cs env x e = eval F cs env e' :=
  evalT_erase F cs env x e e' he

theorem checked_type_is_dynamic_type (F : FloatOps) (Γ : Ctx) (hΓ : SigsOk Γ) (cs : Consts)
    (env : Env) (hE : EnvOk Γ cs env) (x : XEnv) (hX : XEnvOk Γ x) (e : TExpr) (t : Ty)
    (h : check Γ e = .ok (.value t)) :
    ∀ v, evalT F cs env x e = .ok v → v.ty = t :=
  type_preservation F Γ cs env hE x hX e t (check_sound Γ hΓ e _ h)

/-- the panics are the VM's / folder's "type_check should fail..."; `err` = division by zero, a
difficulty without a case, a call -/
theorem welltyped_eval_never_panics (F : FloatOps) (Γ : Ctx) (cs : Consts) (env : Env)
    (hE : EnvOk Γ cs env) (x : XEnv) (hX : XEnvOk Γ x) (e : TExpr) (t : Ty)
    (h : HasType Γ e (.value t)) :
    ∀ s, evalT F cs env x e ≠ .panic s :=
  (preservationT_aux F Γ cs env hE x hX e t h).2

/-- an environment for `exΓ`: the hypotheses of the theorems above are satisfiable -/
def exEnv : Env where
  reg r sig := match sig with
    | some .int => .int 0
    | some .float => .float 0
    | none => if r < 4 then .int 0 else .float 0
  loc n sig := match sig with
    | some .int => .int 0
    | some .float => .float 0
    | none => if n = 0 then .int 0 else if n = 1 then .float 0 else .str ""

example : EnvOk exΓ (fun _ => none) exEnv where
  const := fun _ _ h => nomatch h
  reg := by
    intro r sig t h
    cases sig with
    | some s => obtain ⟨rfl, _⟩ := h; cases s <;> rfl
    | none =>
      have h' : (if r < 4 then VarTy.typed .int else if r < 8 then .typed .float else .untyped) =
        .typed t := h
      show (if r < 4 then Value.int 0 else Value.float 0).ty = t
      by_cases h4 : r < 4
      · rw [if_pos h4] at h' ⊢; cases h'; rfl
      · rw [if_neg h4] at h' ⊢
        by_cases h8 : r < 8
        · rw [if_pos h8] at h'; cases h'; rfl
        · rw [if_neg h8] at h'; cases h'
  loc := by
    intro n sig t _ h
    cases sig with
    | some s => obtain ⟨rfl, _⟩ := h; cases s <;> rfl
    | none =>
      have h' : (if n = 0 then VarTy.typed .int else if n = 1 then .typed .float
        else if n = 2 then .typed .str else .untyped) = .typed t := h
      show (if n = 0 then Value.int 0 else if n = 1 then .float 0 else .str "").ty = t
      by_cases h0 : n = 0
      · rw [if_pos h0] at h' ⊢; cases h'; rfl
      · rw [if_neg h0] at h' ⊢
        by_cases h1 : n = 1
        · rw [if_pos h1] at h' ⊢; cases h'; rfl
        · rw [if_neg h1] at h' ⊢
          by_cases h2 : n = 2
          · rw [if_pos h2] at h'; cases h'; rfl
          · rw [if_neg h2] at h'; cases h'

/-- some float semantics (the examples below use no float operation) -/
def exF : FloatOps := ⟨fun a _ => a, fun a _ => a, fun a _ => a, fun a _ => a, fun a _ => a, id,
  fun _ _ => false, fun _ _ => false, fun _ _ => false, fun _ => 0, fun _ => 0, fun _ x => x⟩

/-- run-time values of the additional constructs for `exΓ2` (difficulty 2) -/
def exXEnv : XEnv := ⟨2, fun en _ => if en = 1 then .str "sub" else .int 7, fun _ => 40⟩

example : XEnvOk exΓ2 exXEnv := ⟨by intro en n; by_cases h : en = 1 <;> simp [exXEnv, exΓ2, Ctx.enumTy, h, Value.ty]⟩

-- `(1 : : $REG[0]++ : 4)` at difficulty 2 is the third case, at difficulty 1 the first
example : evalT exF (fun _ => none) exEnv exXEnv
    (.diffSwitch (.litI 1) (.blank (.case (.xcrement false true ⟨true, 0, some .int⟩)
      (.case (.litI 4) .nil)))) = .ok (.int 0) := by decide +kernel
example : evalT exF (fun _ => none) exEnv { exXEnv with diff := 1 }
    (.diffSwitch (.litI 1) (.blank (.case (.xcrement false true ⟨true, 0, some .int⟩)
      (.case (.litI 4) .nil)))) = .ok (.int 1) := by decide +kernel
example : evalT exF (fun _ => none) exEnv exXEnv (.xcrement true true ⟨true, 0, none⟩)
    = .ok (.int 1) := by decide +kernel

/-! ## 4b. Constants cannot be written to (`check_var_is_assignable`, the tree as repaired in 0757655) -/

/-- an assignment (any operator) whose target is a constant is rejected with
`cannot assign to a constant`, before anything else about it is examined, and is not
well-typed; likewise the clobber of `times(x = n)`. -/
theorem assign_to_const_rejected (cfg : Cfg) (Γ : Ctx) (ρ : Option ETy) (x : Nat)
    (sig : Option Sigil) (op : AssignOp) (e : TExpr) (hx : Γ.isConst x = true) :
    checkStmt cfg Γ ρ (.assign ⟨false, x, sig⟩ op e) = .err constAssignErr ∧
      ¬ WellTypedStmt Γ ρ (.assign ⟨false, x, sig⟩ op e) := by
  constructor
  · simp [checkStmt, checkAssign, checkAssignable, hx]
  · simp [WellTypedStmt, Assignable, hx]

-- `const string v2 = ..; v2 = "a";` is rejected although the types agree; `v0 = 1;` is fine
example : checkStmt codeCfg exΓ none (.assign ⟨false, 2, none⟩ .assign (.litS "a"))
    = .err constAssignErr := rfl
example : checkStmt codeCfg exΓ none (.assign ⟨false, 0, none⟩ .assign (.litI 1)) = .ok () := by
  decide +kernel

/-! ## 4c. `++` / `--` on a constant is rejected (the tree as repaired in e098828) -/

/-- all registers and variables int, variable 0 a constant (the same context as `wΓ` of section 5) -/
def wΓc : Ctx where
  regTy _ := .typed .int
  varTy _ := .typed .int
  sig _ := none
  isConst n := n = 0

/-- The rule `check_var_is_assignable` enforces for assignments and `times` clobbers, for `++` / `--`: whatever the
checker accepts writes to no constant. -/
def check_rejects_const_xcrement_full : Prop :=
  ∀ (Γ : Ctx) (e : TExpr) (t : ETy), check Γ e = .ok t → WritesOk Γ e

theorem check_rejects_const_xcrement_of_switch (hsw : checksXcrementTarget = true) :
    check_rejects_const_xcrement_full := by
  intro Γ e t hc pre inc v hv
  obtain ⟨t', ht'⟩ := subs_accepted Γ e t hc _ hv
  exact (checkAssignable_ok_iff Γ v).mp ((check_xcrement_inv ht').2.1 hsw)

theorem check_rejects_const_xcrement : check_rejects_const_xcrement_full :=
  check_rejects_const_xcrement_of_switch rfl

/-- `++` / `--` (any order, any direction, any sigil) on a constant is rejected with `cannot assign
to a constant` whenever the operand reads as some type, also when that type is not int (the
assignability test comes right after `check_var`, before `require_int`), and is not typable. -/
theorem xcrement_const_rejected (hsw : checksXcrementTarget = true) (Γ : Ctx) (pre inc : Bool)
    (x : Nat) (sig : Option Sigil) (t : Ty) (hx : Γ.isConst x = true)
    (hr : ReadTy (Γ.varTy x) sig t) :
    check Γ (.xcrement pre inc ⟨false, x, sig⟩) = .err constAssignErr ∧
      ∀ u, ¬ HasType Γ (.xcrement pre inc ⟨false, x, sig⟩) u := by
  constructor
  · have hv : checkVar (Γ.refTy ⟨false, x, sig⟩) sig = .ok t := by
      rw [checkVar_ok_iff]; simpa [Ctx.refTy] using hr
    simp [check, hsw, hv, checkAssignable, hx]
  · intro u h
    cases h with
    | xcrement _ ha => simp [Assignable, hx] at ha

-- `const int c; --c` and `const string s; s++`: both "cannot assign to a constant"
example : check wΓc (.xcrement true false ⟨false, 0, none⟩) = .err constAssignErr := rfl
example : check exΓ2 (.xcrement false true ⟨false, 2, none⟩) = .err constAssignErr := rfl
-- the same inside a program: `script s { if (--v0 > 0) goto l; }` with `v0` a constant
example : checkStmts codeCfg wΓc none (.cons (.script (.cons (.condJump
    (.binop .gt (.xcrement true false ⟨false, 0, none⟩) (.litI 0))) .nil)) .nil)
    = .err constAssignErr := rfl
-- a register or a local is fine
example : check wΓc (.xcrement true false ⟨false, 1, none⟩) = .ok (.value .int) := by decide +kernel

/-- The witness for `checksXcrementTarget = false` (the tree before e098828, whose `XcrementOp` arm calls
`check_var` and `require_int` only; known_findings.json "typecheck-accepts-illtyped xcrement-of-constant",
`truanm compile -g 8` of `const int c = 3; script s { l: if (--c > 0) goto l; }`, which then panics in
lowering): `--v0` on a constant is accepted although it writes to a constant. -/
theorem xcrement_const_accepted_when_unchecked (h : checksXcrementTarget = false) :
    check wΓc (.xcrement true false ⟨false, 0, none⟩) = .ok (.value .int) ∧
      ¬ WritesOk wΓc (.xcrement true false ⟨false, 0, none⟩) := by
  refine ⟨by simp [check, h, wΓc, Ctx.refTy, checkVar, readTy, requireExact], ?_⟩
  intro hw
  have := hw true false ⟨false, 0, none⟩ (by simp [subsE])
  simp [Assignable, wΓc] at this

theorem check_rejects_const_xcrement_status :
    if checksXcrementTarget then check_rejects_const_xcrement_full
    else ¬ check_rejects_const_xcrement_full := by
  split
  · rename_i hsw
    exact check_rejects_const_xcrement_of_switch hsw
  · rename_i hsw
    intro hfull
    have hw := xcrement_const_accepted_when_unchecked (by simpa using hsw)
    exact hw.2 (hfull _ _ _ hw.1)

/-! ## 5. Witnesses: the settings of the switches for which the property is false (the pinned tree's) -/

def wΓ : Ctx where
  regTy _ := .typed .int
  varTy _ := .typed .int
  sig _ := none
  isConst n := n = 0

theorem wΓ_sigsOk : SigsOk wΓ := by intro f ps h; cases h

/-- `script s { { $REG[0] = 1.0; } }` -/
def freeBlockWitness : Stmts :=
  .cons (.script (.cons (.block (.cons (.assign ⟨true, 0, none⟩ .assign (.litF 0x3f800000)) .nil))
    .nil)) .nil
/-- `script s { interrupt[1.5]: }` -/
def interruptWitness : Stmts := .cons (.script (.cons (.interruptLabel (.litF 0x3fc00000)) .nil)) .nil
/-- `script s { +1.5: }` -/
def relTimeWitness : Stmts := .cons (.script (.cons (.relTimeLabel (.litF 0x3fc00000)) .nil)) .nil
/-- `const int x = 1.5;` -/
def constDeclWitness : Stmts := .cons (.constDecl 0 (.litF 0x3fc00000)) .nil

theorem not_hasType_litF_int (Γ : Ctx) (v : UInt32) : ¬ HasType Γ (.litF v) (.value .int) := by
  intro h; cases h

/-- `StmtKind::Block { .. } => {}` (the pinned tree; known_findings.json "typecheck-accepts-illtyped
stmt=block", repaired in 9b7e57b): where free blocks are not walked, the ill-typed assignment inside one is
accepted. -/
theorem free_block_accepted (cfg : Cfg) (h : cfg.walksFreeBlocks = false) :
    checkStmts cfg wΓ none freeBlockWitness = .ok () ∧ ¬ WellTypedStmts wΓ none freeBlockWitness := by
  constructor
  · simp [freeBlockWitness, checkStmts, checkStmt, h, Outcome.andThen]
  · simp only [freeBlockWitness, WellTypedStmts, WellTypedStmt, and_true]
    rintro ⟨_, t, hr, he, _⟩
    cases hr
    exact not_hasType_litF_int _ _ he

/-- `StmtKind::InterruptLabel { .. } => {}` -/
theorem interrupt_label_accepted (cfg : Cfg) (h : cfg.checksLabelExprs = false) :
    checkStmts cfg wΓ none interruptWitness = .ok () ∧ ¬ WellTypedStmts wΓ none interruptWitness := by
  constructor
  · simp [interruptWitness, checkStmts, checkStmt, h, Outcome.andThen]
  · simp only [interruptWitness, WellTypedStmts, WellTypedStmt, and_true]
    exact not_hasType_litF_int _ _

/-- `StmtKind::RelTimeLabel { .. } => {}` -/
theorem rel_time_label_accepted (cfg : Cfg) (h : cfg.checksLabelExprs = false) :
    checkStmts cfg wΓ none relTimeWitness = .ok () ∧ ¬ WellTypedStmts wΓ none relTimeWitness := by
  constructor
  · simp [relTimeWitness, checkStmts, checkStmt, h, Outcome.andThen]
  · simp only [relTimeWitness, WellTypedStmts, WellTypedStmt, and_true]
    exact not_hasType_litF_int _ _

/-- `Item::ConstVar` is only reached through `walk_item`: the initialiser is checked on its own,
never against the declared type. -/
theorem const_decl_accepted (cfg : Cfg) (h : cfg.checksConstDeclTy = false) :
    checkStmts cfg wΓ none constDeclWitness = .ok () ∧ ¬ WellTypedStmts wΓ none constDeclWitness := by
  constructor
  · simp [constDeclWitness, checkStmts, checkStmt, checkConstDecl, h, check, Outcome.andThen]
  · simp only [constDeclWitness, WellTypedStmts, WellTypedStmt, and_true]
    rintro ⟨t, hx, he⟩
    cases hx
    exact not_hasType_litF_int _ _ he

theorem full_false_of_witness (w : Stmts)
    (h : checkStmts codeCfg wΓ none w = .ok () ∧ ¬ WellTypedStmts wΓ none w) :
    ¬ stmts_accept_iff_welltyped_full :=
  fun hfull => h.2 ((hfull wΓ wΓ_sigsOk none w).mp h.1)

/-- The full statement holds iff all three skipped constructs are examined (pinned tree: none
was); the theorem compiles for every setting of the switches in `Model/Types.lean`. -/
theorem stmts_accept_iff_welltyped_status :
    if codeCfg = fixedCfg then stmts_accept_iff_welltyped_full
    else ¬ stmts_accept_iff_welltyped_full := by
  split
  · rename_i h
    intro Γ hΓ ρ ss
    rw [h]
    exact stmts_accept_iff_welltyped_fixed Γ hΓ ρ ss
  · rename_i h
    by_cases h1 : codeCfg.walksFreeBlocks = false
    · exact full_false_of_witness _ (free_block_accepted codeCfg h1)
    · by_cases h2 : codeCfg.checksLabelExprs = false
      · exact full_false_of_witness _ (interrupt_label_accepted codeCfg h2)
      · by_cases h3 : codeCfg.checksConstDeclTy = false
        · exact full_false_of_witness _ (const_decl_accepted codeCfg h3)
        · exfalso; apply h
          cases hc : codeCfg with
          | mk a b c =>
            simp only [hc] at h1 h2 h3
            simp only [Bool.not_eq_false] at h1 h2 h3
            simp [fixedCfg, h1, h2, h3]

theorem stmts_accept_iff_welltyped_false_while_blocks_skipped
    (h : codeCfg.walksFreeBlocks = false) : ¬ stmts_accept_iff_welltyped_full :=
  full_false_of_witness _ (free_block_accepted codeCfg h)

/-- `ins_0(1, 2)` against the signature `S_f` (a padding parameter in the middle): the arity
test counts the two required parameters, the zip pairs the second argument with the padding
parameter, and the `f` parameter is never compared with anything. -/
def paddingΓ : Ctx where
  regTy _ := .untyped
  varTy _ := .untyped
  sig f := if f = 0 then some [⟨.typed .int, false⟩, ⟨.typed .int, true⟩, ⟨.typed .float, false⟩]
    else none
  isConst _ := false

def paddingWitness : TExpr := .call 0 (.cons (.litI 1) (.cons (.litI 2) .nil))

theorem padding_witness :
    check paddingΓ paddingWitness = .ok .void ∧ ¬ HasType paddingΓ paddingWitness .void := by
  constructor
  · decide
  · intro h
    cases h with
    | call hps hargs =>
      cases hps
      simp only [required] at hargs
      cases hargs with
      | cons _ _ hrest =>
        cases hrest with
        | cons h2 hp _ =>
          cases hp with
          | inl hp => cases hp
          | inr hp => cases hp; cases h2

theorem check_sound_needs_sigsOk : ¬ ∀ (Γ : Ctx) (e : TExpr) (t : ETy), check Γ e = .ok t → HasType Γ e t :=
  fun h => padding_witness.2 (h _ _ _ padding_witness.1)

/-- `return` outside of every function (`script s { return; }`) is `returnOutsideFunction`, for every
setting of the switches: the diagnostic `'return' outside of a function` (the tree as repaired in 0757655, which
the model follows) or the pinned tree's panic `cur_func_stack.last_mut().expect("return outside of
function?!")`; either way it is not accepted. -/
theorem return_outside_function_rejected (cfg : Cfg) (Γ : Ctx) (e : Option TExpr) :
    checkStmt cfg Γ none (.ret e) = returnOutsideFunction ∧
      (returnOutsideFunction = .panic "return outside of function?!" ∨
        ∃ c, returnOutsideFunction = .err c) := by
  refine ⟨by simp [checkStmt, checkReturn], ?_⟩
  simp [returnOutsideFunction]

end TruthModel.C09
