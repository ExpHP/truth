import TruthModel.Model.Diag
import TruthModel.Model.Pipeline
import TruthModel.Lemmas.Types
import TruthModel.Props.C09
/-
C04 — any text input ends in success or a rendered diagnostic, never a crash.

What is proved here (about the models in `Model/Diag.lean` and `Model/Pipeline.lean`):

1. error plumbing: for every trace of emitter / `ErrorFlag` / `collect_with_recovery` / `?`
   operations the failing token is honest, a rendered error that was not explicitly ignored or
   dropped makes the run fail, and for disciplined traces the exit status is 1 iff an
   error-severity diagnostic was rendered (`exit_iff_error`); the ways the API leaves to break the
   iff are exhibited as witnesses.
2. spans: what the parser glue builds from valid lexer token spans is valid and renders; rendering
   panics exactly when a label's file is unknown, and a file-less span (`Span::NULL`) given to
   `primary` / `secondary` becomes a note (the model follows the tree as repaired in c4ddfe9).
3. progress: for every program, in every context with `SigsOk`, the composition type check ->
   const-variable evaluation -> const simplification reaches no `panic` outcome (`progress_partial`): the
   type-checker model has no panic of its own, and what it accepts panics in neither later pass.

NOT modelled (searched only, see harness/src/props/c04.rs): the logos lexer, the LALRPOP parser
tables, the mapfile / seqmap / ABI parsers, name resolution errors, lowering, codespan rendering.
-/
namespace TruthModel.C04
open TruthModel TruthModel.Diag

def stackVis (st : List Val) : Bool := st.any Val.vis

/-- evidence held by the machine that an error was rendered -/
def evid (s : State) : Bool := stackVis s.stack || decide (0 < s.lost)

def Inv (s : State) : Prop := evid s = hasErr s.log

def elemVis : Elem → Bool
  | none => false
  | some (w, ds) => (emitTok w ds).vis

/-- the operation renders an error-severity diagnostic on a visible writer, whether or not its token is kept -/
def _root_.TruthModel.Diag.Op.evidence : Op → Bool
  | .emit w ds => (emitTok w ds).vis
  | .emitIgnore w ds => (emitTok w ds).vis
  | .collectEmit es => es.any elemVis
  | _ => false

@[simp] theorem vis_tok (t : Token) : Val.vis (.tok t) = t.vis := rfl
@[simp] theorem vis_flag_none : Val.vis (.flag none) = false := rfl
@[simp] theorem vis_flag_some (t : Token) : Val.vis (.flag (some t)) = t.vis := rfl
@[simp] theorem vis_res_ok (u : Unit) : Val.vis (.res (.ok u)) = false := rfl
@[simp] theorem vis_res_error (t : Token) : Val.vis (.res (.error t)) = t.vis := rfl

theorem hasErr_emitLog (w : Writer) (ds : List Severity) (log : Log) :
    hasErr (emitLog w ds log) = (hasErr log || (emitTok w ds).vis) := by
  unfold emitLog emitTok hasErr
  cases hw : w.visible <;> simp [List.any_append, List.any_map, Function.comp_def]

theorem vis_setFlag (f : Option Token) (t : Token) :
    Val.vis (.flag (setFlag f t)) = (Val.vis (.flag f) || t.vis) := by
  cases f <;> simp [setFlag]

theorem vis_absorb (f : Option Token) (r : Except Token Unit) :
    Val.vis (.flag (absorb f r)) = (Val.vis (.flag f) || Val.vis (.res r)) := by
  cases r with
  | ok u => simp [absorb]
  | error t => simp [absorb, vis_setFlag]

theorem vis_flagResult (f : Option Token) : Val.vis (.res (flagResult f)) = Val.vis (.flag f) := by
  cases f <;> simp [flagResult]

theorem vis_foldl_absorb (rs : List (Except Token Unit)) (f : Option Token) :
    Val.vis (.flag (rs.foldl absorb f)) = (Val.vis (.flag f) || rs.any (fun r => Val.vis (.res r))) := by
  induction rs generalizing f with
  | nil => simp
  | cons r rs ih => simp [List.foldl, ih, vis_absorb, Bool.or_assoc]

theorem vis_collectRes (rs : List (Except Token Unit)) :
    Val.vis (.res (collectRes rs)) = rs.any (fun r => Val.vis (.res r)) := by
  simp [collectRes, vis_flagResult, vis_foldl_absorb]

theorem runElems_spec (es : List Elem) (log : Log) (f : Option Token) :
    hasErr (runElems es log f).1 = (hasErr log || es.any elemVis) ∧
    Val.vis (.flag (runElems es log f).2) = (Val.vis (.flag f) || es.any elemVis) := by
  fun_induction runElems es log f with
  | case1 log f => simp
  | case2 es log f ih => simp [ih, elemVis]
  | case3 w ds es log f ih => simp [ih, elemVis, hasErr_emitLog, vis_setFlag, Bool.or_assoc]

/-! ### The shape all operations share

A successful step replaces some values `old` on top of the stack by values `new`, appends to the
log and counts what it lost; which values, is a table.  The invariants below are each one fact
about the table. -/

/-- `dl`: a value that stood for a rendered error was ignored or dropped -/
inductive Rewrites (log : Log) : Op → List Val → List Val → Bool → Prop
  | emit (w ds) : Rewrites log (.emit w ds) [] [.tok (emitTok w ds)] false
  | emitIgnore (w ds) : Rewrites log (.emitIgnore w ds) [] [] (emitTok w ds).vis
  | ignore (t) : Rewrites log .ignore [.tok t] [] t.vis
  | drop (v) : Rewrites log .drop [v] [] v.vis
  | flagNew : Rewrites log .flagNew [] [.flag none] false
  | flagSet (t f) : Rewrites log .flagSet [.tok t, .flag f] [.flag (setFlag f t)] false
  | flagRes (f) : Rewrites log .flagRes [.flag f] [.res (flagResult f)] false
  | errOf (t) : Rewrites log .errOf [.tok t] [.res (.error t)] false
  | okUnit : Rewrites log .okUnit [] [.res (.ok ())] false
  | orElse (r f) : Rewrites log .orElse [.res r, .flag f] [.flag (absorb f r)] false
  | collect (rs) : Rewrites log (.collect rs.length) (rs.reverse.map .res) [.res (collectRes rs)] false
  | collectEmit (es) :
      Rewrites log (.collectEmit es) [] [.res (flagResult (runElems es log none).2)] false
  | try_ (u) : Rewrites log .try_ [.res (.ok u)] [] false

def stepLog (log : Log) : Op → Log
  | .emit w ds | .emitIgnore w ds => emitLog w ds log
  | .collectEmit es => (runElems es log none).1
  | _ => log

theorem popRes_eq_some (n : Nat) (st : List Val) (rs : List (Except Token Unit)) (st' : List Val)
    (h : popRes n st = some (rs, st')) : st = rs.reverse.map .res ++ st' ∧ rs.length = n := by
  fun_induction popRes n st generalizing rs with
  | case1 st => cases h; exact ⟨rfl, rfl⟩
  | case2 n r st rs0 st0 hp ih =>
    cases h
    obtain ⟨rfl, rfl⟩ := ih rs0 hp
    simp
  | case3 n r st hp ih => cases h
  | case4 n st hne => cases h

theorem step_shape {s s' : State} {op : Op} (h : step s op = .next s') :
    ∃ old new rest dl, Rewrites s.log op old new dl ∧ s.stack = old ++ rest ∧
      s' = ⟨new ++ rest, stepLog s.log op, s.lost + (if dl then 1 else 0)⟩ := by
  revert h
  -- one case per arm of `step` and per arm of its `match` on the stack; the others are `stuck`
  fun_cases step s op with
  | case1 w ds => rintro ⟨⟩; exact ⟨_, _, _, _, .emit w ds, rfl, rfl⟩
  | case2 w ds => rintro ⟨⟩; exact ⟨_, _, _, _, .emitIgnore w ds, rfl, rfl⟩
  | case3 t st hs => rintro ⟨⟩; exact ⟨_, _, _, _, .ignore t, hs, rfl⟩
  | case5 v st hs => rintro ⟨⟩; exact ⟨_, _, _, _, .drop v, hs, rfl⟩
  | case7 => rintro ⟨⟩; exact ⟨_, _, _, _, .flagNew, rfl, rfl⟩
  | case8 t f st hs => rintro ⟨⟩; exact ⟨_, _, _, _, .flagSet t f, hs, rfl⟩
  | case10 f st hs => rintro ⟨⟩; exact ⟨_, _, _, _, .flagRes f, hs, rfl⟩
  | case12 t st hs => rintro ⟨⟩; exact ⟨_, _, _, _, .errOf t, hs, rfl⟩
  | case14 => rintro ⟨⟩; exact ⟨_, _, _, _, .okUnit, rfl, rfl⟩
  | case15 r f st hs => rintro ⟨⟩; exact ⟨_, _, _, _, .orElse r f, hs, rfl⟩
  | case17 n rs st hp =>
    rintro ⟨⟩
    obtain ⟨hs, rfl⟩ := popRes_eq_some n s.stack rs st hp
    exact ⟨_, _, _, _, .collect rs, hs, rfl⟩
  | case19 es log f hr =>
    rintro ⟨⟩
    exact ⟨_, _, _, _, .collectEmit es, rfl, by rw [stepLog, hr]; rfl⟩
  | case20 u st hs => rintro ⟨⟩; exact ⟨_, _, _, _, .try_ u, hs, rfl⟩
  | _ => exact nofun

/-- `?` is the only operation that halts: on an error result, leaving the state as it is -/
theorem step_halt_stack (s s' : State) (op : Op) (t : Token) (h : step s op = .halt t s') :
    s' = s ∧ ∃ st, s.stack = .res (.error t) :: st := by
  revert h
  fun_cases step s op with
  | case21 t0 st hs => rintro ⟨⟩; exact ⟨rfl, st, hs⟩
  | _ => exact nofun

theorem stackVis_append (a b : List Val) : stackVis (a ++ b) = (stackVis a || stackVis b) :=
  List.any_append

theorem Rewrites.vis {log : Log} {op : Op} {old new : List Val} {dl : Bool}
    (h : Rewrites log op old new dl) : (stackVis new || dl) = (stackVis old || op.evidence) := by
  cases h with
  | flagSet t f => simp [stackVis, Op.evidence, vis_setFlag, Bool.or_comm]
  | flagRes f => simp [stackVis, Op.evidence, vis_flagResult]
  | orElse r f => simp [stackVis, Op.evidence, vis_absorb, Bool.or_comm]
  | collect rs => simp [stackVis, Op.evidence, vis_collectRes, List.any_map, Function.comp_def]
  | collectEmit es => simp [stackVis, Op.evidence, vis_flagResult, (runElems_spec es log none).2]
  | _ => simp [stackVis, Op.evidence]

theorem hasErr_stepLog (log : Log) (op : Op) :
    hasErr (stepLog log op) = (hasErr log || op.evidence) := by
  cases op with
  | emit w ds | emitIgnore w ds => exact hasErr_emitLog w ds log
  | collectEmit es => exact (runElems_spec es log none).1
  | _ => exact (Bool.or_false _).symm

theorem lost_add (n : Nat) (b : Bool) :
    decide (0 < n + (if b then 1 else 0)) = (decide (0 < n) || b) := by
  cases b <;> simp

theorem inv_init : Inv State.init := by unfold Inv; rfl

/-! ### Runs

A run ends with its result on top of the stack (alone there, unless `?` returned early), in a
state that satisfies every invariant of the steps taken. -/

theorem exec_end (I : State → Prop) (c : Op → Prop)
    (hstep : ∀ s s' op, c op → I s → step s op = .next s' → I s') {r : Except Token Unit}
    {s' : State} (ops : List Op) (s : State) (hc : ∀ op ∈ ops, c op) (hi : I s)
    (h : exec s ops = some (r, s')) :
    I s' ∧ ∃ st, s'.stack = .res r :: st ∧ (∀ u, r = .ok u → st = []) := by
  fun_induction exec s ops with
  | case1 s r0 hst => cases h; exact ⟨hi, [], hst, fun _ _ => rfl⟩
  | case2 s hne => cases h
  | case3 s op ops s1 hs ih =>
    exact ih (fun o ho => hc o (List.mem_cons_of_mem _ ho))
      (hstep s s1 op (hc op List.mem_cons_self) hi hs) h
  | case4 s op ops t s1 hs =>
    cases h
    obtain ⟨rfl, st, hst⟩ := step_halt_stack s _ op t hs
    exact ⟨hi, st, hst, nofun⟩
  | case5 s op ops hs => cases h

/-- both sides of the invariant grow by `op.evidence` -/
theorem inv_step (s s' : State) (op : Op) (hi : Inv s) (h : step s op = .next s') : Inv s' := by
  obtain ⟨old, new, rest, dl, hr, hs, rfl⟩ := step_shape h
  unfold Inv evid at hi ⊢
  rw [hasErr_stepLog, ← hi]
  simp only [hs, stackVis_append, lost_add]
  rw [show (stackVis new || stackVis rest || (decide (0 < s.lost) || dl)) =
    ((stackVis new || dl) || stackVis rest || decide (0 < s.lost)) by ac_rfl, hr.vis]
  ac_rfl

theorem exec_inv {ops : List Op} {s s' : State} {r : Except Token Unit} (hi : Inv s)
    (h : exec s ops = some (r, s')) :
    Inv s' ∧ ∃ st, s'.stack = .res r :: st ∧ (∀ u, r = .ok u → st = []) :=
  exec_end Inv (fun _ => True) (fun s s' op _ => inv_step s s' op) ops s (fun _ _ => trivial) hi h

/-- **The failing token is honest.**  For every trace, from every state satisfying the invariant
(e.g. the initial one): if the run fails with a token whose ghost bit says "an error was
rendered", the log does contain an error-severity diagnostic.  (The ghost bit is set only by
`emit`; no operation can forge it.) -/
theorem fail_token_honest (ops : List Op) (s : State) (hi : Inv s) (t : Token) (s' : State)
    (h : exec s ops = some (.error t, s')) (hv : t.vis = true) : hasErr s'.log = true := by
  obtain ⟨hinv, st, hst, _⟩ := exec_inv hi h
  unfold Inv evid at hinv
  rw [← hinv, hst]
  simp [stackVis, hv]

/-- **A rendered error makes the run fail**, unless its token was explicitly ignored or a value
holding it was dropped (`lost` counts those). -/
theorem error_implies_fail (ops : List Op) (s : State) (hi : Inv s) (r : Except Token Unit)
    (s' : State) (h : exec s ops = some (r, s')) (hl : s'.lost = 0)
    (he : hasErr s'.log = true) : exitCode r = 1 := by
  obtain ⟨hinv, st, hst, hok⟩ := exec_inv hi h
  unfold Inv evid at hinv
  rw [he, hl, hst] at hinv
  -- the evidence is on the final stack, which holds the result alone if that is `Ok`
  cases r with
  | error t => rfl
  | ok u => rw [hok u rfl] at hinv; simp [stackVis] at hinv

/-! ### What the kept tokens have in common

Tokens are made by `emit` only, and `ErrorFlag::set` keeps the earliest one and joins the ghost
bits.  So a property `P` of tokens that joining preserves holds of every token on the stack as soon
as it holds of the tokens the operations of the trace create and keep.  With `P t = t.vis` that is
discipline; with the empty `P` it says that no token is kept at all. -/

def Val.all (P : Token → Bool) : Val → Bool
  | .tok t | .flag (some t) | .res (.error t) => P t
  | .flag none | .res (.ok _) => true

/-- every token the operation creates and keeps satisfies `P` -/
def _root_.TruthModel.Diag.Op.keeps (P : Token → Bool) : Op → Bool
  | .emit w ds => P (emitTok w ds)
  | .collectEmit es => es.all fun e =>
      match e with
      | none => true
      | some (w, ds) => P (emitTok w ds)
  | _ => true

theorem keeps_vis (op : Op) : op.keeps (·.vis) = op.disciplined := by cases op <;> rfl

theorem keeps_none (op : Op) : op.keeps (fun _ => false) = op.tokenFree := by
  cases op with
  | collectEmit es => exact congrArg es.all (funext fun e => by cases e <;> rfl)
  | _ => rfl

section
variable {P : Token → Bool} (hP : ∀ a b : Token, P a = true → P b = true → P ⟨a.vis || b.vis⟩ = true)
include hP

theorem all_setFlag (f : Option Token) (t : Token) (hf : Val.all P (.flag f) = true)
    (ht : P t = true) : Val.all P (.flag (setFlag f t)) = true := by
  cases f with
  | none => exact ht
  | some t0 => exact hP t0 t hf ht

theorem all_absorb (f : Option Token) (r : Except Token Unit) (hf : Val.all P (.flag f) = true)
    (hr : Val.all P (.res r) = true) : Val.all P (.flag (absorb f r)) = true := by
  cases r with
  | ok u => exact hf
  | error t => exact all_setFlag hP f t hf hr

omit hP in
theorem all_flagResult (f : Option Token) (hf : Val.all P (.flag f) = true) :
    Val.all P (.res (flagResult f)) = true := by
  cases f <;> exact hf

theorem all_foldl (rs : List (Except Token Unit)) (f : Option Token)
    (hf : Val.all P (.flag f) = true) (hr : ∀ r ∈ rs, Val.all P (.res r) = true) :
    Val.all P (.flag (rs.foldl absorb f)) = true := by
  induction rs generalizing f with
  | nil => exact hf
  | cons r rs ih =>
    exact ih _ (all_absorb hP f r hf (hr r List.mem_cons_self))
      fun x hx => hr x (List.mem_cons_of_mem _ hx)

theorem runElems_all (es : List Elem) (log : Log) (f : Option Token)
    (hf : Val.all P (.flag f) = true)
    (he : (es.all fun e => match e with
      | none => true
      | some (w, ds) => P (emitTok w ds)) = true) :
    Val.all P (.flag (runElems es log f).2) = true := by
  induction es generalizing log f with
  | nil => exact hf
  | cons e es ih =>
    rw [List.all_cons, Bool.and_eq_true] at he
    cases e with
    | none => exact ih log f hf he.2
    | some p => exact ih _ _ (all_setFlag hP f _ hf he.1) he.2

theorem Rewrites.all {log : Log} {op : Op} {old new : List Val} {dl : Bool}
    (h : Rewrites log op old new dl) (hk : op.keeps P = true)
    (hc : old.all (Val.all P) = true) : new.all (Val.all P) = true := by
  cases h with
  | emit w ds => exact (Bool.and_true _).trans hk
  | flagSet t f =>
    simp only [List.all_cons, List.all_nil, Bool.and_true, Bool.and_eq_true] at hc ⊢
    exact all_setFlag hP f t hc.2 hc.1
  | flagRes f =>
    simp only [List.all_cons, List.all_nil, Bool.and_true] at hc ⊢
    exact all_flagResult f hc
  | errOf t => exact hc
  | orElse r f =>
    simp only [List.all_cons, List.all_nil, Bool.and_true, Bool.and_eq_true] at hc ⊢
    exact all_absorb hP f r hc.2 hc.1
  | collect rs =>
    simp only [List.all_cons, List.all_nil, Bool.and_true]
    exact all_flagResult _ (all_foldl hP rs none rfl fun r hr =>
      List.all_eq_true.mp hc _ (List.mem_map_of_mem (List.mem_reverse.mpr hr)))
  | collectEmit es =>
    simp only [List.all_cons, List.all_nil, Bool.and_true]
    exact all_flagResult _ (runElems_all hP es log none rfl hk)
  | _ => rfl

theorem all_step (s s' : State) (op : Op) (hk : op.keeps P = true)
    (hc : s.stack.all (Val.all P) = true) (h : step s op = .next s') :
    s'.stack.all (Val.all P) = true := by
  obtain ⟨old, new, rest, dl, hr, hs, rfl⟩ := step_shape h
  rw [hs, List.all_append, Bool.and_eq_true] at hc
  rw [List.all_append, hr.all hP hk hc.1, hc.2]
  rfl

end

/-- **Exit status iff error diagnostic.**  For every disciplined trace (every token that is kept
comes from an emit that rendered an error-severity diagnostic on a visible writer; warnings are
emitted with `.ignore()`) in which no error-bearing token was ignored or dropped: the process exit
status is 1 iff the log contains an error-severity diagnostic. -/
theorem exit_iff_error (ops : List Op) (hd : ∀ op ∈ ops, op.disciplined = true)
    (r : Except Token Unit) (s : State) (h : exec State.init ops = some (r, s)) (hl : s.lost = 0) :
    exitCode r = 1 ↔ hasErr s.log = true := by
  constructor
  · intro he
    cases r with
    | ok u => cases he
    | error t =>
      -- in a disciplined trace the failing token stands for a rendered error
      obtain ⟨hc, st, hst, _⟩ :=
        exec_end (·.stack.all (Val.all (·.vis)) = true) (·.keeps (·.vis) = true)
          (all_step fun a b ha _ => by rw [ha]; rfl) ops State.init
          (fun op ho => (keeps_vis op).trans (hd op ho)) rfl h
      rw [hst, List.all_cons, Bool.and_eq_true] at hc
      exact fail_token_honest ops State.init inv_init t s h hc.1
  · exact error_implies_fail ops State.init inv_init r s h hl

/-- **Warnings alone never fail.**  A trace that keeps no token (every diagnostic, of whatever
severity, is emitted with `.ignore()`; iterators given to `collect_with_recovery` yield only `Ok`)
exits with status 0. -/
theorem warnings_never_fail (ops : List Op) (hd : ∀ op ∈ ops, op.tokenFree = true)
    (r : Except Token Unit) (s : State) (h : exec State.init ops = some (r, s)) : exitCode r = 0 := by
  obtain ⟨hc, st, hst, _⟩ :=
    exec_end (·.stack.all (Val.all fun _ => false) = true) (·.keeps (fun _ => false) = true)
      (all_step fun _ _ ha => nomatch ha) ops State.init
      (fun op ho => (keeps_none op).trans (hd op ho)) rfl h
  rw [hst] at hc
  cases r with
  | ok u => rfl
  | error t => cases hc

def elemEntries : Elem → Log
  | none => []
  | some (w, ds) => if w.visible then ds.map (fun s => ⟨s, w.depth⟩) else []

theorem runElems_log (es : List Elem) (log : Log) (f : Option Token) :
    (runElems es log f).1 = log ++ es.flatMap elemEntries := by
  induction es generalizing log f with
  | nil => simp [runElems]
  | cons e es ih =>
    cases e with
    | none => simp [runElems, ih, elemEntries]
    | some p =>
      simp only [runElems, ih, emitLog, elemEntries, List.flatMap_cons]
      split <;> simp

theorem runElems_flag (es : List Elem) (log : Log) (f : Option Token) :
    (runElems es log f).2.isSome = (f.isSome || es.any (·.isSome)) := by
  fun_induction runElems es log f with
  | case1 log f => simp
  | case2 es log f ih => simp [ih]
  | case3 w ds es log f ih =>
    simp only [ih]
    cases f <;> simp [setFlag]

/-- **`collect_with_recovery` reports every element's error**: all elements are evaluated (the
diagnostics of every failing element are in the log, in order, none skipped after the first
failure), and the result is `Err` iff some element failed. -/
theorem collect_reports_every_error (es : List Elem) (s s' : State)
    (h : step s (.collectEmit es) = .next s') :
    s'.log = s.log ++ es.flatMap elemEntries ∧
    ∃ r, s'.stack = .res r :: s.stack ∧ (exitCode r = 1 ↔ es.any (·.isSome) = true) := by
  cases h
  refine ⟨runElems_log es s.log none, _, rfl, ?_⟩
  have hf := runElems_flag es s.log none
  cases hr : (runElems es s.log none).2 with
  | none =>
    rw [hr] at hf
    exact ⟨fun h => (nomatch h), fun h => (nomatch hf.trans h)⟩
  | some t =>
    rw [hr] at hf
    exact ⟨fun _ => hf.symm, fun _ => rfl⟩

/-! ### Non-vacuity and the ways around the iff that the API leaves open -/

/-- a disciplined trace with an error in an iterator, a warning, and a flag: fails, error in the log -/
def exTrace : List Op :=
  [.flagNew, .emitIgnore .root [.warning],
   .collectEmit [none, some (.chain 2, [.error]), none, some (.root, [.error, .note])], .orElse,
   .okUnit, .try_, .flagRes]

example : ∀ op ∈ exTrace, op.disciplined = true := by decide +kernel
example : (exec State.init exTrace).map (fun p => (exitCode p.1, p.2.log.length, p.2.lost)) = some (1, 4, 0) := by
  decide +kernel
example : ∀ op ∈ [Op.emitIgnore .root [.warning], .okUnit], op.tokenFree = true := by decide +kernel
example : (exec State.init [.emitIgnore .root [.warning], .okUnit]).map (fun p => exitCode p.1) = some 0 := by
  decide +kernel

/-- `Err(emitter.emit(warning!(..)))`: the API hands out a token for a warning.  The run fails
and no error-severity diagnostic is in the log (the defect class of the fixed finding
"read-fails-without-error-diagnostic", C16). -/
theorem warning_as_error_fails_silently :
    ∃ t s, exec State.init [.emit .root [.warning], .errOf] = some (.error t, s) ∧
      hasErr s.log = false ∧ t.vis = false := ⟨_, _, rfl, by decide, rfl⟩

/-- `emit(Vec::new())` and `DummyEmitter` / `dev_null()` emitters hand out tokens as well -/
theorem empty_emit_fails_silently :
    (∃ t s, exec State.init [.emit .root [], .errOf] = some (.error t, s) ∧ s.log = []) ∧
    (∃ t s, exec State.init [.emit .dummy [.error], .errOf] = some (.error t, s) ∧ s.log = []) ∧
    (∃ t s, exec State.init [.emit .null [.error], .errOf] = some (.error t, s) ∧ s.log = []) :=
  ⟨⟨_, _, rfl, rfl⟩, ⟨_, _, rfl, rfl⟩, ⟨_, _, rfl, rfl⟩⟩

/-- an `ErrorFlag` that is set and then goes out of scope without `into_result`: error rendered,
exit status 0.  The API allows it (known_findings.json "success-after-error-diagnostic ecl":
`src/formats/ecl/ecl_10.rs`, modern ECL, where b5d9cfe adds `errors.into_result(())?`). -/
theorem dropped_flag_succeeds_after_error :
    ∃ s, exec State.init [.flagNew, .emit .root [.error], .flagSet, .drop, .okUnit] = some (.ok (), s) ∧
      hasErr s.log = true ∧ s.lost = 1 := ⟨_, rfl, by decide, rfl⟩

theorem exit_iff_error_needs_discipline :
    ¬ ∀ (ops : List Op) (r : Except Token Unit) (s : State), exec State.init ops = some (r, s) →
      (exitCode r = 1 ↔ hasErr s.log = true) := by
  intro h
  obtain ⟨t, s, he, hl, _⟩ := warning_as_error_fails_silently
  have := (h _ _ _ he).1 rfl
  rw [hl] at this
  cases this

/-! ### Spans: valid means inside a known file on character boundaries; joins of token spans are, and render -/

theorem isCharBoundary_zero (src : List UInt8) : isCharBoundary src 0 = true := by simp [isCharBoundary]
theorem isCharBoundary_len (src : List UInt8) : isCharBoundary src src.length = true := by
  simp [isCharBoundary]

structure _root_.TruthModel.Diag.Span.In (fs : Files) (s : Span) (f : Nat) (src : List UInt8) : Prop where
  file : s.file = some f
  text : fs[f]? = some src
  le : s.lo ≤ s.hi
  inside : s.hi ≤ src.length
  loB : isCharBoundary src s.lo = true
  hiB : isCharBoundary src s.hi = true

theorem valid_iff (fs : Files) (s : Span) : s.valid fs = true ↔ ∃ f src, s.In fs f src := by
  obtain ⟨file, lo, hi⟩ := s
  unfold Span.valid
  cases file with
  | none => exact ⟨fun h => (nomatch h), fun ⟨_, _, h⟩ => nomatch h.file⟩
  | some f =>
    dsimp only
    cases hg : fs[f]? with
    | none =>
      refine ⟨fun h => (nomatch h), ?_⟩
      rintro ⟨_, _, h⟩; cases h.file; exact nomatch hg.symm.trans h.text
    | some src =>
      simp only [Bool.and_eq_true, decide_eq_true_eq, and_assoc]
      constructor
      · rintro ⟨h1, h2, h3, h4⟩; exact ⟨f, src, rfl, hg, h1, h2, h3, h4⟩
      · rintro ⟨_, _, h⟩; cases h.file; cases hg.symm.trans h.text; exact ⟨h.le, h.inside, h.loB, h.hiB⟩

theorem _root_.TruthModel.Diag.Span.In.same {fs : Files} {a b : Span} {f f' : Nat} {src src' : List UInt8} (ha : a.In fs f src)
    (hb : b.In fs f' src') (hf : a.file = b.file) : b.In fs f src := by
  cases ha.file.symm.trans (hf.trans hb.file)
  cases ha.text.symm.trans hb.text
  exact hb

theorem valid_known (fs : Files) (s : Span) (h : s.valid fs = true) : s.known fs = true := by
  obtain ⟨f, src, hs⟩ := (valid_iff fs s).mp h
  unfold Span.known
  rw [hs.file]
  exact decide_eq_true (List.getElem?_eq_some_iff.mp hs.text).1

theorem built_spans_valid (fs : Files) (toks : List Span) (ht : ∀ t ∈ toks, t.valid fs = true)
    (s : Span) (h : Built fs toks s) : s.valid fs = true := by
  induction h with
  | tok hm => exact ht _ hm
  | @join a b _ _ hf hle iha ihb =>
    obtain ⟨f, src, ha⟩ := (valid_iff fs a).mp iha
    obtain ⟨_, _, hb⟩ := (valid_iff fs b).mp ihb
    have hb := ha.same hb hf
    exact (valid_iff fs _).mpr ⟨f, src, ha.file, ha.text, hle, hb.inside, ha.loB, hb.hiB⟩
  | @merge a b _ _ hf iha ihb =>
    obtain ⟨f, src, ha⟩ := (valid_iff fs a).mp iha
    obtain ⟨_, _, hb⟩ := (valid_iff fs b).mp ihb
    have hb := ha.same hb hf
    refine (valid_iff fs _).mpr ⟨f, src, ha.file, ha.text,
      Nat.le_trans (Nat.min_le_left _ _) (Nat.le_trans ha.le (Nat.le_max_left _ _)),
      Nat.max_le.mpr ⟨ha.inside, hb.inside⟩, ?_, ?_⟩
    · simp only [Nat.min_def]; split
      · exact ha.loB
      · exact hb.loB
    · simp only [Nat.max_def]; split
      · exact hb.hiB
      · exact ha.hiB
  | @start a _ iha =>
    obtain ⟨f, src, ha⟩ := (valid_iff fs a).mp iha
    exact (valid_iff fs _).mpr ⟨f, src, ha.file, ha.text, Nat.le_refl _, Nat.le_trans ha.le ha.inside, ha.loB, ha.loB⟩
  | @stop a _ iha =>
    obtain ⟨f, src, ha⟩ := (valid_iff fs a).mp iha
    exact (valid_iff fs _).mpr ⟨f, src, ha.file, ha.text, Nat.le_refl _, ha.inside, ha.hiB, ha.hiB⟩
  | @initial f src hsrc =>
    exact (valid_iff fs _).mpr ⟨f, src, rfl, hsrc, Nat.le_refl _, Nat.zero_le _, isCharBoundary_zero src, isCharBoundary_zero src⟩
  | @eof f src hsrc =>
    exact (valid_iff fs _).mpr ⟨f, src, rfl, hsrc, Nat.le_refl _, Nat.le_refl _, isCharBoundary_len src, isCharBoundary_len src⟩

/-- the combinators do not hit their assertions on spans of one file in source order -/
theorem join_ok (a b : Span) (hle : a.lo ≤ b.hi) :
    Span.join a b = .ok ⟨a.file, a.lo, b.hi⟩ := by simp [Span.join, Span.new, hle]

theorem merge_ok (fs : Files) (a b : Span) (ha : a.valid fs = true) (hb : b.valid fs = true)
    (hf : a.file = b.file) : Span.merge a b = .ok ⟨a.file, min a.lo b.lo, max a.hi b.hi⟩ := by
  -- `a` alone spans the merged range
  have _ := hb
  obtain ⟨_, _, ha⟩ := (valid_iff fs a).mp ha
  have : min a.lo b.lo ≤ max a.hi b.hi :=
    Nat.le_trans (Nat.min_le_left _ _) (Nat.le_trans ha.le (Nat.le_max_left _ _))
  simp [Span.merge, Span.new, hf, this]

/-- the assertions are reachable otherwise (they are what the model's `panic` arms mirror) -/
theorem merge_panics_across_files (a b : Span) (h : a.file ≠ b.file) :
    Span.merge a b = .panic "assertion `left == right` failed" := by simp [Span.merge, h]
theorem new_panics_reversed (f : Option Nat) (lo hi : Nat) (h : hi < lo) :
    Span.new f lo hi = .panic "assertion failed: end >= start" := by
  unfold Span.new; exact if_neg (Nat.not_le.mpr h)

/-- codespan only looks the file of a label up -/
theorem render_eq (fs : Files) (labels : List Span) :
    render fs labels = if labels.all (·.known fs) = true then .ok ()
      else .panic "Internal compiler error while formatting error" := by
  induction labels with
  | nil => rfl
  | cons l ls ih =>
    rw [render, renderLabel, List.all_cons]
    cases l.known fs with
    | true => exact ih
    | false => rfl

theorem render_panics_iff (fs : Files) (labels : List Span) :
    (∃ p, render fs labels = .panic p) ↔ ∃ l ∈ labels, l.known fs = false := by
  rw [render_eq]
  cases h : labels.all (·.known fs) with
  | true =>
    rw [if_pos rfl]
    exact iff_of_false (fun ⟨_, hp⟩ => nomatch hp) fun ⟨l, hm, hk⟩ =>
      nomatch (List.all_eq_true.mp h l hm).symm.trans hk
  | false =>
    obtain ⟨l, hm, hk⟩ := List.all_eq_false.mp h
    exact iff_of_true ⟨_, if_neg Bool.false_ne_true⟩ ⟨l, hm, (Bool.not_eq_true _).mp hk⟩

theorem render_ok (fs : Files) (labels : List Span) (h : ∀ l ∈ labels, l.known fs = true) :
    render fs labels = .ok () := by
  rw [render_eq, if_pos (List.all_eq_true.mpr h)]

theorem built_spans_render (fs : Files) (toks : List Span) (ht : ∀ t ∈ toks, t.valid fs = true)
    (labels : List Span) (hl : ∀ l ∈ labels, Built fs toks l) : render fs labels = .ok () :=
  render_ok fs labels fun l hm => valid_known fs l (built_spans_valid fs toks ht l (hl l hm))

/-! ### labels are made by `primary` / `secondary`: file-less spans become notes (the tree as repaired in c4ddfe9) -/

theorem ofSpans_go (d : DiagB) (spans : List Span) :
    (spans.foldl DiagB.addLabel d).labels = d.labels ++ spans.filter (fun s => s.file.isSome) ∧
    (spans.foldl DiagB.addLabel d).notes = d.notes + (spans.filter (fun s => s.file.isNone)).length := by
  induction spans generalizing d with
  | nil => simp
  | cons s ss ih =>
    obtain ⟨file, lo, hi⟩ := s
    cases file with
    | none =>
      have := ih (DiagB.addLabel d ⟨none, lo, hi⟩)
      simp only [List.foldl, DiagB.addLabel] at this ⊢
      simp [this]
      rw [Nat.add_assoc, Nat.add_comm 1]
    | some f =>
      have := ih (DiagB.addLabel d ⟨some f, lo, hi⟩)
      simp only [List.foldl, DiagB.addLabel] at this ⊢
      simp [this]

theorem ofSpans_labels (spans : List Span) :
    (DiagB.ofSpans spans).labels = spans.filter (fun s => s.file.isSome) ∧
    (DiagB.ofSpans spans).notes = (spans.filter (fun s => s.file.isNone)).length := by
  have := ofSpans_go DiagB.empty spans
  simpa [DiagB.ofSpans, DiagB.empty] using this

/-- **A diagnostic built through `primary` / `secondary` fails to render exactly when one of its
spans names a file id that the database does not know**; file-less spans (`Span::NULL`) never do. -/
theorem renderDiag_panics_iff (fs : Files) (spans : List Span) :
    (∃ p, renderDiag fs spans = .panic p) ↔ ∃ s ∈ spans, ∃ f, s.file = some f ∧ ¬ f < fs.length := by
  unfold renderDiag
  rw [render_panics_iff, (ofSpans_labels spans).1]
  constructor
  · rintro ⟨l, hm, hk⟩
    simp only [List.mem_filter] at hm
    obtain ⟨hm, hs⟩ := hm
    cases hf : l.file with
    | none => simp [hf] at hs
    | some f => exact ⟨l, hm, f, hf, by simpa [Span.known, hf] using hk⟩
  · rintro ⟨s, hm, f, hf, hlt⟩
    exact ⟨s, by simp [List.mem_filter, hm, hf], by simp [Span.known, hf, hlt]⟩

/-- **`Span::NULL` renders** (as a note).  A raw label without file still panics in `render`
(`render_panics_iff`), but no public constructor makes one (the tree as repaired in c4ddfe9). -/
theorem null_span_renders (fs : Files) : renderDiag fs [⟨none, 0, 0⟩] = .ok () := rfl

theorem renderDiag_ok (fs : Files) (spans : List Span)
    (h : ∀ s ∈ spans, s.file = none ∨ s.valid fs = true) : renderDiag fs spans = .ok () := by
  refine render_ok fs _ fun l hl => ?_
  rw [(ofSpans_labels spans).1, List.mem_filter] at hl
  refine (h l hl.1).elim (fun hn => ?_) (valid_known fs l)
  rw [hn] at hl
  exact nomatch hl.2

/-- non-vacuity: the text `ab "あ" c`, tokens at bytes 0..2, 3..8, 9..10 (`あ` takes three) -/
def exSrc : List UInt8 := "ab \"あ\" c".toUTF8.data.toList
def exFiles : Files := [exSrc]
def exToks : List Span := [⟨some 0, 0, 2⟩, ⟨some 0, 3, 8⟩, ⟨some 0, 9, 10⟩]

example : ∀ t ∈ exToks, t.valid exFiles = true := by decide +kernel
example : Span.valid exFiles ⟨some 0, 3, 5⟩ = false := by decide +kernel   -- inside `あ`
example : Built exFiles exToks ⟨some 0, 0, 8⟩ :=
  Built.join (a := ⟨some 0, 0, 2⟩) (b := ⟨some 0, 3, 8⟩) (.tok (by decide)) (.tok (by decide)) rfl (by decide)
example : render exFiles [⟨some 0, 0, 8⟩, ⟨some 0, 10, 10⟩] = .ok () := by decide +kernel
example : render exFiles [⟨some 0, 0, 8⟩, ⟨some 1, 0, 0⟩] = .panic "Internal compiler error while formatting error" := rfl
-- "ambiguous value for enum const": first span of the built-in definition (no file), second in the mapfile
example : DiagB.ofSpans [⟨none, 0, 0⟩, ⟨some 0, 3, 8⟩] = ⟨[⟨some 0, 3, 8⟩], 1⟩ := by decide +kernel
example : renderDiag exFiles [⟨none, 0, 0⟩, ⟨some 0, 3, 8⟩] = .ok () := by decide +kernel
example : renderDiag exFiles [⟨some 7, 0, 0⟩] = .panic "Internal compiler error while formatting error" := rfl

section Progress
open TruthModel.Types TruthModel.Pipeline TruthModel.C09

def NP {α : Type} (x : Outcome α) : Prop := ∀ p, x ≠ .panic p

/-- the cached const values respect the declared types -/
def CsOk (Γ : Ctx) (cs : Consts) : Prop := ∀ n v, cs n = some v → Γ.varTy n = .typed v.ty

theorem toConstT_ofValue (w : Value) : toConstT (ofValue w) = some w := by cases w <;> rfl

theorem ty_of_toConstT_lit (e : TExpr) (v : Value) (h : toConstT e = some v) : e = ofValue v := by
  cases e <;> cases h <;> rfl

/-- if `e` is a literal, it is one of the static type -/
def LitOk (τ : ETy) (e : TExpr) : Prop :=
  ∀ t, τ = .value t → ∀ v, toConstT e = some v → v.ty = t

/-- what `simpE` carries up its post-order walk (`simpE_typed`).  It speaks of literal results only: `simpNode`
looks at a child only when `toConstT` makes it a literal, and then its value type has to be the static
type for the C11 tables to stay out of their type-error arms. -/
def SimpOk (τ : ETy) (o : Outcome (TExpr × Nat)) : Prop :=
  (∀ e' k, o = .ok (e', k) → LitOk τ e') ∧ NP o

theorem LitOk.ty {t : Ty} {e : TExpr} {v : Value} (h : LitOk (.value t) e) (hv : toConstT e = some v) :
    v.ty = t :=
  h t rfl v hv

theorem LitOk.nonlit {τ : ETy} {e : TExpr} (h : toConstT e = none) : LitOk τ e :=
  fun _ _ v hv => by rw [h] at hv; cases hv

theorem LitOk.ofValue {w : Value} {t : Ty} (h : w.ty = t) : LitOk (.value t) (ofValue w) :=
  fun _ ht v hv => by rw [toConstT_ofValue] at hv; cases hv; cases ht; exact h

theorem SimpOk.ok {τ : ETy} {e : TExpr} {k : Nat} (h : LitOk τ e) : SimpOk τ (.ok (e, k)) :=
  ⟨fun _ _ he => by cases he; exact h, np_ok⟩

theorem SimpOk.err {τ : ETy} {c : String} : SimpOk τ (.err c) := ⟨fun _ _ h => (nomatch h), np_err⟩

/-! The simplifier is written with `?` like the type checker (`Binds`, `Lemmas/Outcome.lean`); its
scrutinees are pairs of a term and an error count. -/

theorem bindE {β} {x : Outcome (TExpr × Nat)} {f : TExpr → Nat → Outcome β} :
    Binds x (fun r => f r.1 r.2) (match x with
      | .ok (a, k) => f a k | .err c => .err c | .panic p => .panic p) :=
  ⟨by rintro a rfl; rfl, by rintro c rfl; rfl, by rintro s rfl; rfl⟩

theorem bindA {β} {x : Outcome (TArgs × Nat)} {f : TArgs → Nat → Outcome β} :
    Binds x (fun r => f r.1 r.2) (match x with
      | .ok (a, k) => f a k | .err c => .err c | .panic p => .panic p) :=
  ⟨by rintro a rfl; rfl, by rintro c rfl; rfl, by rintro s rfl; rfl⟩

theorem bindC {β} {x : Outcome (TCases × Nat)} {f : TCases → Nat → Outcome β} :
    Binds x (fun r => f r.1 r.2) (match x with
      | .ok (a, k) => f a k | .err c => .err c | .panic p => .panic p) :=
  ⟨by rintro a rfl; rfl, by rintro c rfl; rfl, by rintro s rfl; rfl⟩

theorem bindP {β} {x : Outcome (TPseudos × Nat)} {f : TPseudos → Nat → Outcome β} :
    Binds x (fun r => f r.1 r.2) (match x with
      | .ok (a, k) => f a k | .err c => .err c | .panic p => .panic p) :=
  ⟨by rintro a rfl; rfl, by rintro c rfl; rfl, by rintro s rfl; rfl⟩

/-- `generalizing := false` keeps `hx` out of the stated `match`, so that it is the one `simpE` uses -/
theorem SimpOk.bind {τ τ' : ETy} {x : Outcome (TExpr × Nat)}
    {f : TExpr → Nat → Outcome (TExpr × Nat)} (hx : SimpOk τ x)
    (hf : ∀ e' k, LitOk τ e' → SimpOk τ' (f e' k)) :
    SimpOk τ' (match (generalizing := false) x with
      | .ok (a, k) => f a k | .err c => .err c | .panic p => .panic p) :=
  bindE.step (SimpOk τ') (fun _ => .err) hx.2 fun r h => hf r.1 r.2 (hx.1 r.1 r.2 h)

/-- the error count added on the way up does not matter -/
theorem SimpOk.count {τ : ETy} {x : Outcome (TExpr × Nat)} {k : Nat} (h : SimpOk τ x) :
    SimpOk τ (match (generalizing := false) x with
      | .ok (r, j) => .ok (r, k + j) | .err c => .err c | .panic p => .panic p) :=
  h.bind fun _ _ hl => .ok hl

theorem simpNode_var (F : FloatOps) {Γ : Ctx} {cs : Consts} (hcs : CsOk Γ cs) {n : Nat}
    {sig : Option Sigil} {t : Ty} (hr : ReadTy (Γ.varTy n) sig t) :
    SimpOk (.value t) (simpNode F cs (.var n sig)) := by
  simp only [simpNode]
  cases hc : cs n with
  | none => exact .ok (.nonlit rfl)
  | some c =>
    rw [hcs n c hc] at hr
    obtain ⟨w, hw, hwt⟩ := castBySigil_ty F c sig t hr
    simp only [hw]
    exact .ok (.ofValue hwt)

theorem simpNode_unop (F : FloatOps) (cs : Consts) {op : UnOp} {b : TExpr} {t t' : Ty}
    (hb : LitOk (.value t) b) (hop : UnopTy op t t') :
    SimpOk (.value t') (simpNode F cs (.unop op b)) := by
  simp only [simpNode]
  cases hcb : toConstT b with
  | none => exact .ok (.nonlit rfl)
  | some bv =>
    obtain ⟨ow, hu, hty, _⟩ := unop_ty F op bv t t' (hb.ty hcb) hop
    simp only [hu]
    cases ow with
    | none => exact .ok (.nonlit rfl)
    | some w => exact .ok (.ofValue (hty w rfl))

theorem simpNode_binop (F : FloatOps) (cs : Consts) {op : BinOp} {a b : TExpr} {t t' : Ty}
    (ha : LitOk (.value t) a) (hb : LitOk (.value t) b) (hop : BinopTy op t t') :
    SimpOk (.value t') (simpNode F cs (.binop op a b)) := by
  simp only [simpNode]
  cases hca : toConstT a with
  | none => exact .ok (.nonlit rfl)
  | some av =>
    cases hcb : toConstT b with
    | none => exact .ok (.nonlit rfl)
    | some bv =>
      obtain ⟨hbt, hbnp⟩ := binop_ty F op av bv t t' (ha.ty hca) (hb.ty hcb) hop
      dsimp only
      cases hbo : binop F op av bv with
      | panic p => exact absurd hbo (hbnp p)
      | err c => exact .ok (.nonlit rfl)
      | ok w => exact .ok (.ofValue (hbt w hbo))

theorem simpNode_ternary (F : FloatOps) (cs : Consts) {c l r : TExpr} {τ : ETy}
    (hc : LitOk (.value .int) c) (hl : LitOk τ l) (hr : LitOk τ r) :
    SimpOk τ (simpNode F cs (.ternary c l r)) := by
  simp only [simpNode]
  cases hcc : toConstT c with
  | none => exact .ok (.nonlit rfl)
  | some cv =>
    obtain ⟨x, rfl⟩ := ty_int_cases cv (hc.ty hcc)
    simp only
    split
    · exact .ok hr
    · exact .ok hl

mutual
theorem simpE_typed (F : FloatOps) (Γ : Ctx) (cs : Consts) (hcs : CsOk Γ cs) :
    (e : TExpr) → (τ : ETy) → HasType Γ e τ → SimpOk τ (simpE F cs e)
  | .litI x => fun τ h => by cases h; exact .ok (.ofValue (w := .int x) rfl)
  | .litF x => fun τ h => by cases h; exact .ok (.ofValue (w := .float x) rfl)
  | .litS x => fun τ h => by cases h; exact .ok (.ofValue (w := .str x) rfl)
  | .reg _ _ | .xcrement _ _ _ | .enumConst _ _ | .labelProp _ => fun τ _ =>
    .ok (.nonlit rfl)
  | .var n sig => fun τ h => by
    obtain ⟨_, hr, rfl⟩ := hasType_inv h
    exact simpNode_var F hcs hr
  | .unop op x => fun τ h => by
    obtain ⟨_, _, hop, hx, rfl⟩ := hasType_inv h
    exact (simpE_typed F Γ cs hcs x _ hx).bind fun _ _ hx' => (simpNode_unop F cs hx' hop).count
  | .binop op a b => fun τ h => by
    obtain ⟨_, _, hop, ha, hb, rfl⟩ := hasType_inv h
    exact (simpE_typed F Γ cs hcs a _ ha).bind fun _ _ ha' =>
      (simpE_typed F Γ cs hcs b _ hb).bind fun _ _ hb' => (simpNode_binop F cs ha' hb' hop).count
  | .ternary c l r => fun τ h => by
    obtain ⟨_, hc, hl, hr, rfl⟩ := hasType_inv h
    exact (simpE_typed F Γ cs hcs c _ hc).bind fun _ _ hc' =>
      (simpE_typed F Γ cs hcs l _ hl).bind fun _ _ hl' =>
        (simpE_typed F Γ cs hcs r _ hr).bind fun _ _ hr' =>
          (simpNode_ternary F cs hc' hl' hr').count
  | .call f args => fun τ h => by
    obtain ⟨_, _, hargs, _⟩ := hasType_inv h
    exact bindA.step (SimpOk _) (fun _ => .err) (simpArgs_typed F Γ cs hcs args _ hargs) fun _ _ =>
      .ok (.nonlit rfl)
  | .diffSwitch first rest => fun τ h => by
    obtain ⟨_, hf, hr, _⟩ := hasType_inv h
    exact (simpE_typed F Γ cs hcs first _ hf).bind fun _ _ _ =>
      bindC.step (SimpOk _) (fun _ => .err) (simpCases_typed F Γ cs hcs rest _ hr) fun _ _ =>
        .ok (.nonlit rfl)
  | .callx user f pseudos args => fun τ h => by
    have hnpp : NP (simpPseudos F cs pseudos) ∧ NP (simpArgs F cs args) := by
      cases h with
      | callIns hp _ _ hargs =>
        exact ⟨simpPseudos_typed F Γ cs hcs pseudos hp, simpArgs_typed F Γ cs hcs args _ hargs⟩
      | callBlob hp _ => exact ⟨simpPseudos_typed F Γ cs hcs pseudos hp, np_ok⟩
      | callUser hargs => exact ⟨np_ok, simpArgs_typed F Γ cs hcs args _ hargs⟩
    exact bindP.step (SimpOk _) (fun _ => .err) hnpp.1 fun _ _ =>
      bindA.step (SimpOk _) (fun _ => .err) hnpp.2 fun _ _ => .ok (.nonlit rfl)
theorem simpArgs_typed (F : FloatOps) (Γ : Ctx) (cs : Consts) (hcs : CsOk Γ cs) :
    (as : TArgs) → (ps : List Param) → ArgsTyped Γ as ps → NP (simpArgs F cs as)
  | .nil => fun _ _ => np_ok
  | .cons a as => fun ps h => by
    cases h with
    | cons ha hp has =>
      exact bindE.np (simpE_typed F Γ cs hcs a _ ha).2 fun _ _ =>
        bindA.np (simpArgs_typed F Γ cs hcs as _ has) fun _ _ => np_ok
theorem simpCases_typed (F : FloatOps) (Γ : Ctx) (cs : Consts) (hcs : CsOk Γ cs) :
    (rest : TCases) → (t : Ty) → CasesTyped Γ t rest → NP (simpCases F cs rest)
  | .nil => fun _ _ => np_ok
  | .blank rest => fun t h => by
    cases h with
    | blank hr =>
      exact bindC.np (simpCases_typed F Γ cs hcs rest t hr) fun _ _ => np_ok
  | .case e rest => fun t h => by
    cases h with
    | case he hr =>
      exact bindE.np (simpE_typed F Γ cs hcs e _ he).2 fun _ _ =>
        bindC.np (simpCases_typed F Γ cs hcs rest t hr) fun _ _ => np_ok
theorem simpPseudos_typed (F : FloatOps) (Γ : Ctx) (cs : Consts) (hcs : CsOk Γ cs) :
    (ps : TPseudos) → PseudosTyped Γ ps → NP (simpPseudos F cs ps)
  | .nil => fun _ => np_ok
  | .cons k e rest => fun h => by
    cases h with
    | cons he _ hr =>
      exact bindE.np (simpE_typed F Γ cs hcs e _ he).2 fun _ _ =>
        bindP.np (simpPseudos_typed F Γ cs hcs rest hr) fun _ _ => np_ok
end

theorem exprN_np (F : FloatOps) (Γ : Ctx) (cs : Consts) (hcs : CsOk Γ cs) {e : TExpr} {τ : ETy}
    (h : HasType Γ e τ) : NP (exprN F cs e) :=
  bindE.np (simpE_typed F Γ cs hcs e τ h).2 fun _ _ => np_ok

theorem seqN_np (a b : Outcome Nat) (ha : NP a) (hb : NP b) : NP (seqN a b) := by
  cases a with
  | panic q => exact absurd rfl (ha q)
  | err c => exact np_err
  | ok k =>
    cases b with
    | panic q => exact absurd rfl (hb q)
    | err c => exact np_err
    | ok j => exact np_ok

theorem declsN_np (F : FloatOps) (Γ : Ctx) (cs : Consts) (hcs : CsOk Γ cs)
    (ds : List (Nat × Option TExpr)) (h : ∀ p ∈ ds, DeclOk Γ p.1 p.2) : NP (declsN F cs ds) := by
  induction ds with
  | nil => exact np_ok
  | cons d rest ih =>
    refine seqN_np _ _ ?_ (ih fun p hp => h p (List.mem_cons_of_mem _ hp))
    obtain ⟨x, init⟩ := d
    cases init with
    | none => exact np_ok
    | some e =>
      obtain ⟨t, _, he⟩ := h (x, some e) List.mem_cons_self
      exact exprN_np F Γ cs hcs he

theorem constDeclsN_np (F : FloatOps) (Γ : Ctx) (cs : Consts) (hcs : CsOk Γ cs)
    (ds : List (Nat × TExpr)) (h : ∀ p ∈ ds, DeclOk Γ p.1 (some p.2)) :
    NP (constDeclsN F cs ds) := by
  induction ds with
  | nil => exact np_ok
  | cons d rest ih =>
    obtain ⟨t, _, he⟩ := h d List.mem_cons_self
    exact seqN_np _ _ (exprN_np F Γ cs hcs he)
      (ih fun p hp => h p (List.mem_cons_of_mem _ hp))

mutual
theorem simpStmt_np (F : FloatOps) (Γ : Ctx) (cs : Consts) (hcs : CsOk Γ cs) :
    (ρ : Option ETy) → (s : Stmt) → WellTypedStmt Γ ρ s → NP (simpStmt F cs s)
  | _, .exprStmt _ | _, .condJump _ | _, .interruptLabel _ | _, .relTimeLabel _ =>
    exprN_np F Γ cs hcs
  | _, .assign _ _ _ => fun h => h.2.elim fun _ h => exprN_np F Γ cs hcs h.2.1
  | _, .decl _ none => fun _ => np_ok
  | _, .decl _ (some _) => fun h => h.elim fun _ h => exprN_np F Γ cs hcs h.2
  | _, .constDecl _ _ => fun h => h.elim fun _ h => exprN_np F Γ cs hcs h.2
  | ρ, .ite _ t e => fun h =>
    seqN_np _ _ (exprN_np F Γ cs hcs h.1)
      (seqN_np _ _ (simpStmts_np F Γ cs hcs ρ t h.2.1) (simpStmts_np F Γ cs hcs ρ e h.2.2))
  | ρ, .while_ _ b => fun h =>
    seqN_np _ _ (exprN_np F Γ cs hcs h.1) (simpStmts_np F Γ cs hcs ρ b h.2)
  | ρ, .doWhile _ b => fun h =>
    seqN_np _ _ (simpStmts_np F Γ cs hcs ρ b h.2) (exprN_np F Γ cs hcs h.1)
  | ρ, .loop b | ρ, .block b | ρ, .script b => simpStmts_np F Γ cs hcs ρ b
  | ρ, .times _ _ b => fun h =>
    seqN_np _ _ (exprN_np F Γ cs hcs h.1) (simpStmts_np F Γ cs hcs ρ b h.2.2)
  | _, .inert | _, .ret none => fun _ => np_ok
  | _, .ret (some _) => fun h => h.elim fun _ h => exprN_np F Γ cs hcs h.1
  | _, .func rt b => simpStmts_np F Γ cs hcs (some rt) b
  | _, .decls ds => declsN_np F Γ cs hcs ds
  | _, .constDecls ds => constDeclsN_np F Γ cs hcs ds
theorem simpStmts_np (F : FloatOps) (Γ : Ctx) (cs : Consts) (hcs : CsOk Γ cs) :
    (ρ : Option ETy) → (ss : Stmts) → WellTypedStmts Γ ρ ss → NP (simpStmts F cs ss)
  | _, .nil => fun _ => np_ok
  | ρ, .cons s ss => fun h =>
    seqN_np _ _ (simpStmt_np F Γ cs hcs ρ s h.1) (simpStmts_np F Γ cs hcs ρ ss h.2)
end

/-- the reading `J` of `check`'s answers that leaves them as they are (the other is `check_iff`): the
no-panic half of the `_spec` lemmas then needs no `SigsOk` -/
theorem answersAsIs (Γ : Ctx) (e : TExpr) (t : ETy) : check Γ e = .ok t ↔ check Γ e = .ok t := .rfl

mutual
theorem checkStmt_np (cfg : Cfg) (Γ : Ctx) : (ρ : Option ETy) → (s : Stmt) → NP (checkStmt cfg Γ ρ s)
  | _, .exprStmt e => (checkExprStmt_spec (answersAsIs Γ) e).np
  | _, .assign v op e => (checkAssign_spec (answersAsIs Γ) v op e).np
  | _, .decl x init => (checkDecl_spec (answersAsIs Γ) x init).np
  | _, .constDecl x e => (checkConstDecl_spec (answersAsIs Γ) cfg x e).np
  | ρ, .ite c t e =>
    andThen_np (checkCond_spec (answersAsIs Γ) c).np
      (andThen_np (checkStmts_np cfg Γ ρ t) (checkStmts_np cfg Γ ρ e))
  | ρ, .while_ c b => andThen_np (checkStmts_np cfg Γ ρ b) (checkCond_spec (answersAsIs Γ) c).np
  | ρ, .doWhile c b => andThen_np (checkCond_spec (answersAsIs Γ) c).np (checkStmts_np cfg Γ ρ b)
  | ρ, .loop b | ρ, .script b => checkStmts_np cfg Γ ρ b
  | ρ, .times cl count b =>
    andThen_np (checkTimes_spec (answersAsIs Γ) cl count).np (checkStmts_np cfg Γ ρ b)
  | _, .condJump c => (checkCond_spec (answersAsIs Γ) c).np
  | _, .inert => np_ok
  | ρ, .block b => fun s => ite_ne_panic (checkStmts_np cfg Γ ρ b s) (np_ok s)
  | ρ, .ret e => (checkReturn_spec (answersAsIs Γ) ρ e).np
  | _, .func rt b => checkStmts_np cfg Γ (some rt) b
  | _, .interruptLabel e | _, .relTimeLabel e => (checkCond_spec (answersAsIs Γ) e).switch.np
  | _, .decls ds => (checkDecls_spec (answersAsIs Γ) ds).np
  | _, .constDecls ds => (checkConstDecls_spec (answersAsIs Γ) cfg ds).np
theorem checkStmts_np (cfg : Cfg) (Γ : Ctx) : (ρ : Option ETy) → (ss : Stmts) → NP (checkStmts cfg Γ ρ ss)
  | _, .nil => np_ok
  | ρ, .cons s ss => andThen_np (checkStmt_np cfg Γ ρ s) (checkStmts_np cfg Γ ρ ss)
end

def DefsTyped (Γ : Ctx) (ds : List (Nat × TExpr)) : Prop := ∀ p ∈ ds, DeclOk Γ p.1 (some p.2)

theorem DefsTyped.nil {Γ : Ctx} : DefsTyped Γ [] := nofun

theorem DefsTyped.append {Γ : Ctx} {a b : List (Nat × TExpr)} (ha : DefsTyped Γ a)
    (hb : DefsTyped Γ b) : DefsTyped Γ (a ++ b) :=
  fun p hp => (List.mem_append.mp hp).elim (ha p) (hb p)

mutual
theorem constsS_typed (Γ : Ctx) : (ρ : Option ETy) → (s : Stmt) → WellTypedStmt Γ ρ s →
    DefsTyped Γ (constsS s)
  | _, .constDecl x e => fun h p hp => by cases List.mem_singleton.mp hp; exact h
  | _, .constDecls ds => id
  | ρ, .ite c t e => fun h => (constsSS_typed Γ ρ t h.2.1).append (constsSS_typed Γ ρ e h.2.2)
  | ρ, .while_ c b | ρ, .doWhile c b => fun h => constsSS_typed Γ ρ b h.2
  | ρ, .times cl count b => fun h => constsSS_typed Γ ρ b h.2.2
  | ρ, .loop b | ρ, .block b | ρ, .script b => constsSS_typed Γ ρ b
  | _, .func rt b => constsSS_typed Γ (some rt) b
  | _, .exprStmt _ | _, .assign _ _ _ | _, .decl _ _ | _, .condJump _
  | _, .inert | _, .ret _ | _, .interruptLabel _ | _, .relTimeLabel _ | _, .decls _ => fun _ => .nil
theorem constsSS_typed (Γ : Ctx) : (ρ : Option ETy) → (ss : Stmts) → WellTypedStmts Γ ρ ss →
    DefsTyped Γ (constsSS ss)
  | _, .nil => fun _ => .nil
  | ρ, .cons s ss => fun h => (constsS_typed Γ ρ s h.1).append (constsSS_typed Γ ρ ss h.2)
end

theorem lookup_mem (ds : List (Nat × TExpr)) (n : Nat) (e : TExpr) (h : lookup ds n = some e) :
    (n, e) ∈ ds := by
  fun_induction lookup ds n with
  | case1 => cases h
  | case2 e0 rest => cases h; exact List.mem_cons_self
  | case3 m e0 rest hne ih => exact List.mem_cons_of_mem _ (ih h)

/-- what the recursive calls of the const evaluator return -/
def RecOk (Γ : Ctx) (rec : List Nat → Nat → Outcome Value) : Prop :=
  ∀ st n, (∀ v, rec st n = .ok v → Γ.varTy n = .typed v.ty) ∧ NP (rec st n)

/-- whenever a value-typed expression is an expression of the const evaluator's language
(`erase`; anything else has no constant value: `defsOf` gives `none`, the error path of
`_const_eval`), evaluating it does not panic and gives a value of the static type -/
theorem evalConstExpr_typed (F : FloatOps) (Γ : Ctx) (defs : Nat → Option Expr)
    (rec : List Nat → Nat → Outcome Value) (hrec : RecOk Γ rec) (stack : List Nat)
    (e : TExpr) (t : Ty) (h : HasType Γ e (.value t)) (e' : Expr) (he : e.erase = some e') :
    ValOk t (evalConstExpr F defs rec stack e') := by
  fun_induction TExpr.erase e generalizing t e' with
  | case1 | case2 | case3 => cases he; cases h; exact .ok rfl
  | case4 => cases he; exact .err
  | case5 n sig =>
    cases he
    obtain ⟨_, hr, ht⟩ := hasType_inv h
    cases ht
    rw [evalConstExpr]
    cases hc : rec stack n with
    | panic q => exact absurd hc ((hrec stack n).2 q)
    | err c => exact .err
    | ok c =>
      rw [(hrec stack n).1 c hc] at hr
      obtain ⟨w, hw, hwt⟩ := castBySigil_ty F c sig t hr
      simp only [hw]
      exact .ok hwt
  | case6 op x x' hx' ih =>
    cases he
    obtain ⟨tx, _, hop, hx, ht⟩ := hasType_inv h
    cases ht
    refine ValOk.bind (ih tx hx x' hx') fun v hv => ?_
    obtain ⟨ow, hu, hty, _⟩ := unop_ty F op v tx t hv hop
    cases ow with
    | none => simp only [hu]; exact .err
    | some w => simp only [hu]; exact .ok (hty w rfl)
  | case8 op a b a' b' hb' ha' iha ihb =>
    cases he
    obtain ⟨tx, _, hop, ha, hb, ht⟩ := hasType_inv h
    cases ht
    exact ValOk.bind (iha tx ha a' ha') fun va hva =>
      ValOk.bind (ihb tx hb b' hb') fun vb hvb => binop_ty F op va vb tx t hva hvb hop
  | case10 c l r c' l' r' hr' hl' hc' ihc ihl ihr =>
    cases he
    obtain ⟨_, hc, hl, hr, ht⟩ := hasType_inv h
    cases ht
    refine ValOk.bind (ihc .int hc c' hc') fun cv hcv =>
      ValOk.bind (ihl t hl l' hl') fun lv hlv => ValOk.bind (ihr t hr r' hr') fun rv hrv => ?_
    obtain ⟨i, rfl⟩ := ty_int_cases cv hcv
    simp only
    split
    · exact .ok hrv
    · exact .ok hlv
  | _ => cases he

theorem evalConst_typed (F : FloatOps) (Γ : Ctx) (ds : List (Nat × TExpr)) (hds : DefsTyped Γ ds) :
    (fuel : Nat) → RecOk Γ (evalConst F (defsOf ds) fuel) := by
  intro fuel
  induction fuel with
  | zero => exact fun st n => ⟨fun _ h => (nomatch h), np_err⟩
  | succ fuel ih =>
    intro st n
    rw [evalConst]
    split
    · exact ⟨fun _ h => (nomatch h), np_err⟩
    · cases hd : defsOf ds n with
      | none => exact ⟨fun _ h => (nomatch h), np_err⟩
      | some e =>
        unfold defsOf at hd
        cases hl : lookup ds n with
        | none => rw [hl] at hd; cases hd
        | some te =>
          rw [hl] at hd
          obtain ⟨t, hvt, hte⟩ := hds (n, te) (lookup_mem ds n te hl)
          obtain ⟨hty, hnp⟩ :=
            evalConstExpr_typed F Γ (defsOf ds) (evalConst F (defsOf ds) fuel) ih (n :: st) te t hte e hd
          exact ⟨fun v hv => by rw [hvt, hty v hv], hnp⟩

theorem evalAll_np (F : FloatOps) (defs : Nat → Option Expr) (fuel : Nat)
    (h : ∀ n, NP (evalConst F defs fuel [] n)) (ns : List Nat) : NP (evalAll F defs fuel ns) := by
  fun_induction evalAll F defs fuel ns with
  | case1 => exact np_ok
  | case2 n ns v hv ih => exact ih
  | case3 n ns c hv => exact np_err
  | case4 n ns p hv => exact absurd hv (h n p)

theorem cacheOf_csOk {F : FloatOps} {Γ : Ctx} {defs : Nat → Option Expr} {fuel : Nat}
    (hrec : RecOk Γ (evalConst F defs fuel)) : CsOk Γ (cacheOf F defs fuel) := by
  intro n v hv
  unfold cacheOf at hv
  cases he : evalConst F defs fuel [] n with
  | ok w => rw [he] at hv; cases hv; exact (hrec [] n).1 _ he
  | err c => rw [he] at hv; cases hv
  | panic q => rw [he] at hv; cases hv

theorem recOk_of_accepted (F : FloatOps) {Γ : Ctx} (hΓ : SigsOk Γ) {prog : Stmts}
    (hc : checkStmts codeCfg Γ none prog = .ok ()) (fuel : Nat) :
    RecOk Γ (evalConst F (defsOf (constsSS prog)) fuel) :=
  evalConst_typed F Γ _ (constsSS_typed Γ none prog ((C09.stmts_accept_iff_welltyped Γ hΓ none prog).mp hc)) fuel

/-- **Progress (partial).**  For every float semantics, every context whose signatures are
well-formed and EVERY program: the composition type check -> const-variable evaluation -> const
simplification never reaches a `panic` outcome.  The type checker has no panic of its own; if it
accepts, every `expect("shoulda been type-checked")`, `uncaught_type_error()` and
`panic!("uncaught type error")` arm of the two later passes is unreachable. -/
theorem progress_partial (F : FloatOps) (Γ : Ctx) (hΓ : SigsOk Γ) (prog : Stmts) :
    NP (run F Γ prog) := by
  -- the arms of `run` that end in `panic`: type check (2), const evaluation (4), simplification (8)
  fun_cases run F Γ prog with
  | case2 p hc => exact absurd hc (checkStmts_np codeCfg Γ none prog p)
  | case4 hc ds defs fuel p hall =>
    exact absurd hall (evalAll_np F _ _ (fun n => (recOk_of_accepted F hΓ hc fuel [] n).2) _ p)
  | case8 hc ds defs fuel hall p hs =>
    exact absurd hs (simpStmts_np F Γ _ (cacheOf_csOk (recOk_of_accepted F hΓ hc fuel)) none prog
      ((C09.stmts_accept_iff_welltyped Γ hΓ none prog).mp hc) p)
  | _ => exact np_ok

/-- Stands for the statement one would like: no pass of the compiler after type checking panics on an
accepted program.  `run` covers const-variable evaluation and const simplification only; block
desugaring, lowering, register allocation, argument encoding and the file writers are not part of
the composed model (their models use other program representations), hence `_partial`.  As written it
quantifies over EVERY function `compileRest`, so it is refutable (`fun _ _ => .panic ""`); the statement
that is meant fixes `compileRest` to a model of those passes, which does not exist.  Nothing uses it. -/
def progress_full : Prop :=
  ∀ (compileRest : Ctx → Stmts → Outcome Unit) (F : FloatOps) (Γ : Ctx), SigsOk Γ → ∀ prog : Stmts,
    checkStmts codeCfg Γ none prog = .ok () → NP (run F Γ prog) ∧ NP (compileRest Γ prog)

/-- the accepted / rejected split is as C09 proves it: `run` stops at `typecheck` exactly for the
programs that are not well-typed -/
theorem stops_at_typecheck_iff (F : FloatOps) (Γ : Ctx) (hΓ : SigsOk Γ) (prog : Stmts) :
    (∃ c, run F Γ prog = .ok (.typecheck c)) ↔ ¬ WellTypedStmts Γ none prog := by
  rw [← C09.stmts_accept_iff_welltyped Γ hΓ none prog]
  fun_cases run F Γ prog with
  | case1 c hc => exact ⟨fun _ h => (nomatch hc.symm.trans h), fun _ => ⟨c, rfl⟩⟩
  | case2 p hc => exact absurd hc (checkStmts_np codeCfg Γ none prog p)
  | _ =>
    refine ⟨?_, fun h => absurd (by assumption) h⟩
    rintro ⟨_, h⟩
    cases h

/-- non-vacuity: a well-typed program with a const chain and a folded division goes `through`;
a division by zero is reported by the simplification pass, a cyclic const by the evaluator. -/
def exProg : Stmts :=
  .cons (.constDecl 0 (.binop .add (.litI 1) (.litI 2)))
  (.cons (.constDecl 1 (.binop .mul (.var 0 none) (.litI 2)))
  (.cons (.script (.cons (.assign ⟨true, 0, none⟩ .assign (.binop .div (.var 1 none) (.litI 3))) .nil)) .nil))

def exΓ : Ctx where
  regTy := fun _ => .typed .int
  varTy := fun _ => .typed .int
  sig := fun _ => none
  isConst := fun n => n < 2

def zeroF : FloatOps := ⟨fun a _ => a, fun a _ => a, fun a _ => a, fun a _ => a, fun a _ => a, id,
  fun _ _ => false, fun _ _ => false, fun _ _ => false, fun _ => 0, fun _ => 0, fun _ x => x⟩

example : run zeroF exΓ exProg = .ok .through := by decide +kernel
example : run zeroF exΓ (.cons (.script (.cons (.assign ⟨true, 0, none⟩ .assign
    (.binop .div (.litI 1) (.litI 0))) .nil)) .nil) = .ok (.simplify constEvalErr) := rfl
example : run zeroF exΓ (.cons (.constDecl 0 (.var 0 none)) .nil) =
    .ok (.constvars "cycle in const definition") := rfl
example : run zeroF exΓ (.cons (.script (.cons (.assign ⟨true, 0, none⟩ .assign (.litF 0)) .nil)) .nil) =
    .ok (.typecheck tyErr) := rfl

end Progress

end TruthModel.C04
