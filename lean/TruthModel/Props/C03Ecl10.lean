import TruthModel.Props.C03Files
import TruthModel.Props.C16Ecl10
/-
C03 for stack ECL (TH10 and later; `Model/InstrIO10.lean`, `Model/FilesEcl10.lean`): a successful compile never writes a file
that differs from what was asked; values that do not fit are diagnosed.  The format is the function `ecl10Bytes` (built from
`instr10Bytes`, `strListBytes`, `includeBytes`, `subBytes`); `writeEcl10_wrote`: the writer returns it exactly when everything fits
(`Ecl10Fits`), gives a diagnostic otherwise and never panics; `readEcl10_write`: the reader inverts it under the codec law `wfEcl10`
(`ecl10_read_write`, `ecl10_read_write_full` for a codec whose decoder inverts its encoder).  Every field of the instruction header is
stored, so an instruction reads back as itself, no normal form.  String lists: the padding is computed from the bytes WRITTEN, so every
list of NUL-free strings reads back (`string_list_roundtrip`; `string_list_wrong_padding_breaks`: a witness with the padding computed from another count); a name whose
encoding contains a NUL is a diagnostic: the model follows the tree as repaired in dcd07d9 of /repo.
-/
namespace TruthModel.C03
open TruthModel TruthModel.InstrIO TruthModel.Files TruthModel.C16

/-- the header of `write_instr` and the blob -/
def instr10Bytes (i : Instr10) : Bytes :=
  i32 i.time ++ u16 i.opcode ++ u16 (instrSize10 i) ++ u16 i.mask ++ u8 i.difficulty ++ u8 i.argCount ++ u8 i.pop ++ [0, 0, 0] ++ i.blob

theorem writeInstr10_wrote (i : Instr10) : Wrote (writeInstr10 i) (fits10 i = true) False (instr10Bytes i) :=
  (Wrote.ok _).checkB.iff (and_iff_left trivial)

theorem write10_err_iff_not_fits (i : Instr10) : (∃ c, writeInstr10 i = .err c) ↔ fits10 i = false :=
  ((writeInstr10_wrote i).decides id).err_iff.trans Bool.eq_false_iff.symm

theorem write10_ok_iff_fits (i : Instr10) : (∃ bs, writeInstr10 i = .ok bs) ↔ fits10 i = true :=
  ⟨fun ⟨_, h⟩ => ((writeInstr10_wrote i).of_ok h).1, fun h => ⟨_, (writeInstr10_wrote i).eq_ok h id⟩⟩

theorem write10_no_panic (i : Instr10) : (writeInstr10 i).isPanic = false := ((writeInstr10_wrote i).decides id).no_panic

example : fits10 { time := -5, opcode := 65535, mask := 65535, difficulty := 0, argCount := 255, pop := 255, blob := List.replicate 8 7 } = true := by decide +kernel
/-- the one misfit the Rust types allow: 16 + 65520 bytes does not fit the 16-bit size field -/
example (b : Bytes) (h : b.length = 65520) : fits10 { time := 0, opcode := 1, blob := b } = false := by
  simp [fits10, instrSize10, headerSize10, fitsU, h]
example (b : Bytes) (h : b.length = 65519) : fits10 { time := 0, opcode := 1, blob := b } = true := by
  simp [fits10, instrSize10, headerSize10, fitsU, fitsI, h]

theorem fits10_iff (i : Instr10) : fits10 i = true ↔
    fitsI 32 i.time = true ∧ i.opcode < 2 ^ 16 ∧ instrSize10 i < 2 ^ 16 ∧ i.mask < 2 ^ 16 ∧
    i.difficulty < 2 ^ 8 ∧ i.argCount < 2 ^ 8 ∧ i.pop < 2 ^ 8 := by
  simp only [fits10, fitsU, Bool.and_eq_true, decide_eq_true_eq, and_assoc]

theorem instr10Bytes_length (i : Instr10) : (instr10Bytes i).length = instrSize10 i := by
  simp only [instr10Bytes, List.length_append]
  rfl

theorem write10_length {i : Instr10} {bs : Bytes} (h : writeInstr10 i = .ok bs) : bs.length = instrSize10 i := by
  rw [((writeInstr10_wrote i).of_ok h).2, instr10Bytes_length]

theorem readInstr10_write (i : Instr10) (rest : Bytes) (hf : fits10 i = true) : readInstr10 (instr10Bytes i ++ rest) = .ok (i, rest) := by
  obtain ⟨h1, h2, h3, h4, h5, h6, h7⟩ := (fits10_iff i).1 hf
  have hpad : ∀ x : Bytes, rdBytes 3 ([0, 0, 0] ++ x) = some ([0, 0, 0], x) := fun x => rdBytes_append [0, 0, 0] x
  have hsz : ¬ instrSize10 i < 16 := by simp [instrSize10, headerSize10]
  have hbl : instrSize10 i - 16 = i.blob.length := by simp [instrSize10, headerSize10]
  simp only [readInstr10, instr10Bytes, List.append_assoc, rdI32_i32 _ _ h1, rdU16_u16 _ _ h2, rdU16_u16 _ _ h3, rdU16_u16 _ _ h4,
    rdU8_u8 _ _ h5, rdU8_u8 _ _ h6, rdU8_u8 _ _ h7, hpad, hsz, if_false, hbl, rdBytes_append]

/-- **Round trip of one instruction**: whatever the writer accepts reads back as the same instruction
(all seven header fields and the blob), followed by whatever followed it. -/
theorem read_write10 (i : Instr10) (rest bs : Bytes) (hw : writeInstr10 i = .ok bs) :
    readInstr10 (bs ++ rest) = .ok (i, rest) := by
  obtain ⟨hf, rfl⟩ := (writeInstr10_wrote i).of_ok hw
  exact readInstr10_write i rest hf

/-- **The writer is injective**: two accepted instructions with the same bytes are the same instruction. -/
theorem write10_injective (i1 i2 : Instr10) (bs : Bytes) (h1 : writeInstr10 i1 = .ok bs) (h2 : writeInstr10 i2 = .ok bs) : i1 = i2 := by
  have a := read_write10 i1 [] bs h1
  have b := read_write10 i2 [] bs h2
  rw [a] at b
  injection b with b
  exact (Prod.mk.inj b).1

example : ∃ bs, writeInstr10 { time := 5, opcode := 10, mask := 3, difficulty := 255, argCount := 5, pop := 2, blob := [1, 0, 0, 0] } = .ok bs ∧
    bs = [5, 0, 0, 0, 10, 0, 20, 0, 3, 0, 255, 5, 2, 0, 0, 0, 1, 0, 0, 0] := ⟨_, rfl, by decide +kernel⟩

def instrs10Bytes (is : List Instr10) : Bytes := is.flatMap instr10Bytes

theorem writeInstrs10_wrote : ∀ is : List Instr10, Wrote (writeInstrs10 is) (∀ i ∈ is, fits10 i = true) False (instrs10Bytes is)
  | [] => .nil _ _
  | i :: is => by rw [writeInstrs10]; exact .cons ((writeInstr10_wrote i).append (writeInstrs10_wrote is))

theorem instrs10Bytes_cons (i : Instr10) (is : List Instr10) : instrs10Bytes (i :: is) = instr10Bytes i ++ instrs10Bytes is :=
  List.flatMap_cons ..

theorem instrs10Bytes_length (is : List Instr10) : (instrs10Bytes is).length = sizeSum10 is := by
  induction is with
  | nil => rfl
  | cons i is ih => rw [instrs10Bytes_cons, List.length_append, instr10Bytes_length, sizeSum10_cons, ih]

theorem writeInstrs10_length : ∀ {is : List Instr10} {bs : Bytes}, writeInstrs10 is = .ok bs → bs.length = sizeSum10 is := by
  intro is bs h
  rw [((writeInstrs10_wrote is).of_ok h).2, instrs10Bytes_length]

theorem endCheck_self (cur : Nat) : endCheck (some cur) cur = .stop := by simp [endCheck]

theorem readInstrs10Aux_write : ∀ (is : List Instr10) (n : Nat) (acc : List Instr10) (cur : Nat) (rest : Bytes),
    (∀ i ∈ is, fits10 i = true) → sizeSum10 is < n →
      readInstrs10Aux (some (cur + sizeSum10 is)) n acc cur (instrs10Bytes is ++ rest) = .ok (acc.reverse ++ is) := by
  intro is
  induction is with
  | nil =>
    intro n acc cur rest _ hn
    cases n with
    | zero => exact absurd hn (Nat.not_lt_zero _)
    | succ n => rw [readInstrs10Aux_succ]; simp [endCheck_self, sizeSum10]
  | cons i is ih =>
    intro n acc cur rest hf hn
    have h16 : 0 < instrSize10 i := Nat.lt_of_lt_of_le (by decide) (Nat.le_add_right 16 _)
    rw [sizeSum10_cons] at hn ⊢
    cases n with
    | zero => exact absurd hn (Nat.not_lt_zero _)
    | succ n =>
      rw [readInstrs10Aux_succ, endCheck_inside (Nat.lt_of_lt_of_le h16 (Nat.le_add_right _ _)) (.inl rfl),
        instrs10Bytes_cons, List.append_assoc, readInstr10_write i _ (hf i (List.mem_cons_self ..))]
      simp only
      rw [← Nat.add_assoc, ih n (i :: acc) (cur + instrSize10 i) rest (fun j hj => hf j (List.mem_cons_of_mem _ hj))
        (Nat.lt_of_lt_of_le (Nat.lt_add_of_pos_left h16) (Nat.le_of_lt_succ hn))]
      simp

theorem readInstrs10_write (is : List Instr10) (rest : Bytes) (start : Nat) (hf : ∀ i ∈ is, fits10 i = true) :
    readInstrs10 (some (start + sizeSum10 is)) start (instrs10Bytes is ++ rest) = .ok is := by
  unfold readInstrs10
  rw [readInstrs10Aux_write is _ [] start rest hf
    (by rw [List.length_append, instrs10Bytes_length]; exact Nat.lt_succ_of_le (Nat.le_add_right _ _))]
  rfl

/-- **Round trip of a whole sub**: the instructions `write_instrs` wrote, read by `read_instrs` from
`start` to the end offset `start + length`, are the same instructions. -/
theorem readInstrs10_writeInstrs10 (is : List Instr10) (bs rest : Bytes) (start : Nat) (hw : writeInstrs10 is = .ok bs) :
    readInstrs10 (some (start + bs.length)) start (bs ++ rest) = .ok is := by
  obtain ⟨hf, rfl⟩ := (writeInstrs10_wrote is).of_ok hw
  rw [instrs10Bytes_length]
  exact readInstrs10_write is rest start hf

theorem writeInstrs10_decides : ∀ is : List Instr10, Decides (writeInstrs10 is) (∀ i ∈ is, fits10 i = true) :=
  fun is => (writeInstrs10_wrote is).decides id

theorem readCStr1_write : ∀ (s rest : Bytes), (0 : UInt8) ∉ s → readCStr1 (s ++ 0 :: rest) = some (s, rest) := by
  intro s
  induction s with
  | nil => intro rest _; simp [readCStr1]
  | cons b t ih =>
    intro rest h
    simp only [List.mem_cons, not_or] at h
    have hb : ¬ b = 0 := fun e => h.1 e.symm
    simp only [List.cons_append, readCStr1, hb, if_false, ih rest h.2]

/-- the byte count the writer accumulates is the number of bytes it wrote -/
theorem strListBody_count (bs : List Bytes) : (strListBody bs).2 = (strListBody bs).1.length := by
  induction bs with
  | nil => rfl
  | cons b bs ih => simp only [strListBody, List.length_append, List.length_cons, List.length_nil, ih]

theorem padLen_mod (n : Nat) : (n + padLen n) % 4 = 0 := by
  unfold padLen
  split
  · next h => exact h
  · omega

theorem padLen_lt (n : Nat) : padLen n < 4 := by
  unfold padLen
  split
  · decide
  · next h => exact Nat.sub_lt (by decide) (Nat.pos_of_ne_zero h)

theorem writeStrListBytes_length (bs : List Bytes) :
    (writeStrListBytes bs).length = (strListBody bs).2 + padLen (strListBody bs).2 := by
  simp only [writeStrListBytes, List.length_append, List.length_replicate, strListBody_count]

theorem readStrsAux_write {α} (dec : Bytes → Option α) (g : Bytes → α) : ∀ (raws : List Bytes) (acc : List α) (n : Nat) (rest : Bytes),
    (∀ r ∈ raws, (0 : UInt8) ∉ r) → (∀ r ∈ raws, dec r = some (g r)) →
      readStrsAux dec raws.length acc n ((strListBody raws).1 ++ rest) = .ok (acc.reverse ++ raws.map g, n + (strListBody raws).2, rest) := by
  intro raws
  induction raws with
  | nil => intro acc n rest _ _; simp [readStrsAux, strListBody]
  | cons r raws ih =>
    intro acc n rest h0 hd
    have hr0 := h0 r (List.mem_cons_self ..)
    have hrd := hd r (List.mem_cons_self ..)
    have := ih (g r :: acc) (n + r.length + 1) rest (fun x hx => h0 x (List.mem_cons_of_mem _ hx)) (fun x hx => hd x (List.mem_cons_of_mem _ hx))
    have hread : readCStr1 (r ++ 0 :: ((strListBody raws).1 ++ rest)) = some (r, (strListBody raws).1 ++ rest) := readCStr1_write r _ hr0
    simp only [List.length_cons, readStrsAux, strListBody, List.append_assoc, hread, hrd, this,
      List.reverse_cons, List.map_cons, List.cons_append, List.nil_append]
    have e : n + r.length + 1 + (strListBody raws).2 = n + (r.length + 1 + (strListBody raws).2) := by
      rw [Nat.add_assoc n, Nat.add_assoc n]
    rw [e]

theorem readStringList_write {α} (dec : Bytes → Option α) (g : Bytes → α) (raws : List Bytes) (rest : Bytes)
    (h0 : ∀ r ∈ raws, (0 : UInt8) ∉ r) (hd : ∀ r ∈ raws, dec r = some (g r)) :
    readStringList dec raws.length (writeStrListBytes raws ++ rest) = .ok (raws.map g, (writeStrListBytes raws).length, rest) := by
  unfold readStringList
  have hpad := rdBytes_append (List.replicate (padLen (strListBody raws).2) 0) rest
  rw [List.length_replicate] at hpad
  rw [writeStrListBytes, List.append_assoc]
  have h2 := readStrsAux_write dec g raws [] 0 (List.replicate (padLen (strListBody raws).2) 0 ++ rest) h0 hd
  simp only [List.reverse_nil, List.nil_append, Nat.zero_add] at h2
  simp only [h2, hpad]
  rw [← writeStrListBytes_length, writeStrListBytes]

/-- **String lists round trip, for every list of NUL-free byte strings**: the section `write_string_list`
writes is a multiple of 4 bytes long (the padding is computed from the bytes written), and
`read_string_list` with the same count reads exactly these strings, consumes exactly the section, and
leaves whatever follows untouched. -/
theorem string_list_roundtrip (ss : List Bytes) (rest : Bytes) (h0 : ∀ s ∈ ss, (0 : UInt8) ∉ s) :
    (writeStrListBytes ss).length % 4 = 0 ∧
    readStringList some ss.length (writeStrListBytes ss ++ rest) = .ok (ss, (writeStrListBytes ss).length, rest) := by
  refine ⟨by rw [writeStrListBytes_length]; exact padLen_mod _, ?_⟩
  have := readStringList_write some id ss rest h0 (fun _ _ => rfl)
  simpa using this

/-- names of 0, 1, 2, 3, 4 bytes and a two-byte character: 17 bytes of strings, 3 of padding -/
example : writeStrListBytes [[], [97], [97, 98], [97, 98, 99], [97, 98, 99, 100], [130, 160]] =
    [0, 97, 0, 97, 98, 0, 97, 98, 99, 0, 97, 98, 99, 100, 0, 130, 160, 0, 0, 0] := by decide +kernel

/-- A writer that computes the padding from any other count than the bytes written - here from the
UTF-8 length of a name whose Shift-JIS encoding is one byte shorter - produces a section that is not a
multiple of 4, and the reader, which pads by what it read, is left at the wrong position. -/
theorem string_list_wrong_padding_breaks :
    let body := (strListBody [[130, 160]]).1                      -- "あ": 2 bytes in Shift-JIS, 3 in UTF-8
    let wrong := body ++ List.replicate (padLen 4) 0             -- padding from the UTF-8 length 3 + 1
    wrong.length % 4 ≠ 0 ∧
    readStringList some 1 (wrong ++ [69, 67, 76, 73]) ≠ .ok ([[130, 160]], wrong.length, [69, 67, 76, 73]) := by
  decide +kernel

/-- the codec law the round trip needs of one string: `Encoded::decode` maps what `Encoded::encode` produced
back to the string.  (`encoding_rs::SHIFT_JIS`: true of every string without the three scalars C15 pins as
ambiguous; decidable for a concrete codec.)  That the encoding is NUL-free is not a hypothesis: a successful write
implies it (dcd07d9, `encAll_nul_free`). -/
def codecOk (sj : Abi.Sjis) (t : Text) : Bool :=
  match sj.enc t with
  | some b => sj.dec b == some t
  | none => true

theorem codecOk_spec {sj : Abi.Sjis} {t : Text} {b : Bytes} (h : codecOk sj t = true) (he : sj.enc t = some b) :
    sj.dec b = some t := by
  unfold codecOk at h
  rw [he] at h
  simpa using h

/-- the encoding the writer uses for a string (`[]` where there is none: only used under "every string encodes") -/
def encOf (sj : Abi.Sjis) (t : Text) : Bytes := (sj.enc t).getD []

/-- what `write_string_list` demands of one string: it has an encoding, and the encoding contains no NUL -/
def nameFits (sj : Abi.Sjis) (t : Text) : Bool :=
  match sj.enc t with
  | some b => !b.contains 0
  | none => false

theorem nameFits_enc {sj : Abi.Sjis} {t : Text} (h : nameFits sj t = true) : sj.enc t = some (encOf sj t) ∧ (0 : UInt8) ∉ encOf sj t := by
  unfold nameFits at h
  unfold encOf
  cases ht : sj.enc t with
  | none => rw [ht] at h; cases h
  | some b =>
    rw [ht] at h
    refine ⟨rfl, fun hm => ?_⟩
    have hc : b.contains 0 = true := List.contains_iff_mem.2 hm
    simp only [hc] at h
    cases h

theorem encAll_wrote (sj : Abi.Sjis) (ts : List Text) :
    Wrote (encAll sj ts) (∀ t ∈ ts, nameFits sj t = true) False (ts.map (encOf sj)) := by
  induction ts with
  | nil => exact .nil _ _
  | cons t ts ih =>
    rw [encAll]
    refine .cons ?_
    cases ht : sj.enc t with
    | none => exact fun hg => by simp [nameFits, ht] at hg
    | some b =>
      have hb : encOf sj t = b := by simp only [encOf, ht, Option.getD_some]
      have hn : nameFits sj t = !b.contains 0 := by simp only [nameFits, ht]
      rw [List.map_cons, hb, hn]
      refine (Wrote.check ?_).iff (and_congr_left' (by simp))
      exact ih.last (fun h => by simp only [h]) (fun c hc => ⟨c, by simp only [hc]⟩)

/-- what `write_string_list` got past is NUL-free (dcd07d9) -/
theorem encAll_nul_free (sj : Abi.Sjis) : ∀ (ts : List Text) (raws : List Bytes), encAll sj ts = .ok raws →
    ∀ r ∈ raws, (0 : UInt8) ∉ r := by
  intro ts raws h r hr
  obtain ⟨hfit, rfl⟩ := (encAll_wrote sj ts).of_ok h
  obtain ⟨t, ht, rfl⟩ := List.mem_map.1 hr
  exact (nameFits_enc (hfit t ht)).2

def strListBytes (sj : Abi.Sjis) (ts : List Text) : Bytes := writeStrListBytes (ts.map (encOf sj))

theorem writeStringList_wrote (sj : Abi.Sjis) (ts : List Text) :
    Wrote (writeStringList sj ts) (∀ t ∈ ts, nameFits sj t = true) False (strListBytes sj ts) := by
  unfold writeStringList
  exact (encAll_wrote sj ts).last (fun h => by simp only [h]; rfl) (fun c hc => ⟨c, by simp only [hc]⟩)

theorem readStringList_strListBytes (sj : Abi.Sjis) (ts : List Text) (rest : Bytes) (hfit : ∀ t ∈ ts, nameFits sj t = true)
    (hok : ∀ t ∈ ts, codecOk sj t = true) :
    readStringList sj.dec ts.length (strListBytes sj ts ++ rest) = .ok (ts, (strListBytes sj ts).length, rest) := by
  have hdec : ∀ t ∈ ts, sj.dec (encOf sj t) = some t := fun t ht => codecOk_spec (hok t ht) (nameFits_enc (hfit t ht)).1
  have := readStringList_write sj.dec (fun r => (sj.dec r).getD []) (ts.map (encOf sj)) rest
    (by intro r hr; obtain ⟨t, ht, rfl⟩ := List.mem_map.1 hr; exact (nameFits_enc (hfit t ht)).2)
    (by intro r hr; obtain ⟨t, ht, rfl⟩ := List.mem_map.1 hr; rw [hdec t ht]; rfl)
  rw [List.length_map, List.map_map] at this
  rw [strListBytes, this, List.map_congr_left (g := id) (fun t ht => by simp only [Function.comp_apply, hdec t ht, Option.getD_some, id]),
    List.map_id]

theorem expectMagic_append (m x : Bytes) : expectMagic m (m ++ x) = .ok x := by
  unfold expectMagic
  rw [rdBytes_append]
  simp

def includeBytes (sj : Abi.Sjis) (m : Bytes) (ts : List Text) : Bytes := m ++ u32 ts.length ++ strListBytes sj ts

theorem writeInclude_wrote (sj : Abi.Sjis) (m : Bytes) (ts : List Text) :
    Wrote (writeInclude sj m ts) (∀ t ∈ ts, nameFits sj t = true) False (includeBytes sj m ts) := by
  unfold writeInclude
  exact (writeStringList_wrote sj ts).last (fun h => by simp only [h]; rfl) (fun c hc => ⟨c, by simp only [hc]⟩)

theorem readInclude_write (sj : Abi.Sjis) (m : Bytes) (ts : List Text) (rest : Bytes) (hfit : ∀ t ∈ ts, nameFits sj t = true)
    (hok : ∀ t ∈ ts, codecOk sj t = true) (hn : ts.length < 2 ^ 32) :
    readInclude sj.dec m (includeBytes sj m ts ++ rest) = .ok (ts, (includeBytes sj m ts).length, rest) := by
  unfold readInclude
  simp only [includeBytes, List.append_assoc, expectMagic_append, rdU32_u32 _ _ hn, readStringList_strListBytes sj ts rest hfit hok]
  rw [List.length_append, List.length_append, Nat.add_assoc]
  rfl

def subBytes (is : List Instr10) : Bytes := subHeader ++ instrs10Bytes is

def subsBytes (ss : List (List Instr10)) : Bytes := (ss.map subBytes).flatten

/-- the length of each sub as stored; the offset table is `offsetsFrom` of it -/
def subLens (ss : List (List Instr10)) : List Nat := ss.map fun s => 16 + sizeSum10 s

theorem subHeader_length : subHeader.length = 16 := by decide

theorem subBytes_length (is : List Instr10) : (subBytes is).length = 16 + sizeSum10 is := by
  rw [subBytes, List.length_append, subHeader_length, instrs10Bytes_length]

theorem subsBytes_length (ss : List (List Instr10)) : (subsBytes ss).length = (subLens ss).sum := by
  induction ss with
  | nil => rfl
  | cons s ss ih =>
    rw [subsBytes, List.map_cons, List.flatten_cons, List.length_append, subBytes_length, subLens, List.map_cons, List.sum_cons]
    exact congrArg _ ih

theorem writeSubs10_wrote (scripts : List (List Instr10)) (pos : Nat) :
    Wrote (writeSubs10 pos scripts) (∀ s ∈ scripts, ∀ i ∈ s, fits10 i = true) False
      (subsBytes scripts, offsetsFrom pos (subLens scripts)) := by
  induction scripts generalizing pos with
  | nil => exact .nil _ _
  | cons s scripts ih =>
    rw [writeSubs10]
    refine .cons ?_
    refine (writeInstrs10_wrote s).step (fun hb => ?_) (fun c hc => ⟨c, by simp only [hc]⟩)
    simp only [hb]
    refine (ih (pos + 16 + (instrs10Bytes s).length)).last (fun h => ?_) (fun c hc => ⟨c, by simp only [hc]⟩)
    rw [h, instrs10Bytes_length]
    simp only [subsBytes, subLens, List.map_cons, List.flatten_cons, offsetsFrom, subBytes, List.append_assoc, Nat.add_assoc]

/-- the sub offsets followed by the end of the file, as the reader sees them -/
def offsE (base : Nat) (lens : List Nat) : List Nat := offsetsFrom base lens ++ [base + lens.sum]

theorem offsE_nil (base : Nat) : offsE base [] = [base] := by simp [offsE, offsetsFrom]

theorem offsE_cons (base l : Nat) (ls : List Nat) : offsE base (l :: ls) = base :: offsE (base + l) ls := by
  simp [offsE, offsetsFrom, Nat.add_assoc]

theorem offsE_head (base : Nat) (ls : List Nat) : ∃ t, offsE base ls = base :: t := by
  cases ls with
  | nil => exact ⟨[], offsE_nil base⟩
  | cons l ls => exact ⟨_, offsE_cons base l ls⟩

theorem readSubHeader_write (x : Bytes) : readSubHeader (subHeader ++ x) = .ok x := by
  unfold readSubHeader subHeader
  rw [List.append_assoc, List.append_assoc, List.append_assoc, expectMagic_append]
  have := rdU32s_u32s [16, 0, 0] x (by intro y hy; simp at hy; rcases hy with rfl | rfl | rfl <;> decide)
  simp only [u32s, List.flatMap_cons, List.flatMap_nil, List.append_nil, List.append_assoc, List.length_cons, List.length_nil] at this
  simp only [this]

theorem insertSub_new (acc : List (Text × List Instr10)) (name : Text) (is : List Instr10) (h : name ∉ acc.map (·.1)) :
    insertSub acc name is = acc ++ [(name, is)] := by
  unfold insertSub
  rw [if_neg]
  intro hany
  obtain ⟨x, hx, hxn⟩ := List.any_eq_true.1 hany
  exact h (List.mem_map.2 ⟨x, hx, beq_iff_eq.1 hxn⟩)

/-- `pre` is everything before the first sub not yet read; a step moves one `subBytes` into it.  `Nodup` over `acc ++ subs` makes every `insertSub`
an append (`insertSub_new`) -/
theorem readSubsAux_write : ∀ (subs : List (Text × List Instr10)), (∀ s ∈ subs, ∀ i ∈ s.2, fits10 i = true) →
    ∀ (pre : Bytes) (acc : List (Text × List Instr10)), ((acc ++ subs).map (·.1)).Nodup →
    readSubsAux (pre ++ subsBytes (subs.map (·.2))) (offsE pre.length (subLens (subs.map (·.2)))) (subs.map (·.1)) acc = .ok (acc ++ subs) := by
  intro subs
  induction subs with
  | nil =>
    intro _ pre acc _
    exact (readSubsAux_nil_names _ _ _).trans (by rw [List.append_nil])
  | cons s subs ih =>
    intro hf pre acc hnd
    obtain ⟨name, is⟩ := s
    simp only [List.map_cons]
    generalize hss : subs.map (·.2) = ss at ih ⊢
    have hbody : subsBytes (is :: ss) = subHeader ++ (instrs10Bytes is ++ subsBytes ss) := by
      simp only [subsBytes, subBytes, List.map_cons, List.flatten_cons, List.append_assoc]
    obtain ⟨t, ht⟩ := offsE_head (pre.length + (16 + sizeSum10 is)) (subLens ss)
    have hoffs : offsE pre.length (subLens (is :: ss)) = pre.length :: (pre.length + (16 + sizeSum10 is)) :: t := by
      rw [subLens, List.map_cons, offsE_cons, ← ht]
      rfl
    have hsub : readSub10 (pre ++ subsBytes (is :: ss)) pre.length (pre.length + (16 + sizeSum10 is)) = .ok is := by
      unfold readSub10
      rw [if_neg (Nat.not_lt.2 (Nat.le_add_right _ _)), hbody, drop_prefix, readSubHeader_write, ← Nat.add_assoc]
      exact readInstrs10_write is _ (pre.length + 16) (hf _ (List.mem_cons_self ..))
    have hname : name ∉ acc.map (·.1) := by
      rw [List.map_append, List.nodup_append] at hnd
      intro hm
      exact hnd.2.2 _ hm _ (by simp) rfl
    rw [hoffs, readSubsAux_step, hsub]
    simp only
    rw [insertSub_new acc name is hname]
    have hih := ih (fun x hx => hf x (List.mem_cons_of_mem _ hx)) (pre ++ subBytes is) (acc ++ [(name, is)])
      (by simpa [List.append_assoc] using hnd)
    rw [List.length_append, subBytes_length, subBytes, List.append_assoc, List.append_assoc] at hih
    rw [← ht, hbody]
    exact hih.trans (by rw [List.append_assoc]; rfl)

/-- the explicit well-formedness predicate of a stack ECL file (decidable for a concrete codec): every
string is decoded back to itself from its encoding (`codecOk`), and the sub names are distinct (an
invariant of the `IndexMap` that holds the subs).  The compiler's output satisfies it whenever no name
contains one of the three ambiguous scalars of C15.  NUL-freeness is not part of it: a
successful write implies it (dcd07d9, `encAll_nul_free`, `ecl10_write_ok_nul_free`). -/
def wfEcl10 (sj : Abi.Sjis) (f : Ecl10File) : Bool :=
  f.anim.all (codecOk sj) && f.ecli.all (codecOk sj) && f.subs.all (fun s => codecOk sj s.1) &&
  decide ((f.subs.map (·.1)).Nodup)

theorem wfEcl10_iff {sj : Abi.Sjis} {f : Ecl10File} : wfEcl10 sj f = true ↔
    (∀ t ∈ f.anim, codecOk sj t = true) ∧ (∀ t ∈ f.ecli, codecOk sj t = true) ∧ (∀ s ∈ f.subs, codecOk sj s.1 = true) ∧
      (f.subs.map (·.1)).Nodup := by
  simp only [wfEcl10, Bool.and_eq_true, List.all_eq_true, decide_eq_true_eq, and_assoc]

theorem ecl10Header_length (il n : Nat) : (ecl10Header il n).length = 36 := by
  simp only [ecl10Header, List.length_append]
  rfl

theorem readEcl10_header (sj : Abi.Sjis) (file : Bytes) (il io n : Nat) (rest : Bytes)
    (hfile : file = scptMagic ++ (i16 1 ++ (u16 il ++ (u32 io ++ (u32 0 ++ (u32 n ++ (u32s [0, 0, 0, 0] ++ rest)))))))
    (hil : il < 2 ^ 16) (hio : io < 2 ^ 32) (hn : n < 2 ^ 32) :
    readEcl10 sj file = readEcl10Includes sj file il io n rest := by
  have hm : expectMagic scptMagic file = .ok (i16 1 ++ (u16 il ++ (u32 io ++ (u32 0 ++ (u32 n ++ (u32s [0, 0, 0, 0] ++ rest)))))) := by
    rw [hfile, expectMagic_append]
  have hz := rdU32s_u32s [0, 0, 0, 0] rest (by intro y hy; simp at hy; subst hy; decide)
  simp only [List.length_cons, List.length_nil] at hz
  unfold readEcl10
  simp only [hm, rdI16_i16 1 _ (by decide), rdU16_u16 _ _ hil, rdU32_u32 io _ hio, rdU32_u32 0 _ (by decide), rdU32_u32 n _ hn, hz]

theorem readEcl10Subs_write (sj : Abi.Sjis) (subs : List (Text × List Instr10)) (pre : Bytes)
    (hf : ∀ s ∈ subs, ∀ i ∈ s.2, fits10 i = true) (hnd : (subs.map (·.1)).Nodup)
    (hfit : ∀ s ∈ subs, nameFits sj s.1 = true) (hok : ∀ s ∈ subs, codecOk sj s.1 = true)
    (hlen : pre.length + (subLens (subs.map (·.2))).sum < 2 ^ 32) :
    readEcl10Subs sj (pre ++ subsBytes (subs.map (·.2))) subs.length
      (u32s (offsetsFrom pre.length (subLens (subs.map (·.2)))) ++ (strListBytes sj (subs.map (·.1)) ++ subsBytes (subs.map (·.2)))) = .ok subs := by
  have hofl : (offsetsFrom pre.length (subLens (subs.map (·.2)))).length = subs.length := by
    rw [offsetsFrom_length, subLens, List.length_map, List.length_map]
  have hroff := rdU32s_u32s (offsetsFrom pre.length (subLens (subs.map (·.2)))) (strListBytes sj (subs.map (·.1)) ++ subsBytes (subs.map (·.2)))
    (fun x hx => Nat.lt_of_le_of_lt (offsetsFrom_le _ _ x hx) hlen)
  rw [hofl] at hroff
  have hrn := readStringList_strListBytes sj (subs.map (·.1)) (subsBytes (subs.map (·.2))) (List.forall_mem_map.2 hfit) (List.forall_mem_map.2 hok)
  rw [List.length_map] at hrn
  have hsubsr := readSubsAux_write subs hf pre [] hnd
  rw [offsE, ← subsBytes_length, ← List.length_append] at hsubsr
  unfold readEcl10Subs
  simp only [hroff, hrn, hsubsr, List.nil_append]

/-- bytes `write_string_list` writes for encoded strings: every string and its NUL, padded to a multiple of 4 -/
def listLen (raws : List Bytes) : Nat :=
  (raws.map (fun r => r.length + 1)).sum + padLen (raws.map (fun r => r.length + 1)).sum

theorem strListBody_sum (raws : List Bytes) : (strListBody raws).2 = (raws.map (fun r => r.length + 1)).sum := by
  induction raws with
  | nil => rfl
  | cons r rs ih => simp only [strListBody, ih, List.map_cons, List.sum_cons]

theorem includeBytes_length (sj : Abi.Sjis) (m : Bytes) (ts : List Text) :
    (includeBytes sj m ts).length = m.length + 4 + listLen (ts.map (encOf sj)) := by
  simp only [includeBytes, strListBytes, List.length_append, writeStrListBytes_length, strListBody_sum, listLen]
  rfl

/-- `include_length`: both include sections (magic, count, padded strings) -/
def includeLen (sj : Abi.Sjis) (f : Ecl10File) : Nat :=
  (4 + 4 + listLen (f.anim.map (encOf sj))) + (4 + 4 + listLen (f.ecli.map (encOf sj)))

/-- everything `write` has to fit or encode: every include name and every sub name has an encoding
without a NUL byte (`nameFits`), the include section fits its 16-bit length field, every instruction
fits its header -/
def Ecl10Fits (sj : Abi.Sjis) (f : Ecl10File) : Prop :=
  (∀ t ∈ f.anim, nameFits sj t = true) ∧ (∀ t ∈ f.ecli, nameFits sj t = true) ∧ includeLen sj f ≤ 65535 ∧
  (∀ s ∈ f.subs, nameFits sj s.1 = true) ∧ ∀ s ∈ f.subs, ∀ i ∈ s.2, fits10 i = true

/-- where the first sub starts: header, both include sections, the offset table, the sub names -/
def subsStart (sj : Abi.Sjis) (f : Ecl10File) : Nat :=
  36 + includeLen sj f + 4 * f.subs.length + (strListBytes sj (f.subs.map (·.1))).length

/-- the file `write` produces when everything fits -/
def ecl10Bytes (sj : Abi.Sjis) (f : Ecl10File) : Bytes :=
  ecl10Header (includeLen sj f) f.subs.length ++ includeBytes sj animMagic f.anim ++ includeBytes sj ecliMagic f.ecli ++
    u32s (offsetsFrom (subsStart sj f) (subLens (f.subs.map (·.2)))) ++ strListBytes sj (f.subs.map (·.1)) ++ subsBytes (f.subs.map (·.2))

theorem includeLen_eq (sj : Abi.Sjis) (f : Ecl10File) :
    (includeBytes sj animMagic f.anim).length + (includeBytes sj ecliMagic f.ecli).length = includeLen sj f := by
  rw [includeBytes_length, includeBytes_length]
  rfl

theorem writeEcl10_wrote (sj : Abi.Sjis) (f : Ecl10File) : Wrote (writeEcl10 sj f) (Ecl10Fits sj f) False (ecl10Bytes sj f) := by
  unfold writeEcl10 Ecl10Fits
  simp only []
  refine (writeInclude_wrote sj animMagic f.anim).step (fun ha => ?_) (fun c hc => ⟨c, by simp only [hc]⟩)
  simp only [ha]
  refine (writeInclude_wrote sj ecliMagic f.ecli).step (fun he => ?_) (fun c hc => ⟨c, by simp only [hc]⟩)
  simp only [he]
  rw [includeLen_eq]
  refine (Wrote.check ?_).iff (and_congr_left' Nat.not_lt)
  rw [if_neg (by decide)]
  have hN := (writeStringList_wrote sj (f.subs.map (·.1))).iff List.forall_mem_map
  refine hN.step (fun hnb => ?_) (fun c hc => ⟨c, by simp only [hc]⟩)
  simp only [hnb]
  refine ((writeSubs10_wrote (f.subs.map (·.2)) (36 + includeLen sj f + 4 * f.subs.length + (strListBytes sj (f.subs.map (·.1))).length)).iff
    List.forall_mem_map).last (fun hp => ?_) (fun c hc => ⟨c, by simp only [hc]⟩)
  simp only [hp]
  rw [if_neg fun h => h (by rw [offsetsFrom_length, subLens, List.length_map, List.length_map])]
  rfl

/-- **stack ECL: the writer fails exactly when a string has no encoding or an encoding that contains a
NUL (dcd07d9), the include section does not fit its 16-bit length field, or an instruction does not fit
its header - and never panics**: the
`unwrap` of `u32::try_from(include_offset)` and the `assert_eq!` on the number of offsets are dead. -/
theorem ecl10_write_err_iff (sj : Abi.Sjis) (f : Ecl10File) : Decides (writeEcl10 sj f) (Ecl10Fits sj f) :=
  (writeEcl10_wrote sj f).decides id

theorem ecl10_write_no_panic (sj : Abi.Sjis) (f : Ecl10File) : (writeEcl10 sj f).isPanic = false :=
  (ecl10_write_err_iff sj f).no_panic

theorem ecl10Bytes_length (sj : Abi.Sjis) (f : Ecl10File) :
    (ecl10Bytes sj f).length = subsStart sj f + (subLens (f.subs.map (·.2))).sum := by
  simp only [ecl10Bytes, subsStart, List.length_append, ecl10Header_length, u32s_length, offsetsFrom_length, subLens, List.length_map,
    subsBytes_length, ← includeLen_eq, Nat.add_assoc]

theorem length_le_listLen (raws : List Bytes) : raws.length ≤ listLen raws := by
  have : raws.length ≤ (raws.map (fun r => r.length + 1)).sum := by
    induction raws with
    | nil => exact Nat.le_refl _
    | cons r rs ih => simp only [List.map_cons, List.sum_cons, List.length_cons]; omega
  exact Nat.le_trans this (Nat.le_add_right _ _)

/-- in a layout below 4 GiB in which everything fits, the three counts stored with `as u32` are below 2^32: the offset table alone
takes 4 bytes per sub, and a name takes at least its NUL in the include section, which fits 16 bits -/
theorem ecl10Bytes_counts_lt (sj : Abi.Sjis) (f : Ecl10File) (hfit : Ecl10Fits sj f) (hlen : (ecl10Bytes sj f).length < 2 ^ 32) :
    includeLen sj f < 2 ^ 16 ∧ f.subs.length < 2 ^ 32 ∧ f.anim.length < 2 ^ 32 ∧ f.ecli.length < 2 ^ 32 := by
  have h3 := hfit.2.2.1
  have ha' := length_le_listLen (f.anim.map (encOf sj))
  have he' := length_le_listLen (f.ecli.map (encOf sj))
  rw [List.length_map] at ha' he'
  rw [ecl10Bytes_length, subsStart] at hlen
  exact ⟨Nat.lt_succ_of_le h3,
    Nat.lt_of_le_of_lt (Nat.le_trans (Nat.le_mul_of_pos_left _ (by decide))
      (Nat.le_trans (Nat.le_add_left _ _) (Nat.le_trans (Nat.le_add_right _ _) (Nat.le_add_right _ _)))) hlen,
    Nat.lt_of_le_of_lt (Nat.le_trans ha' (Nat.le_trans (Nat.le_add_left _ _) (Nat.le_trans (Nat.le_add_right _ _) h3))) (by decide),
    Nat.lt_of_le_of_lt (Nat.le_trans he' (Nat.le_trans (Nat.le_add_left _ _) (Nat.le_trans (Nat.le_add_left _ _) h3))) (by decide)⟩

/-- **nothing is narrowed silently below 4 GiB**: in a file `write` accepted and that is smaller than
4 GiB, the three counts written with `as u32` are below 2^32 (so `u32 x` stored `x` itself; the sub
offsets, also written with `as u32`, are positions inside the file and therefore below its length), and
the include length fits the 16 bits it is stored in. -/
theorem ecl10_write_ok_no_narrowing (sj : Abi.Sjis) (f : Ecl10File) (bs : Bytes) (hw : writeEcl10 sj f = .ok bs)
    (hlen : bs.length < 2 ^ 32) :
    includeLen sj f < 2 ^ 16 ∧ f.subs.length < 2 ^ 32 ∧ f.anim.length < 2 ^ 32 ∧ f.ecli.length < 2 ^ 32 := by
  have h := (writeEcl10_wrote sj f).of_ok hw
  exact ecl10Bytes_counts_lt sj f h.1 (h.2 ▸ hlen)

theorem readEcl10_write (sj : Abi.Sjis) (f : Ecl10File) (hfit : Ecl10Fits sj f) (hwf : wfEcl10 sj f = true)
    (hlen : (ecl10Bytes sj f).length < 2 ^ 32) : readEcl10 sj (ecl10Bytes sj f) = .ok f := by
  obtain ⟨_, hns, hna, hne⟩ := ecl10Bytes_counts_lt sj f hfit hlen
  obtain ⟨hoka, hoke, hoks, hnd⟩ := wfEcl10_iff.1 hwf
  obtain ⟨hfa, hfe, hil, hfn, hfi⟩ := hfit
  rw [ecl10Bytes_length] at hlen
  obtain ⟨pre, hpre⟩ : ∃ pre, pre = ecl10Header (includeLen sj f) f.subs.length ++ (includeBytes sj animMagic f.anim ++
    (includeBytes sj ecliMagic f.ecli ++ (u32s (offsetsFrom (subsStart sj f) (subLens (f.subs.map (·.2)))) ++
      strListBytes sj (f.subs.map (·.1))))) := ⟨_, rfl⟩
  have hpl : pre.length = subsStart sj f := by
    rw [hpre]
    simp only [subsStart, List.length_append, ecl10Header_length, u32s_length, offsetsFrom_length, subLens, List.length_map,
      ← includeLen_eq, Nat.add_assoc]
  have htail := readEcl10Subs_write sj f.subs pre hfi hnd hfn hoks (hpl ▸ hlen)
  rw [hpl, hpre] at htail
  simp only [ecl10Bytes, ← includeLen_eq, List.append_assoc] at htail ⊢
  -- the header sends `read` to the include sections at 36, their length is the `include_length` it stores, the subs follow
  rw [readEcl10_header sj _ _ 36 f.subs.length _ (by simp only [ecl10Header, List.append_assoc]; rfl)
    (Nat.lt_succ_of_le (includeLen_eq sj f ▸ hil)) (by decide) hns, readEcl10Includes_eq]
  simp only [ne_eq, not_true_eq_false, if_false, readInclude_write sj animMagic f.anim _ hfa hoka hna,
    readInclude_write sj ecliMagic f.ecli _ hfe hoke hne, Nat.add_assoc, Nat.add_sub_cancel_left, htail]

/-- **stack ECL round trip** (TH10 and later): a file that `write` accepts, that is smaller than 4 GiB
and whose strings obey the codec laws, is read back by `read` as exactly the same include lists and
the same subs (names, order, every instruction field).  Not part of the model, hence not compared:
source spans, `RawScript::file_offset`, `binary_filename`; `extra_arg` is not stored by this format and
read as `None`. -/
theorem ecl10_read_write (sj : Abi.Sjis) (f : Ecl10File) (bs : Bytes)
    (hw : writeEcl10 sj f = .ok bs) (hwf : wfEcl10 sj f = true) (hlen : bs.length < 2 ^ 32) :
    readEcl10 sj bs = .ok f := by
  have h := (writeEcl10_wrote sj f).of_ok hw
  exact h.2 ▸ readEcl10_write sj f h.1 hwf (h.2 ▸ hlen)

/-- ASCII plus one two-byte character (U+3042 = 0x82 0xA0 in Shift-JIS, three bytes in UTF-8) -/
def sampleSjis : Abi.Sjis :=
  { enc := fun s => if s.all (fun c => c.toNat < 128 || c.toNat == 0x3042) then
      some (s.flatMap fun c => if c.toNat == 0x3042 then [0x82, 0xA0] else [UInt8.ofNat c.toNat]) else none,
    dec :=
      let rec go : Nat → Bytes → Option Text
        | 0, _ => none
        | _ + 1, [] => some []
        | n + 1, 0x82 :: 0xA0 :: r => (go n r).map (Char.ofNat 0x3042 :: ·)
        | n + 1, b :: r => if b < 128 then (go n r).map (Char.ofNat b.toNat :: ·) else none
      fun b => go (b.length + 1) b }

/-- two include lists (names of 0, 1, 5, 6 bytes and a non-ASCII one), two subs -/
def ecl10Example : Ecl10File :=
  { anim := ["a.anm".toList, [], [Char.ofNat 0x3042, '.', 'a']], ecli := ["x".toList, "enemy1".toList],
    subs := [("main".toList, [{ time := 5, opcode := 10, mask := 3, difficulty := 255, argCount := 5, pop := 2, blob := [1, 0, 0, 0] },
                                { time := -1, opcode := 65535, mask := 0, difficulty := 7, argCount := 0, pop := 0, blob := [] }]),
             ("sub1".toList, [])] }

set_option maxRecDepth 100000 in
example : ∃ bs, writeEcl10 sampleSjis ecl10Example = .ok bs ∧ bs.length = 164 ∧ readEcl10 sampleSjis bs = .ok ecl10Example :=
  exists_ok_of_decide (by decide +kernel)

set_option maxRecDepth 100000 in
/-- a name without an encoding is a diagnostic -/
example : writeEcl10 asciiSjis { anim := [[Char.ofNat 0x3042]], ecli := [], subs := [] } = .err encErr := rfl

/-- an include section of 65536 bytes is a diagnostic, not a truncated length: one name of 65516 bytes
gives 8 + 65520 + 8 -/
example (name : Text) (hn : name.length = 65516) (h : ∀ c ∈ name, c.toNat < 128) :
    ∃ c, writeEcl10 asciiSjis { anim := [name], ecli := [], subs := [] } = .err c := by
  apply (ecl10_write_err_iff _ _).2
  intro hfit
  have h3 := hfit.2.2.1
  have henc : asciiSjis.enc name = some (name.map fun c => UInt8.ofNat c.toNat) := by
    simp only [asciiSjis]
    rw [if_pos]
    simpa using h
  simp only [includeLen, listLen, encOf, List.map_cons, List.map_nil, henc, Option.getD_some, List.length_map, hn,
    List.sum_cons, List.sum_nil] at h3
  simp [padLen] at h3

def nulNameFile : Ecl10File :=
  { anim := ["a.anm".toList, [Char.ofNat 0, 'b']], ecli := ["x".toList], subs := [("main".toList, [])] }

/-- **a NUL in a name is a diagnostic** (dcd07d9; known finding `written-file-not-read-back ecl10 nul-in-include-name`, fixed):
the writer refuses `meta { anim: ["a.anm", "\0b"], ecli: ["x"] }`.  Written as it is, the NUL would end the string early for
`read_string_list`, and the reader would answer "failed to find magic". -/
theorem ecl10_nul_in_name_rejected : writeEcl10 asciiSjis nulNameFile = .err nulErr := rfl

set_option maxRecDepth 100000 in
/-- of two faults of one list the first string decides; for one string the encoding comes first -/
example : writeEcl10 asciiSjis { anim := [[Char.ofNat 0], [Char.ofNat 0x3042]], ecli := [], subs := [] } = .err nulErr ∧
    writeEcl10 asciiSjis { anim := [[Char.ofNat 0x3042], [Char.ofNat 0]], ecli := [], subs := [] } = .err encErr := ⟨rfl, rfl⟩

/-- **whatever `write` accepts has NUL-free names** - for every file and every codec: the include
names and the sub names all went through `write_string_list` -/
theorem ecl10_write_ok_nul_free (sj : Abi.Sjis) (f : Ecl10File) (bs : Bytes) (hw : writeEcl10 sj f = .ok bs) :
    ∀ t ∈ f.anim ++ f.ecli ++ f.subs.map (·.1), nameFits sj t = true := by
  obtain ⟨⟨h1, h2, _, h4, _⟩, _⟩ := (writeEcl10_wrote sj f).of_ok hw
  intro t ht
  rcases List.mem_append.1 ht with ht | ht
  · rcases List.mem_append.1 ht with ht | ht
    · exact h1 t ht
    · exact h2 t ht
  · obtain ⟨x, hx, rfl⟩ := List.mem_map.1 ht
    exact h4 x hx

/-- **the round trip with no hypothesis about the file but the `IndexMap` invariant**: for every codec
whose decoder inverts its encoder, EVERY file `write` accepts (distinct sub names, below 4 GiB) reads
back as itself.  With a NUL in a name a diagnostic (`ecl10_nul_in_name_rejected`), nothing about the strings is left to assume. -/
theorem ecl10_read_write_full (sj : Abi.Sjis) (hcodec : ∀ t b, sj.enc t = some b → sj.dec b = some t)
    (f : Ecl10File) (bs : Bytes) (hw : writeEcl10 sj f = .ok bs) (hnd : (f.subs.map (·.1)).Nodup) (hlen : bs.length < 2 ^ 32) :
    readEcl10 sj bs = .ok f := by
  have hok : ∀ t, codecOk sj t = true := by
    intro t
    unfold codecOk
    cases h : sj.enc t with
    | none => rfl
    | some b => simp [hcodec t b h]
  exact ecl10_read_write sj f bs hw (wfEcl10_iff.2 ⟨fun t _ => hok t, fun t _ => hok t, fun s _ => hok s.1, hnd⟩) hlen

/-- the codec hypothesis is needed (it is a law of Shift-JIS, checked by C15, not of the file):
with a decoder that does not invert the encoder an accepted file reads back differently -/
theorem ecl10_read_write_needs_codec_law :
    ∃ (sj : Abi.Sjis) (f : Ecl10File) (bs : Bytes), writeEcl10 sj f = .ok bs ∧ (f.subs.map (·.1)).Nodup ∧ bs.length < 2 ^ 32 ∧
      readEcl10 sj bs ≠ .ok f :=
  ⟨{ enc := asciiSjis.enc, dec := fun _ => some [] }, { anim := ["a".toList], ecli := [], subs := [] },
    exists_ok_of_decide (by decide +kernel)⟩

end TruthModel.C03
