import TruthModel.Props.C18Msg
import TruthModel.Props.C03Files
/-
C18, MSG script table, tied to the writer model of C03 (`Files.writeScripts` / `msgEntryOffset`): the two
facts `msg_export_indices` assumes about script offsets (non-zero, distinct) are properties of the
script loop of `write_msg` (`writeScripts_msg_offsets`).  `msg_export_indices_written` is the statement of
`msg_export_indices` again, for the offsets the writer computes and the entry the writer puts into the file
(`msgEntryOffset`, a partial lookup); it is proved from `mem_indicesOf` like the other, not as its instance
(`msg_export_indices` asks the two facts of a total offset function).
-/
namespace TruthModel.C18
open TruthModel TruthModel.InstrIO TruthModel.Files TruthModel.MsgTable TruthModel.C03

/-- the script loop records the scripts in order, each at or after `pos`, at strictly increasing offsets
(no MSG script is empty: each ends with its 4-byte end marker) -/
theorem writeScripts_msg_offsets : ∀ (scripts : List (Nat × List Instr)) (pos : Nat) (sb : Bytes) (offs : List (Nat × Nat)),
    writeScripts .msg pos scripts = .ok (sb, offs) →
    offs.map (·.1) = scripts.map (·.1) ∧ (∀ p ∈ offs, pos ≤ p.2) ∧ offs.Pairwise (fun a b => a.2 < b.2) := by
  intro scripts pos sb offs h
  fun_induction writeScripts .msg pos scripts generalizing sb offs with
  | case1 => cases h; simp
  | case2 pos name is rest b hb bs' offs' hrec ih =>
    cases h
    obtain ⟨hnames, hge, hpw⟩ := ih _ _ hrec
    have hlen := writeInstrs_msg_length hb
    refine ⟨by simp only [List.map_cons, hnames], ?_, List.pairwise_cons.mpr ⟨?_, hpw⟩⟩
    · intro p hp
      rcases List.mem_cons.mp hp with rfl | hp
      · exact Nat.le_refl _
      · exact Nat.le_trans (Nat.le_add_right _ _) (hge p hp)
    · exact fun p hp => Nat.lt_of_lt_of_le (Nat.lt_add_of_pos_right (Nat.lt_of_lt_of_le (by decide) hlen)) (hge p hp)
  | _ => cases h

theorem lookupNat_mem_snd {offs : List (Nat × Nat)} {k o : Nat} (h : lookupNat k offs = some o) : ∃ p ∈ offs, p.2 = o := by
  fun_induction lookupNat k offs with
  | case1 => cases h
  | case2 v rest => cases h; exact ⟨(k, o), List.mem_cons_self, rfl⟩
  | case3 k' v rest hk ih => obtain ⟨p, hp, hpo⟩ := ih h; exact ⟨p, List.mem_cons_of_mem _ hp, hpo⟩

theorem lookupNat_offsets_inj {offs : List (Nat × Nat)} (hpw : offs.Pairwise (fun a b => a.2 < b.2)) {a b o : Nat}
    (ha : lookupNat a offs = some o) (hb : lookupNat b offs = some o) : a = b := by
  induction offs with
  | nil => simp [lookupNat] at ha
  | cons kv rest ih =>
    obtain ⟨k, v⟩ := kv
    obtain ⟨hhead, hrest⟩ := List.pairwise_cons.mp hpw
    rw [lookupNat] at ha hb
    by_cases hak : a = k
    · by_cases hbk : b = k
      · rw [hak, hbk]
      · rw [if_pos hak] at ha; rw [if_neg hbk] at hb
        cases ha
        obtain ⟨p, hp, hpo⟩ := lookupNat_mem_snd hb
        exact absurd (hpo ▸ hhead p hp) (Nat.lt_irrefl _)
    · rw [if_neg hak] at ha
      by_cases hbk : b = k
      · rw [if_pos hbk] at hb
        cases hb
        obtain ⟨p, hp, hpo⟩ := lookupNat_mem_snd ha
        exact absurd (hpo ▸ hhead p hp) (Nat.lt_irrefl _)
      · rw [if_neg hbk] at hb
        exact ih hrest ha hb

def fileEntry (e : MsgTable.Entry) : Files.MsgEntry := ⟨e.script, e.flags.toUInt32⟩

/-- **C18 for MSG, against the writer.**  Whatever offsets the script loop of `write_msg` computes (file header of
any positive size), the indices the debug info lists for script `n` are exactly the positions of the table where
the writer puts the offset of `n`. -/
theorem msg_export_indices_written (s : Sparse) (scripts : List (Nat × List Instr)) (pos : Nat) (hpos : 0 < pos)
    (sb : Bytes) (offs : List (Nat × Nat)) (hw : writeScripts .msg pos scripts = .ok (sb, offs))
    (n o : Nat) (hn : lookupNat n offs = some o) (i : Nat) :
    i ∈ indicesOf s.densify n ↔
      ∃ h : i < s.densify.length, msgEntryOffset offs (fileEntry (s.densify[i])) = .ok o := by
  obtain ⟨_, hge, hpw⟩ := writeScripts_msg_offsets scripts pos sb offs hw
  rw [mem_indicesOf]
  constructor
  · rintro ⟨h, hs⟩
    refine ⟨h, ?_⟩
    simp only [msgEntryOffset, fileEntry, hs, hn]
  · rintro ⟨h, he⟩
    refine ⟨h, ?_⟩
    cases hsc : (s.densify[i]).script with
    | none =>
      simp only [msgEntryOffset, fileEntry, hsc] at he
      cases he
      obtain ⟨p, hp, hpo⟩ := lookupNat_mem_snd hn
      exact absurd (Nat.lt_of_lt_of_le hpos (hpo ▸ hge p hp)) (Nat.lt_irrefl 0)
    | some m =>
      simp only [msgEntryOffset, fileEntry, hsc] at he
      cases hm : lookupNat m offs with
      | none => rw [hm] at he; cases he
      | some o' =>
        rw [hm] at he
        have : o' = o := by cases he; rfl
        rw [this] at hm
        rw [lookupNat_offsets_inj hpw hm hn]

/-- the header of a MSG file is never empty, so `msg_export_indices_written` applies to `writeMsg` -/
theorem msgHeaderLen_pos (hasFlags : Bool) (m : MsgFile) : 0 < msgHeaderLen hasFlags m := by
  unfold msgHeaderLen; exact Nat.lt_of_lt_of_le (by decide) (Nat.le_add_right 4 _)

/-- non-vacuity: two scripts (each just its end marker) after a 12-byte header get the offsets 12 and 16, and a
table `[0 -> s0, default -> s1]` of length 3 lists script 1 at the entries 1 and 2 -/
example : ∃ sb offs, writeScripts .msg 12 [(0, []), (1, [])] = .ok (sb, offs) ∧ lookupNat 1 offs = some 16 ∧ lookupNat 0 offs = some 12 :=
  ⟨_, _, rfl, rfl, rfl⟩
example : indicesOf (Sparse.densify ⟨some 3, [(0, ⟨some 0, 0⟩)], ⟨some 1, 0⟩⟩) 1 = [1, 2] := by decide +kernel

end TruthModel.C18
