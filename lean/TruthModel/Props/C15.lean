import TruthModel.Lemmas.Abi
/-
C15 — text in string arguments and metadata survives compile and decompile unchanged.

String arguments (the string lemmas of `Lemmas/Abi.lean`), the fixed-size metadata strings
(`encode_fixed_size` / `read_cstring_exact`: STD stage and BGM names with 128 bytes, mission MSG lines
with 64 bytes and an additive cipher) and block-padded C strings (`write_cstring` /
`read_cstring_blockwise`: ANM entry paths).

The text <-> bytes step is the parameter `sj : Sjis`.  A theorem about a text `s` assumes exactly
`sj.enc s = some b`, `sj.dec b = some s` and `b` NUL-free; the harness validates these three facts
for `encoding_rs::SHIFT_JIS` exhaustively over all scalar values on every run (and for strings by
generation), and records the scalars for which they fail (they are excluded from the claim, as
the property's "represents unambiguously" does).
-/
open TruthModel TruthModel.Abi
namespace TruthModel.C15

/-- **String arguments round-trip**, for every size kind (`len=` with or without `nulless`, `bs=`
to the end of the blob, length-prefixed), every xor mask, with or without `furibug`, for every pending
furigana state and whatever follows in the blob (nothing, behind a `bs=` string, which reads to the end: `htl`):
the decoder returns exactly the text, without warning, and leaves `tl` unread.  `hattr` is what the signature
parser enforces. -/
theorem string_arg_roundtrip (sj : Sjis) (st : EncState) (size : StrSize) (mask : ByteMask)
    (furibug : Bool) (s : List Char) (b tl out : Bytes) (st2 : EncState)
    (henc : sj.enc s = some b) (hinv : sj.dec b = some s)
    (hattr : Enc.strAttrsOk (.str size mask furibug) = true)
    (hok : strLayoutOk st size furibug b = true)
    (he : encodeText sj st size mask furibug s = .ok (out, st2))
    (htl : ∀ bs, size = .toBlobEnd bs → tl = []) :
    decodeText sj size mask furibug (out ++ tl) = .ok (s, [], tl) := by
  simp only [encodeText, henc] at he
  obtain ⟨out', st2', he', hd⟩ := str_roundtrip hattr hok
  rw [he'] at he
  cases he
  simp only [decodeText, hd tl htl, hinv]

theorem string_arg_accepted (sj : Sjis) (st : EncState) (size : StrSize) (mask : ByteMask)
    (furibug : Bool) (s : List Char) (b : Bytes)
    (henc : sj.enc s = some b) (hattr : Enc.strAttrsOk (.str size mask furibug) = true)
    (hok : strLayoutOk st size furibug b = true) :
    ∃ r, encodeText sj st size mask furibug s = .ok r := by
  simp only [encodeText, henc]
  obtain ⟨out, st2, he, _⟩ := str_roundtrip hattr hok
  exact ⟨_, he⟩

/-- a toy encoder (ASCII only) showing the hypotheses are satisfiable for each size kind, with
the TH09+ accelerating mask, a pending furigana line and the furigana quirk switched on -/
def asciiSjis : Sjis where
  enc s := if s.all (fun c => c.toNat < 128) then some (s.map fun c => UInt8.ofNat c.toNat) else none
  dec b := if b.all (· < 128) then some (b.map fun x => Char.ofNat x.toNat) else none

example : asciiSjis.enc ['|', 'a'] = some [0x7C, 0x61] ∧ asciiSjis.dec [0x7C, 0x61] = some ['|', 'a']
    ∧ strLayoutOk (some [1, 2, 3, 4]) (.toBlobEnd 4) true [0x7C, 0x61] = true
    ∧ strLayoutOk (some [1, 2, 3, 4]) (.pascal 4) true [0x7C, 0x61] = true
    ∧ strLayoutOk (some [1, 2, 3, 4]) (.fixed 8 false) true [0x7C, 0x61] = true
    ∧ strLayoutOk none (.fixed 2 true) false [0x7C, 0x61] = true
    ∧ Enc.strAttrsOk (.str (.fixed 2 true) ⟨0x77, 7, 16⟩ false) = true
    ∧ Enc.strAttrsOk (.str (.pascal 4) ⟨0x77, 7, 16⟩ true) = true := by decide +kernel

/-- `encode_fixed_size(n)` then `read_cstring_exact(n)` + decode: STD stage / BGM names
(`n = 128`), mission MSG lines (`n = 64`).  The buffer has exactly `n` bytes. -/
theorem fixed_size_roundtrip (sj : Sjis) (n : Nat) (s : List Char) (b buf : Bytes)
    (henc : sj.enc s = some b) (hinv : sj.dec b = some s) (hnul : b.contains 0 = false)
    (he : encodeFixedSize sj n s = .ok buf) :
    buf.length = n ∧ readFixedSize sj buf = .ok (s, []) := by
  simp only [encodeFixedSize, henc] at he
  split at he
  · cases he
  · rename_i hlt
    cases he
    -- at least one NUL is appended
    have hlt : b.length < n := Nat.not_le.mp hlt
    obtain ⟨k, hk⟩ : ∃ k, n - b.length = k + 1 :=
      ⟨n - b.length - 1, (Nat.sub_add_cancel (Nat.sub_pos_of_lt hlt)).symm⟩
    refine ⟨by rw [List.length_append, zeros_length, Nat.add_sub_cancel' (Nat.le_of_lt hlt)], ?_⟩
    rw [hk]
    show readFixedSize sj (b ++ 0 :: zeros k) = _
    simp only [readFixedSize, Abi.trim_after_pad b k true hnul, hinv]

theorem fixed128_roundtrip (sj : Sjis) (s : List Char) (b buf : Bytes)
    (henc : sj.enc s = some b) (hinv : sj.dec b = some s) (hnul : b.contains 0 = false)
    (he : encodeFixedSize sj 128 s = .ok buf) :
    buf.length = 128 ∧ readFixedSize sj buf = .ok (s, []) :=
  fixed_size_roundtrip sj 128 s b buf henc hinv hnul he

example : encodeFixedSize asciiSjis 8 ['a', 'b'] = .ok [0x61, 0x62, 0, 0, 0, 0, 0, 0] := by decide +kernel

theorem fixed_size_accepted (sj : Sjis) (n : Nat) (s : List Char) (b : Bytes)
    (henc : sj.enc s = some b) (hfit : b.length < n) :
    ∃ buf, encodeFixedSize sj n s = .ok buf :=
  ⟨b ++ zeros (n - b.length), by simp only [encodeFixedSize, henc, if_neg (Nat.not_le.mpr hfit)]⟩

theorem sub_add_cipher (b c : Bytes) : addCipher (subCipher b c) c = b := by
  fun_induction subCipher b c with
  | case1 x xs y ys ih => rw [addCipher, ih, UInt8.sub_add_cancel]
  | case2 bs c hne =>
    cases bs with
    | nil => cases c <;> rfl
    | cons x xs =>
      cases c with
      | nil => rfl
      | cons y ys => exact absurd rfl (hne x xs y ys rfl)

theorem subCipher_length (x c : Bytes) : (subCipher x c).length = x.length := by
  fun_induction subCipher x c with
  | case1 x xs y ys ih => rw [List.length_cons, List.length_cons, ih]
  | case2 => rfl

/-- mission MSG lines: 64-byte buffer, every byte shifted by the line's cipher byte -/
theorem mission_line_roundtrip (sj : Sjis) (cipher : Bytes) (s : List Char) (b buf : Bytes)
    (henc : sj.enc s = some b) (hinv : sj.dec b = some s) (hnul : b.contains 0 = false)
    (he : writeMissionLine sj cipher s = .ok buf) :
    buf.length = 64 ∧ readMissionLine sj cipher buf = .ok (s, []) := by
  simp only [writeMissionLine] at he
  revert he
  cases h : encodeFixedSize sj 64 s with
  | err c | panic p => nofun
  | ok plain =>
    intro he
    cases he
    obtain ⟨hl, hr⟩ := fixed_size_roundtrip sj 64 s b plain henc hinv hnul h
    exact ⟨by rw [subCipher_length, hl], by rw [readMissionLine, sub_add_cipher, hr]⟩

/-- **Unencodable or oversize text is an error**: in a string argument (every size kind, mask,
state), in a 128/64-byte metadata field and in a mission line; never a panic, never truncation. -/
theorem unencodable_or_oversize_is_error (sj : Sjis) (s : List Char) :
    (sj.enc s = none →
      (∀ st size mask furibug, encodeText sj st size mask furibug s = .err "string encoding error") ∧
      (∀ n, encodeFixedSize sj n s = .err "string encoding error") ∧
      (∀ cipher, writeMissionLine sj cipher s = .err "string encoding error")) ∧
    (∀ b, sj.enc s = some b →
      (∀ n, b.length ≥ n → encodeFixedSize sj n s = .err "string is too long") ∧
      (b.length ≥ 64 → ∀ cipher, writeMissionLine sj cipher s = .err "string is too long") ∧
      (∀ st len nulless mask furibug,
        b.length + (if nulless then 0 else 1) + (if furibug then (st.getD []).length else 0) > len →
        encodeText sj st (.fixed len nulless) mask furibug s = .err "string argument too large for buffer")) := by
  constructor
  · intro h
    refine ⟨?_, ?_, ?_⟩
    · intro st size mask furibug; simp [encodeText, h]
    · intro n; simp [encodeFixedSize, h]
    · intro cipher; simp [writeMissionLine, encodeFixedSize, h]
  · intro b h
    refine ⟨?_, ?_, ?_⟩
    · intro n hn; simp [encodeFixedSize, h, hn]
    · intro hn cipher; simp [writeMissionLine, encodeFixedSize, h, hn]
    · intro st len nulless mask furibug hgt
      simp only [encodeText, h]
      exact encodeStr_too_large st len nulless mask furibug b hgt

example : asciiSjis.enc ['é'] = none := by decide +kernel

/-! Block-padded C strings (ANM entry paths): `write_cstring(s, 16)` / `read_cstring_blockwise(16)`.  The round trip is proved for every block
size > 0 and every NUL-free byte string (`cstring_block_roundtrip`), by induction over the blocks and
the shape of `null_pad`; the instances at the block boundaries (`cstring_block_roundtrip_partial`) follow from it.
The ANM container proof has the block-size-16 instance on its own reader
(`C03Anm.readCStr16Aux_nullPad`). -/

/-- every NUL-free byte string written with `write_cstring` is read back by
`read_cstring_blockwise` (given enough blocks of input), leaving the rest of the input -/
def cstring_block_roundtrip_full : Prop :=
  ∀ (block : Nat) (b tl out : Bytes), block ≠ 0 → b.contains 0 = false →
    writeCString block b = .ok out →
    readCStringBlockwise block (out.length / block) [] (out ++ tl) = .ok (b, tl)

/-- one instance: `n` bytes `A`, then unrelated input `07 00 09` -/
def cstringInstance (block n : Nat) : Bool :=
  let b : Bytes := List.replicate n 0x41
  match writeCString block b with
  | .ok out => readCStringBlockwise block (out.length / block) [] (out ++ [7, 0, 9]) == .ok (b, [7, 0, 9])
  | _ => false

/-- `write_cstring` with the block size of the metadata writers (the constant 16, so the `bs = 0` arm of
`writeCString` is not reached there; a signature cannot say `bs=0` either: `C12.validAbi_rejects_zero_block`) -/
example : writeCString 16 [0x61] = .ok (0x61 :: zeros 15) := by decide +kernel

theorem readCStringBlockwise_mono {block fuel fuel' : Nat} {acc input : Bytes} {r : Bytes × Bytes}
    (h : readCStringBlockwise block fuel acc input = .ok r) (hf : fuel ≤ fuel') :
    readCStringBlockwise block fuel' acc input = .ok r := by
  fun_induction readCStringBlockwise block fuel acc input generalizing fuel' with
  | case1 | case2 | case3 => cases h
  | case4 fuel acc input hb hlen _ =>
    rename_i hlast
    obtain ⟨f, rfl⟩ := Nat.exists_eq_add_of_lt (Nat.lt_of_succ_le hf)
    rw [readCStringBlockwise, if_neg hb, if_neg hlen, if_pos hlast]; exact h
  | case5 fuel acc input hb hlen _ hlast =>
    rename_i ih
    obtain ⟨f, rfl⟩ := Nat.exists_eq_add_of_lt (Nat.lt_of_succ_le hf)
    rw [readCStringBlockwise, if_neg hb, if_neg hlen, if_neg hlast]
    exact ih h (Nat.le_add_right _ _)

/-- the reader on `s ++ z NULs ++ rest`, where `1 ≤ z ≤ block` NULs bring `s` to a whole number `k` of
blocks: after `k` blocks it returns everything read so far without the trailing NULs, and `rest` -/
theorem readCStringBlockwise_padded (block : Nat) (hb : block ≠ 0) :
    ∀ (k : Nat) (s acc rest : Bytes) (z : Nat), s.contains 0 = false → 1 ≤ z → z ≤ block →
      s.length + z = k * block →
      readCStringBlockwise block k acc (s ++ zeros z ++ rest) = .ok (stripTrailingZeros (acc ++ s ++ zeros z), rest) := by
  intro k
  induction k with
  | zero =>
    intro s acc rest z _ hz1 _ hk
    rw [Nat.zero_mul] at hk
    exact absurd (Nat.add_eq_zero_iff.mp hk).2 (Nat.ne_of_gt hz1)
  | succ n ih =>
    intro s acc rest z hs hz1 hz2 hk
    rw [Nat.succ_mul] at hk
    have hlen : ¬ (s ++ zeros z ++ rest).length < block := by
      rw [List.length_append, List.length_append, zeros_length, hk]
      exact Nat.not_lt.mpr (Nat.le_trans (Nat.le_add_left _ _) (Nat.le_add_right _ _))
    rw [readCStringBlockwise, if_neg hb, if_neg hlen]
    cases n with
    | zero =>
      have hl : (s ++ zeros z).length = block := by
        rw [List.length_append, zeros_length, hk, Nat.zero_mul, Nat.zero_add]
      obtain ⟨z', rfl⟩ : ∃ z', z = z' + 1 := ⟨z - 1, (Nat.sub_add_cancel hz1).symm⟩
      have hlast : ((acc ++ (s ++ zeros (z' + 1))).getLast? == some 0) = true := by
        rw [← List.append_assoc, getLast?_append_zeros_succ]; rfl
      rw [List.take_left' hl, List.drop_left' hl, if_pos hlast, ← List.append_assoc]
    | succ m =>
      -- a block inside the string has no NUL: the reader goes on
      have hge : block ≤ s.length :=
        Nat.le_trans (Nat.le_mul_of_pos_left _ (Nat.succ_pos m))
          (Nat.le_of_add_le_add_right (hk ▸ Nat.add_le_add_left hz2 s.length))
      have hne : s.take block ≠ [] := by
        have hl : (s.take block).length = block := List.length_take_of_le hge
        intro h
        rw [h] at hl
        exact hb hl.symm
      have hlast : ¬ ((acc ++ s.take block).getLast? == some 0) = true := by
        rw [List.getLast?_append, List.getLast?_eq_some_getLast hne]
        simp only [Option.some_or, beq_iff_eq, Option.some.injEq]
        intro h
        exact not_mem_of_contains hs (List.mem_of_mem_take (h ▸ List.getLast_mem hne))
      rw [List.append_assoc, List.take_append_of_le_length hge, List.drop_append_of_le_length hge, if_neg hlast,
        ← List.append_assoc]
      rw [ih (s.drop block) (acc ++ s.take block) rest z
        (contains_of_not_mem fun h => not_mem_of_contains hs (List.mem_of_mem_drop h)) hz1 hz2
        (by rw [List.length_drop, ← Nat.sub_add_comm hge, hk, Nat.add_sub_cancel])]
      rw [List.append_assoc acc, List.take_append_drop]

/-- what `null_pad` appends: between 1 and `block` NULs, up to the next multiple of the block size -/
theorem nullPad_shape (block : Nat) (hb : block ≠ 0) (s : Bytes) :
    ∃ z k, nullPad block s = s ++ zeros z ∧ 1 ≤ z ∧ z ≤ block ∧ s.length + z = k * block :=
  Abi.nullPad_shape block hb s

/-- `read_cstring_blockwise(block)` on what `write_cstring(s, block)` wrote, in the middle of a read: whatever
NUL-free bytes were read before, whatever follows, with any fuel beyond the blocks of `s` -/
theorem readCStringBlockwise_nullPad (block : Nat) (hb : block ≠ 0) (fuel : Nat) (s acc rest : Bytes)
    (hs : s.contains 0 = false) (hacc : acc.contains 0 = false) (hf : s.length / block < fuel) :
    readCStringBlockwise block fuel acc (nullPad block s ++ rest) = .ok (acc ++ s, rest) := by
  obtain ⟨z, k, hshape, hz1, hz2, hk⟩ := nullPad_shape block hb s
  have h0 : (acc ++ s).contains 0 = false := contains_of_not_mem fun h =>
    (List.mem_append.mp h).elim (not_mem_of_contains hacc) (not_mem_of_contains hs)
  have hkf : k ≤ fuel := by
    cases k with
    | zero => exact Nat.zero_le _
    | succ k' =>
      rw [Nat.succ_mul] at hk
      have : k' * block ≤ s.length := Nat.le_of_add_le_add_right (hk ▸ Nat.add_le_add_left hz2 _)
      exact Nat.lt_of_le_of_lt ((Nat.le_div_iff_mul_le (Nat.pos_of_ne_zero hb)).mpr this) hf
  rw [hshape, readCStringBlockwise_mono (readCStringBlockwise_padded block hb k s acc rest z hs hz1 hz2 hk) hkf,
    List.append_assoc, ← List.append_assoc acc, stripTrailingZeros_append_zeros _ z h0]

/-- `read_cstring_blockwise(block)` on what `write_cstring(s, block)` wrote returns `s` and leaves
whatever follows unread -/
theorem cstring_block_roundtrip : cstring_block_roundtrip_full := by
  intro block b tl out hb h0 hw
  simp only [writeCString, if_neg hb, Outcome.ok.injEq] at hw
  obtain ⟨z, k, hshape, hz1, hz2, hk⟩ := nullPad_shape block hb b
  subst hw
  have hlen : (nullPad block b).length / block = k := by
    rw [hshape, List.length_append, zeros_length, hk, Nat.mul_div_cancel _ (Nat.pos_of_ne_zero hb)]
  rw [hlen, hshape, readCStringBlockwise_padded block hb k b [] tl z h0 hz1 hz2 hk, List.nil_append,
    stripTrailingZeros_append_zeros b z h0]

theorem cstringInstance_ok (block n : Nat) (hb : block ≠ 0) : cstringInstance block n = true := by
  have h0 : (List.replicate n (0x41 : UInt8)).contains 0 = false :=
    contains_of_not_mem fun h => absurd (List.eq_of_mem_replicate h) (by decide)
  simp only [cstringInstance, writeCString, if_neg hb,
    cstring_block_roundtrip block _ [7, 0, 9] _ hb h0 (by rw [writeCString, if_neg hb]), beq_self_eq_true]

/-- instances at the block boundaries: 0, 1, 15, 16, 17, 31, 32, 33 bytes with block size 16, and block sizes 1 and 4 -/
theorem cstring_block_roundtrip_partial :
    [0, 1, 15, 16, 17, 31, 32, 33].all (cstringInstance 16) = true ∧
    [0, 1, 2, 3].all (cstringInstance 1) = true ∧ [0, 3, 4, 5, 8].all (cstringInstance 4) = true :=
  ⟨List.all_eq_true.mpr fun n _ => cstringInstance_ok 16 n (by decide),
   List.all_eq_true.mpr fun n _ => cstringInstance_ok 1 n (by decide),
   List.all_eq_true.mpr fun n _ => cstringInstance_ok 4 n (by decide)⟩

/-- the hypotheses are satisfiable: 17 bytes with block size 16 (two blocks), followed by other data -/
example : readCStringBlockwise 16 2 [] (nullPad 16 (List.replicate 17 0x41) ++ [7, 0, 9])
    = .ok (List.replicate 17 0x41, [7, 0, 9]) := by decide +kernel

/-- the round trip needs the string to be NUL-free: an embedded NUL at a block end stops the reader early -/
theorem cstring_nul_truncates :
    readCStringBlockwise 2 2 [] (nullPad 2 [0x41, 0, 0x42]) = .ok ([0x41], [0x42, 0]) := by decide +kernel

end TruthModel.C15
