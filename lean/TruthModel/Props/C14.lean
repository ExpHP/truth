import TruthModel.Lemmas.DiffArgs
/-
C14 — difficulty labels and switches select exactly the stated difficulties.  Compile direction: a mask prints as a
label that parses back to it under the table invariant `Inv` (`label_parse`); `elaborate_diff_switches` emits one
`mkCopy` per run between the explicit difficulties of the statement (`expandCore_eq`), of which the statements per
difficulty bit are corollaries (`copies_at`, `expand_exactly_one`); assignments (`assign_exactly_one`).
-/
namespace TruthModel.C14
open TruthModel TruthModel.Diff

/-- The table invariant: every bit has a name, and looking that name up gives the bit back.
(`define_flag` can break it when the name already names another bit: the guard of `defineFlag_inv`.) -/
structure Inv (d : Defs) : Prop where
  total : ∀ i, i < 8 → ∃ c, d.byFlag i = some c
  back : ∀ i c, i < 8 → d.byFlag i = some c → d.byName c = some i ∧ isFlagChar c = true

theorem flagChar_ne (c : Char) (h : isFlagChar c = true) : c ≠ '-' ∧ c ≠ '+' ∧ c ≠ '*' := by
  refine ⟨?_, ?_, ?_⟩ <;> (intro hc; subst hc; revert h; decide)

theorem names_parse_bits (d : Defs) (h : Inv d) (x : Mask) :
    ∃ cs, names d (bitsOf x) = .ok cs ∧ ∀ rest out en,
      parseGo d (cs ++ rest) out en = parseGo d rest (if en then out ||| x else out &&& ~~~x) en := by
  have key : ∀ L : List Nat, (∀ i ∈ L, i < 8) → ∃ cs, names d L = .ok cs ∧ ∀ rest out en,
      parseGo d (cs ++ rest) out en = parseGo d rest (L.foldl (fun m i => setBit m i en) out) en := by
    intro L hL
    induction L with
    | nil => exact ⟨[], rfl, fun _ _ _ => rfl⟩
    | cons i L ih =>
      obtain ⟨c, hc⟩ := h.total i (hL i (List.mem_cons_self ..))
      obtain ⟨hn, hfc⟩ := h.back i c (hL i (List.mem_cons_self ..)) hc
      obtain ⟨hm, hp, hs⟩ := flagChar_ne c hfc
      obtain ⟨cs, hcs, hgo⟩ := ih (fun j hj => hL j (List.mem_cons_of_mem _ hj))
      refine ⟨c :: cs, by simp only [names, hc, hcs], fun rest out en => ?_⟩
      simp only [List.cons_append, parseGo, hm, hp, hs, if_false, hfc, if_true, hn, List.foldl_cons]
      exact hgo rest _ en
  obtain ⟨cs, hcs, hgo⟩ := key (bitsOf x) (bitsOf_lt x)
  exact ⟨cs, hcs, fun rest out en => by rw [hgo, foldl_setBit_bitsOf]⟩

/-- **every mask prints as a label that parses back to the same mask**, for every flag table satisfying
the invariant (any names, any set of default-on bits). -/
theorem label_parse (d : Defs) (h : Inv d) (m : Mask) :
    ∃ s, label d m = .ok s ∧ parse d s = .ok m := by
  obtain ⟨as, has, hpa⟩ := names_parse_bits d h (m &&& diffBits d)
  obtain ⟨bs, hbs, hpb⟩ := names_parse_bits d h (~~~m &&& auxBits d)
  -- the first part of the label turns the difficulty bits of `m` on, above the default-on bits
  have hfirst : ∃ a,
      (if m &&& diffBits d = diffBits d then .ok ['*'] else names d (bitsOf (m &&& diffBits d))) = Outcome.ok a ∧
      ∀ rest, parseGo d (a ++ rest) d.defaultOn true = parseGo d rest (d.defaultOn ||| (m &&& diffBits d)) true := by
    by_cases hstar : m &&& diffBits d = diffBits d
    · refine ⟨['*'], if_pos hstar, fun rest => ?_⟩
      have : d.defaultOn ||| (m &&& diffBits d) = 0xFF#8 := by
        rw [hstar]; exact BitVec.or_not_self _
      rw [this]
      simp [parseGo]
    · exact ⟨as, by rw [if_neg hstar]; exact has, fun rest => hpa rest _ true⟩
  obtain ⟨a, ha, hga⟩ := hfirst
  -- the second part turns off the default-on bits that `m` lacks
  have hm : (d.defaultOn ||| (m &&& diffBits d)) &&& ~~~(~~~m &&& auxBits d) = m := by
    apply BitVec.eq_of_getLsbD_eq
    intro j hj
    simp only [diffBits, auxBits, BitVec.getLsbD_and, BitVec.getLsbD_or, BitVec.getLsbD_not, hj, decide_true,
      Bool.true_and]
    cases m.getLsbD j <;> cases d.defaultOn.getLsbD j <;> rfl
  unfold label parse
  simp only [ha, hbs]
  by_cases hdis : ~~~m &&& auxBits d = 0#8
  · refine ⟨a, by rw [if_pos hdis], ?_⟩
    have := hga []
    rw [List.append_nil] at this
    rw [this, parseGo]
    rw [hdis, BitVec.not_zero, BitVec.and_allOnes] at hm
    rw [hm]
  · refine ⟨a ++ '-' :: bs, by rw [if_neg hdis], ?_⟩
    have := hpb [] (d.defaultOn ||| (m &&& diffBits d)) false
    rw [List.append_nil] at this
    rw [hga, parseGo, if_pos rfl, this, parseGo]
    simp only [Bool.false_eq_true, if_false, hm]

example : label defaultDefs 0x0F#8 = .ok ['0', '1', '2', '3'] := by decide +kernel
example : parse defaultDefs ['0', '1', '2', '3'] = .ok 0x0F#8 := by decide +kernel

theorem inv_default : Inv defaultDefs := by
  have key : ∀ i, i < 8 →
      (defaultDefs.byFlag i).any (fun c => defaultDefs.byName c == some i && isFlagChar c) = true := by decide +kernel
  refine ⟨fun i hi => ?_, fun i c hi hc => ?_⟩ <;> obtain ⟨c', hc', hp⟩ := (Option.any_eq_true _ _).mp (key i hi)
  · exact ⟨c', hc'⟩
  · cases hc.symm.trans hc'
    rwa [Bool.and_eq_true, beq_iff_eq] at hp

/-- `define_flag` keeps the invariant **provided the name is not currently the name of another
bit**.  `define_flag` itself does not check this; its one caller with user input, `define_flag_from_mapfile`,
does (`defineFromMapfile_inv`). -/
theorem defineFlag_inv (d d' : Defs) (name : Char) (index : Nat) (en : Bool) (h : Inv d)
    (guard : ∀ j, j < 8 → j ≠ index → d.byFlag j ≠ some name)
    (hd : defineFlag d name index en = .ok d') : Inv d' := by
  revert hd
  fun_cases defineFlag d name index en with
  | case1 | case2 => exact nofun
  | case3 hi hn =>
    intro hd
    cases hd
    constructor
    · intro i hi8
      by_cases he : i = index
      · exact ⟨name, if_pos he⟩
      · obtain ⟨c, hc⟩ := h.total i hi8
        exact ⟨c, (if_neg he).trans hc⟩
    · intro i c hi8 hc
      replace hc : (if i = index then some name else d.byFlag i) = some c := hc
      by_cases he : i = index
      · rw [if_pos he] at hc
        cases hc
        exact ⟨(if_pos rfl).trans (congrArg some he.symm), Decidable.not_not.mp hn⟩
      · rw [if_neg he] at hc
        have hb := h.back i c hi8 hc
        have hcn : c ≠ name := fun hcn => guard i hi8 he (hcn ▸ hc)
        exact ⟨(if_neg hcn).trans hb.1, hb.2⟩

-- the guard is satisfiable: naming bit 0 `E` on top of the default digit table
example : ∃ d', defineFlag defaultDefs 'E' 0 false = .ok d' ∧ Inv d' := by
  refine ⟨_, rfl, defineFlag_inv defaultDefs _ 'E' 0 false inv_default ?_ rfl⟩
  decide +kernel

/-- every accepted `!difficulty_flags` line keeps the invariant: `define_flag_from_mapfile` refuses a name
that already names another flag (the model follows the tree as repaired in commit 4145e06), which is exactly
the guard of `defineFlag_inv` -/
theorem defineFromMapfile_inv (d d' : Defs) (index : Int) (str : List Char) (h : Inv d)
    (hd : defineFromMapfile d index str = .ok d') : Inv d' := by
  revert hd
  fun_cases defineFromMapfile d index str with
  | case1 | case2 | case3 | case4 | case5 | case7 => exact nofun
  | case6 _ name sign _ _ _ hdup =>
    refine fun hd => defineFlag_inv d d' name index.toNat _ h (fun j hj hne hc => hdup ?_) hd
    exact List.any_eq_true.mpr ⟨j, List.mem_range.mpr hj, by simp [hne, hc]⟩

/-- tables a user can reach: the built-in digit table, extended by accepted mapfile lines -/
inductive Reachable : Defs → Prop where
  | default : Reachable defaultDefs
  | line {d d' : Defs} (index : Int) (str : List Char) :
      Reachable d → defineFromMapfile d index str = .ok d' → Reachable d'

theorem reachable_inv (d : Defs) (h : Reachable d) : Inv d := by
  induction h with
  | default => exact inv_default
  | line index str _ hd ih => exact defineFromMapfile_inv _ _ index str ih hd

theorem applyLines_reachable (d d' : Defs) (lines : List (Int × List Char)) (h : Reachable d)
    (ha : applyLines d lines = .ok d') : Reachable d' := by
  fun_induction applyLines d lines with
  | case1 => cases ha; exact h
  | case2 d i s rest d1 h1 ih => exact ih (.line i s h h1) ha
  | case3 | case4 => cases ha

/-- **label <-> mask round trip, unconditionally**: for every flag table that any sequence of
accepted `!difficulty_flags` lines produces from the built-in table. -/
theorem label_parse_reachable (d : Defs) (h : Reachable d) (m : Mask) :
    ∃ s, label d m = .ok s ∧ parse d s = .ok m :=
  label_parse d (reachable_inv d h) m

theorem label_parse_mapfile (lines : List (Int × List Char)) (d : Defs)
    (h : applyLines defaultDefs lines = .ok d) (m : Mask) :
    ∃ s, label d m = .ok s ∧ parse d s = .ok m :=
  label_parse_reachable d (applyLines_reachable _ _ lines .default h) m

example : ∃ d, applyLines defaultDefs [(0, ['E', '-']), (5, ['F', '+']), (0, ['X', '-'])] = .ok d ∧
    label d 0b00100001#8 = .ok ['X'] := by
  refine ⟨_, rfl, ?_⟩
  decide +kernel

/-
The two inputs of finding `diff-flag-name-at-two-indices` (known_findings.json, repaired in commit 4145e06) are
rejected: the lines `0 E-`, `1 E-` (accepting both, mask 0b01 would print as "E", which parses to 0b10), and
`0 1-` against the built-in digit name of bit 1.
-/
theorem dup_name_rejected :
    (applyLines defaultDefs [(0, ['E', '-']), (1, ['E', '-'])]).isOk = false ∧
    (applyLines defaultDefs [(0, ['1', '-'])]).isOk = false := by decide +kernel

/-- one emitted copy for a range of difficulties (or none if the label excludes all of them) -/
def mkCopy (defs : Defs) (mask : Mask) (vsOf : Nat → List Int32) (r : Nat × Nat) : Option Copy :=
  if (mask &&& diffBits defs) &&& rangeMask r.1 r.2 = 0#8 then none
  else some ⟨((mask &&& diffBits defs) &&& rangeMask r.1 r.2) ||| (mask &&& auxBits defs), vsOf r.1⟩

theorem of_mkCopy_some {defs : Defs} {mask : Mask} {vsOf : Nat → List Int32} {r : Nat × Nat} {c : Copy}
    (h : mkCopy defs mask vsOf r = some c) :
    c = ⟨((mask &&& diffBits defs) &&& rangeMask r.1 r.2) ||| (mask &&& auxBits defs), vsOf r.1⟩ := by
  unfold mkCopy at h
  split at h
  · cases h
  · exact (Option.some.inj h).symm

theorem expandGo_eq (defs : Defs) (mask : Mask) (args : List Arg) (vsOf : Nat → List Int32) (rs : List (Nat × Nat))
    (h : ∀ r ∈ rs, selArgs r.1 args = .ok (vsOf r.1)) :
    expandGo defs mask args rs = .ok (rs.filterMap (mkCopy defs mask vsOf)) := by
  induction rs with
  | nil => rfl
  | cons r rs ih =>
    obtain ⟨a, b⟩ := r
    have ih' := ih (fun r hr => h r (List.mem_cons_of_mem _ hr))
    have ha : selArgs a args = .ok (vsOf a) := h (a, b) (List.mem_cons_self ..)
    simp only [expandGo, List.filterMap_cons, mkCopy]
    by_cases h0 : (mask &&& diffBits defs) &&& rangeMask a b = 0#8
    · rw [if_pos h0, if_pos h0]; exact ih'
    · rw [if_neg h0, if_neg h0, ha, ih']

theorem copy_bit_none {defs : Defs} {mask : Mask} {vsOf : Nat → List Int32} {r : Nat × Nat} (j : Nat) (hj : j < 8)
    (hdiff : (diffBits defs).getLsbD j = true) (h : mkCopy defs mask vsOf r = none) :
    (mask.getLsbD j && covers r j) = false := by
  unfold mkCopy at h
  by_cases h0 : (mask &&& diffBits defs) &&& rangeMask r.1 r.2 = 0#8
  · have : ((mask &&& diffBits defs) &&& rangeMask r.1 r.2).getLsbD j = (0#8).getLsbD j := by rw [h0]
    rw [BitVec.getLsbD_and, BitVec.getLsbD_and, hdiff, Bool.and_true, rangeMask_get _ _ _ hj, BitVec.getLsbD_zero] at this
    exact this
  · rw [if_neg h0] at h; cases h

theorem copy_bit_some {defs : Defs} {mask : Mask} {vsOf : Nat → List Int32} {r : Nat × Nat} {c : Copy} (j : Nat)
    (hj : j < 8) (hdiff : (diffBits defs).getLsbD j = true) (h : mkCopy defs mask vsOf r = some c) :
    c.mask.getLsbD j = (mask.getLsbD j && covers r j) := by
  rw [of_mkCopy_some h]
  exact (narrowed_get defs mask _ j hdiff).trans (by rw [rangeMask_get _ _ _ hj]; rfl)

theorem filter_copies (defs : Defs) (mask : Mask) (vsOf : Nat → List Int32) (rs : List (Nat × Nat)) (j : Nat)
    (hj : j < 8) (hdiff : (diffBits defs).getLsbD j = true) :
    (rs.filterMap (mkCopy defs mask vsOf)).filter (fun c => c.mask.getLsbD j) =
      (rs.filter (fun r => mask.getLsbD j && covers r j)).filterMap (mkCopy defs mask vsOf) := by
  rw [List.filter_filterMap, List.filterMap_filter]
  refine congrArg (List.filterMap · rs) (funext fun r => ?_)
  cases hm : mkCopy defs mask vsOf r with
  | none => rw [copy_bit_none j hj hdiff hm]; rfl
  | some c => rw [Option.filter_some, copy_bit_some j hj hdiff hm]

/-- `elaborate_diff_switches` emits one copy per range between consecutive stops, with the arguments
selected at the start of the range -/
theorem expandCore_eq (defs : Defs) (mask : Mask) (args : List Arg) (n : Nat) (hn : 2 ≤ n)
    (hwf : ∀ a ∈ args, wfArg n a = true) (hsw : args.any isSw = true) :
    expandCore defs mask args = .ok ((ranges (bitsOf (metaOf args).explicit ++ [n])).filterMap
      (mkCopy defs mask fun x => args.map (selVal x))) := by
  obtain ⟨hnum, _⟩ := metaOf_spec n args hwf hsw
  have hst := stops_spec n args hwf hsw
  unfold expandCore
  show (if (metaOf args).num < 2 then _ else expandGo defs mask args (metaOf args).caseRanges) = _
  rw [hnum, if_neg (Nat.not_lt.mpr hn), Meta.caseRanges, hnum]
  exact expandGo_eq defs mask args _ _ fun r hr => selArgs_wf n r.1
    (Nat.lt_of_lt_of_le ((mem_ranges _ _ hr).2.2 hst.sorted) (hst.le r.2 (mem_ranges _ _ hr).2.1)) args hwf

/-- `vsOf a`: the argument values as a function of the first difficulty `a` of a run; in the conclusion `a` is the last
stop up to `j` (`∀ s ∈ stops, s ≤ j → s ≤ a`) -/
theorem copies_at (defs : Defs) (mask : Mask) (vsOf : Nat → List Int32) (stops : List Nat) (n : Nat)
    (hs : stops.Pairwise (· < ·)) (h0 : stops.head? = some 0) (hn : n ∈ stops) (hle : ∀ s ∈ stops, s ≤ n)
    (j : Nat) (hj : j < 8) (hdiff : (diffBits defs).getLsbD j = true) :
    if j < n ∧ mask.getLsbD j = true then
      ∃ a c, a ≤ j ∧ (∀ s ∈ stops, s ≤ j → s ≤ a) ∧ c.args = vsOf a ∧
        ((ranges stops).filterMap (mkCopy defs mask vsOf)).filter (fun c => c.mask.getLsbD j) = [c]
    else ((ranges stops).filterMap (mkCopy defs mask vsOf)).filter (fun c => c.mask.getLsbD j) = [] := by
  rw [filter_copies defs mask _ _ j hj hdiff]
  by_cases hcond : j < n ∧ mask.getLsbD j = true
  · rw [if_pos hcond]
    obtain ⟨a, b, hf, ha, hb, _, hlast⟩ := ranges_cover stops hs j
      (fun s0 hs0 => by rw [h0] at hs0; cases hs0; exact Nat.zero_le j) ⟨n, hn, hcond.1⟩
    cases hm : mkCopy defs mask vsOf (a, b) with
    | none =>
      have hb2 := copy_bit_none j hj hdiff hm
      rw [hcond.2, (covers_iff (a, b) j).mpr ⟨ha, hb⟩] at hb2; cases hb2
    | some c =>
      refine ⟨a, c, ha, hlast, by rw [of_mkCopy_some hm], ?_⟩
      simp only [hcond.2, Bool.true_and, hf, List.filterMap_cons, hm, List.filterMap_nil]
  · rw [if_neg hcond]
    refine (congrArg _ (List.filter_eq_nil_iff.mpr fun r hr hc => ?_)).trans List.filterMap_nil
    rw [Bool.and_eq_true] at hc
    exact hcond ⟨Nat.lt_of_lt_of_le ((covers_iff r j).mp hc.2).2 (hle r.2 (mem_ranges _ _ hr).2.1), hc.1⟩

/-- **exactly one copy per permitted difficulty, carrying that difficulty's case values —
nested switches included.**

For switches nested to any depth, all of the same length `n` (2..8, any hole pattern, first cases
present), and every difficulty bit `j` (not default-on): if `j < n` and the statement's mask has bit
`j`, exactly one emitted copy has bit `j` and its arguments are `select_diff_for_lower_arg(arg, j)` of
every argument (what the VM evaluates on difficulty `j`); otherwise no copy has bit `j`, so copies are
disjoint on difficulty bits and never gain a difficulty the label excluded. -/
theorem expand_exactly_one (defs : Defs) (mask : Mask) (args : List Arg) (n : Nat) (hn : 2 ≤ n) (hn8 : n ≤ 8)
    (hwf : ∀ a ∈ args, wfArg n a = true) (hsw : args.any isSw = true)
    (j : Nat) (hj : j < 8) (hdiff : (diffBits defs).getLsbD j = true) :
    ∃ copies, expandCore defs mask args = .ok copies ∧
      (if j < n ∧ mask.getLsbD j = true then
          ∃ c vs, copies.filter (fun c => c.mask.getLsbD j) = [c] ∧ selArgs j args = .ok vs ∧ c.args = vs
        else copies.filter (fun c => c.mask.getLsbD j) = []) ∧
      ∀ c ∈ copies, c.mask &&& auxBits defs = mask &&& auxBits defs := by
  have hst := stops_spec n args hwf hsw
  obtain ⟨t, ht⟩ := hst.zero
  have hat := copies_at defs mask (fun x => args.map (selVal x)) _ n hst.sorted (by rw [ht]; rfl)
    (List.mem_append_right _ (List.mem_singleton_self n)) hst.le j hj hdiff
  refine ⟨_, expandCore_eq defs mask args n hn hwf hsw, ?_, fun c hc => ?_⟩
  · by_cases hcond : j < n ∧ mask.getLsbD j = true
    · rw [if_pos hcond] at hat ⊢
      obtain ⟨a, c, ha, hlast, hargs, hf⟩ := hat
      refine ⟨c, _, hf, selArgs_wf n j hcond.1 args hwf, hargs.trans (selVals_stable n a j ha hcond.1 args hwf fun i h1 h2 => ?_).symm⟩
      -- no switch has an explicit case in `(a, j]`: `a` is the last stop up to `j`
      refine Bool.eq_false_iff.mpr fun he => Nat.not_lt.mpr (hlast i ?_ h2) h1
      exact List.mem_append_left _ ((hst.mem i).mpr ⟨Nat.lt_of_le_of_lt h2 (Nat.lt_of_lt_of_le hcond.1 hn8), he⟩)
    · rw [if_neg hcond] at hat ⊢
      exact hat
  · obtain ⟨r, _, hr⟩ := List.mem_filterMap.mp hc
    rw [of_mkCopy_some hr]
    exact narrowed_aux defs mask _

/-- **the switch half of C14 in full** (length check + elaboration, nested switches included).
The model follows the tree as repaired in commit fd6b777 (finding
`diff-switch-nested-switch-expanded-by-outer-cases-only`: explicit difficulties collected from top-level
switches only, so that `1 : (2:3:4:5) : :` got one copy with mask 0b1110 and the value 3); its input is the
third example below. -/
theorem expand_exactly_one_full (defs : Defs) (mask : Mask) (args : List Arg) (n : Nat) (hn : 2 ≤ n) (hn8 : n ≤ 8)
    (hwf : ∀ a ∈ args, wfArg n a = true) (hsw : args.any isSw = true)
    (j : Nat) (hj : j < 8) (hdiff : (diffBits defs).getLsbD j = true) :
    ∃ copies, expand defs mask args = .ok copies ∧
      (if j < n ∧ mask.getLsbD j = true then
          ∃ c vs, copies.filter (fun c => c.mask.getLsbD j) = [c] ∧ selArgs j args = .ok vs ∧ c.args = vs
        else copies.filter (fun c => c.mask.getLsbD j) = []) ∧
      ∀ c ∈ copies, c.mask &&& auxBits defs = mask &&& auxBits defs := by
  obtain ⟨r, hr⟩ := checkLens_ok args n hn8 hwf
  obtain ⟨copies, h1, h2⟩ := expand_exactly_one defs mask args n hn hn8 hwf hsw j hj hdiff
  exact ⟨copies, (expand_of_checkLens hr).trans h1, h2⟩

-- the hypotheses are satisfiable: `ins(10 : : 30 : , 7)` under a `{"*-F"}`-like mask with flag 5 default-on
example : wfArg 4 (.sw (liftCases [some 10, none, some 30, none])) = true := by decide +kernel
example : expand (defineFlag' defaultDefs 'F' 5 true) 0b11011111#8
    [.sw (liftCases [some 10, none, some 30, none]), .val 7]
    = .ok [⟨0b00000011#8, [10, 7]⟩, ⟨0b00001100#8, [30, 7]⟩] := by decide +kernel

-- the input of finding `diff-switch-nested-switch-expanded-by-outer-cases-only`: the nested switch gets a copy per difficulty
example :
    let nested := Arg.sw [some (.val 2), some (.val 3), some (.val 4), some (.val 5)]
    let args := [Arg.sw [some (.val 1), some nested, none, none]]
    wfArg 4 args[0] = true ∧
    expand defaultDefs 0xFF#8 args = .ok [⟨0b0001#8, [1]⟩, ⟨0b0010#8, [3]⟩, ⟨0b0100#8, [4]⟩, ⟨0b1000#8, [5]⟩] ∧
    selArgs 2 args = .ok [4] := by decide +kernel

/-! ### `x = a : b : c : d` with non-simple cases (`lower_assign_diff_switch`) -/

def valuesAt {α} (ps : List (Mask × α)) (j : Nat) : List α := (ps.filter (fun p => p.1.getLsbD j)).map (·.2)

theorem valuesAt_cons {α} (p : Mask × α) (ps : List (Mask × α)) (j : Nat) :
    valuesAt (p :: ps) j = if p.1.getLsbD j = true then p.2 :: valuesAt ps j else valuesAt ps j := by
  unfold valuesAt
  rw [List.filter_cons]
  cases p.1.getLsbD j <;> rfl

theorem explicitCasesGo_below {α} (rest : List (Option α)) (curMask : Mask) (cur : α) (k j : Nat) (hj : j < 8) (hjk : j < k) :
    valuesAt (explicitCasesGo rest curMask cur k) j = if curMask.getLsbD j = true then [cur] else [] := by
  fun_induction explicitCasesGo rest curMask cur k with
  | case1 => rw [valuesAt_cons]; rfl
  | case2 rest curMask cur k ih => rw [ih (Nat.lt_succ_of_lt hjk), getLsbD_setBit _ _ _ _ hj, if_neg (Nat.ne_of_lt hjk)]
  | case3 c rest curMask cur k ih =>
    rw [valuesAt_cons, ih (Nat.lt_succ_of_lt hjk), getLsbD_setBit _ _ _ _ hj, if_neg (Nat.ne_of_lt hjk),
      BitVec.getLsbD_zero]
    rfl

theorem explicitCasesGo_at {α} (rest : List (Option α)) (curMask : Mask) (cur : α) (k i : Nat) (hj : k + i < 8)
    (hmask : curMask.getLsbD (k + i) = false) :
    valuesAt (explicitCasesGo rest curMask cur k) (k + i) =
      if i < rest.length then [(pick rest i).getD cur] else [] := by
  induction rest generalizing curMask cur k i with
  | nil => rw [explicitCasesGo, valuesAt_cons, hmask]; rfl
  | cons c rest ih =>
    cases i with
    | zero =>
      have hk : k < 8 := hj
      rw [Nat.add_zero] at hmask ⊢
      cases c with
      | none =>
        rw [explicitCasesGo, explicitCasesGo_below _ _ _ _ _ hk (Nat.lt_succ_self k), getLsbD_setBit _ _ _ _ hk, if_pos rfl]
        rfl
      | some c =>
        rw [explicitCasesGo, valuesAt_cons, hmask, explicitCasesGo_below _ _ _ _ _ hk (Nat.lt_succ_self k),
          getLsbD_setBit _ _ _ _ hk, if_pos rfl]
        rfl
    | succ i =>
      have he : k + (i + 1) = k + 1 + i := (Nat.add_right_comm k 1 i).symm
      have hj' : k + 1 + i < 8 := he ▸ hj
      have hne : k + 1 + i ≠ k := Nat.ne_of_gt (Nat.lt_of_lt_of_le (Nat.lt_succ_self k) (Nat.le_add_right _ i))
      rw [he] at hmask ⊢
      simp only [List.length_cons, Nat.add_lt_add_iff_right]
      cases c with
      | none =>
        rw [explicitCasesGo, ih _ _ _ _ hj' (by rw [getLsbD_setBit _ _ _ _ hj', if_neg hne]; exact hmask), pick]
        cases pick rest i <;> rfl
      | some c =>
        rw [explicitCasesGo, valuesAt_cons, hmask, ih _ _ _ _ hj' (by rw [getLsbD_setBit _ _ _ _ hj', if_neg hne]; exact BitVec.getLsbD_zero), pick]
        cases pick rest i <;> rfl

/-- the (mask, case) pairs of `explicit_difficulty_cases` partition the difficulties `0..len`:
difficulty `j` is in exactly one pair's mask, and that pair holds `select_diff_switch_case(cases, j)` -/
theorem explicitCases_spec {α} (cases : List (Option α)) (ecs : List (Mask × α)) (h : explicitCases cases = .ok ecs)
    (j : Nat) (hj : j < 8) :
    ((ecs.filter (fun p => p.1.getLsbD j)).map (·.2)) =
      (if j < cases.length then (match selectCase cases j with | .ok v => [v] | _ => []) else []) := by
  revert h
  fun_cases explicitCases cases with
  | case1 | case2 => exact nofun
  | case3 c rest =>
    intro h
    cases h
    have h0 : (setBit 0#8 0 true).getLsbD j = decide (j = 0) := by
      rw [getLsbD_setBit _ _ _ _ hj, BitVec.getLsbD_zero]; cases j <;> rfl
    cases j with
    | zero =>
      refine (explicitCasesGo_below rest _ c 1 0 hj Nat.one_pos).trans ?_
      rw [h0]; rfl
    | succ i =>
      rw [Nat.add_comm] at hj h0 ⊢
      refine (explicitCasesGo_at rest _ c 1 i hj (by rw [h0, Nat.add_comm]; exact decide_eq_false (Nat.succ_ne_zero i))).trans ?_
      rw [Nat.add_comm 1 i, selectCase, List.length_cons, pick]
      by_cases hi : i < rest.length
      · rw [if_pos hi, if_pos (Nat.succ_lt_succ hi), if_pos (Nat.succ_lt_succ hi)]
        cases pick rest i <;> rfl
      · rw [if_neg hi, if_neg (fun h => hi (Nat.lt_of_succ_lt_succ h))]

/-- **assignment of a switch with non-simple cases**: for every difficulty bit `j`, the emitted
assignments that apply on difficulty `j` are exactly one, carrying `select(cases, j)`, if
`j < len` and the label permits `j`; none otherwise.  (`assignCopies` succeeds only if the first case is
present, and then `selectCase cases j` is `.ok` for every `j < len`: `pick_some_of_head`; so the `_` arm of
the `match` on the right is not taken there.) -/
theorem assign_exactly_one {α} (defs : Defs) (mask : Mask) (cases : List (Option α)) (copies : List (Mask × α))
    (h : assignCopies defs mask cases = .ok copies) (j : Nat) (hj : j < 8) (hdiff : (diffBits defs).getLsbD j = true) :
    ((copies.filter (fun p => p.1.getLsbD j)).map (·.2)) =
      (if j < cases.length ∧ mask.getLsbD j = true then (match selectCase cases j with | .ok v => [v] | _ => []) else []) ∧
    ∀ p ∈ copies, p.1 &&& auxBits defs = mask &&& auxBits defs := by
  revert h
  fun_cases assignCopies defs mask cases with
  | case2 | case3 => exact nofun
  | case1 ecs hec =>
    intro h
    cases h
    constructor
    · -- a copy has bit j iff its case mask has bit j and the statement mask has bit j
      have key : ∀ l : List (Mask × α),
          valuesAt (l.filterMap fun (p : Mask × α) =>
              if ((mask &&& diffBits defs) &&& p.1) ||| (mask &&& auxBits defs) = 0#8 then none
              else some (((mask &&& diffBits defs) &&& p.1) ||| (mask &&& auxBits defs), p.2)) j =
          if mask.getLsbD j = true then valuesAt l j else [] := by
        intro l
        induction l with
        | nil => cases mask.getLsbD j <;> rfl
        | cons p l ih =>
          have hbit := narrowed_get defs mask p.1 j hdiff
          rw [List.filterMap_cons, valuesAt_cons]
          by_cases h0 : ((mask &&& diffBits defs) &&& p.1) ||| (mask &&& auxBits defs) = 0#8
          · rw [if_pos h0, ih]
            rw [h0, BitVec.getLsbD_zero] at hbit
            cases hm : mask.getLsbD j
            · rfl
            · rw [hm, Bool.true_and] at hbit; rw [← hbit]; rfl
          · rw [if_neg h0, valuesAt_cons, hbit, ih]
            cases mask.getLsbD j <;> cases p.1.getLsbD j <;> rfl
      refine (key ecs).trans ?_
      rw [show valuesAt ecs j = _ from explicitCases_spec cases ecs hec j hj]
      by_cases hm : mask.getLsbD j = true <;> simp only [hm, and_true, and_false, if_true, if_false, Bool.false_eq_true]
    · intro p hp
      obtain ⟨⟨cm, c⟩, _, hq⟩ := List.mem_filterMap.mp hp
      dsimp only at hq
      split at hq
      · cases hq
      · cases hq
        exact narrowed_aux defs mask cm

example : assignCopies defaultDefs 0x0F#8 [some 3, none, some 5, some 8] = .ok [(0b0011#8, 3), (0b0100#8, 5), (0b1000#8, 8)] := by decide +kernel

end TruthModel.C14
