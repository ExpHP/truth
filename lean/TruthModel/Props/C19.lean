/-
C19 — output is a deterministic function of the inputs.

The only source of run-to-run variation in the (single-threaded) tool is the iteration order of
randomly seeded hash maps.  A consumer of such an iteration is modelled as a function of the LIST of
entries; determinism is invariance under permutation of that list.  A lemma for every consumer shape
that occurs in /repo/src (the audited site table /verif/order_sites.json maps each site that iterates a
hash container of the compiler to one of these), and a witness that "emit in iteration order" is NOT invariant.
-/
namespace TruthModel.C19

/-! ### shape 1: membership / any / all / count -/

theorem any_perm_invariant {α} (p : α → Bool) {l₁ l₂ : List α} (h : l₁.Perm l₂) :
    l₁.any p = l₂.any p := h.any_eq

theorem all_perm_invariant {α} (p : α → Bool) {l₁ l₂ : List α} (h : l₁.Perm l₂) :
    l₁.all p = l₂.all p := h.all_eq

theorem count_perm_invariant {α} (p : α → Bool) {l₁ l₂ : List α} (h : l₁.Perm l₂) :
    l₁.countP p = l₂.countP p := h.countP_eq p

/-! ### shape 2: sort by a unique key, then consume (`collect` + `sort_by_key`, `BTreeMap`); keys are `Nat`, as in shape 3 -/

def ins {β} (a : Nat × β) : List (Nat × β) → List (Nat × β)
  | [] => [a]
  | c :: z => if a.1 < c.1 then a :: c :: z else c :: ins a z

def sortByKey {β} (l : List (Nat × β)) : List (Nat × β) := l.foldl (fun acc x => ins x acc) []

theorem ins_comm_of_lt {β} (a b : Nat × β) (hab : a.1 < b.1) (z : List (Nat × β)) :
    ins a (ins b z) = ins b (ins a z) := by
  have hba : ¬ b.1 < a.1 := Nat.lt_asymm hab
  induction z with
  | nil => simp only [ins, hab, hba, if_true, if_false]
  | cons c z ih =>
    by_cases hb : b.1 < c.1
    · have ha : a.1 < c.1 := Nat.lt_trans hab hb
      simp only [ins, hab, hba, hb, ha, if_true, if_false]
    · by_cases ha : a.1 < c.1
      · simp only [ins, hba, hb, ha, if_true, if_false]
      · simp only [ins, hb, ha, if_false, ih]

theorem ins_comm {β} (a b : Nat × β) (hab : a.1 ≠ b.1) (z : List (Nat × β)) :
    ins a (ins b z) = ins b (ins a z) :=
  (Nat.lt_or_gt_of_ne hab).elim (fun h => ins_comm_of_lt a b h z) (fun h => (ins_comm_of_lt b a h z).symm)

theorem inj_of_nodup_keys {β} {l : List (Nat × β)} (hk : (l.map (·.1)).Nodup)
    {x y : Nat × β} (hx : x ∈ l) (hy : y ∈ l) (he : x.1 = y.1) : x = y := by
  have hp : l.Pairwise (fun a b => a.1 ≠ b.1) := List.pairwise_map.mp hk
  exact List.Pairwise.forall_of_forall_of_flip (R := fun a b => a.1 = b.1 → a = b) (fun _ _ _ => rfl)
    (hp.imp fun h e => absurd e h) (hp.imp fun h e => absurd e.symm h) hx hy he

/-- Sorting entries with pairwise distinct keys gives the same list whatever order the hash map
yielded them in; hence so does any consumer of the sorted list. -/
theorem sorted_consumer_perm_invariant {β γ} (consume : List (Nat × β) → γ) {l₁ l₂ : List (Nat × β)}
    (h : l₁.Perm l₂) (hk : (l₁.map (·.1)).Nodup) :
    consume (sortByKey l₁) = consume (sortByKey l₂) := by
  refine congrArg consume (h.foldl_eq' (fun x hx y hy z => ?_) [])
  by_cases he : x.1 = y.1
  · rw [inj_of_nodup_keys hk hx hy he]
  · exact ins_comm y x (Ne.symm he) z

/-! ### shape 3: minimum under a total order.  The order is `Nat` here: a site that takes the minimum of pairs with a
lexicographic tie-break is this shape with the pair order read as one total order. -/

def minKey (l : List Nat) : Option Nat := l.foldl (fun acc x => match acc with | none => some x | some m => some (min m x)) none

theorem min_perm_invariant {l₁ l₂ : List Nat} (h : l₁.Perm l₂) : minKey l₁ = minKey l₂ := by
  unfold minKey
  apply h.foldl_eq'
  intro x _ y _ z
  cases z with
  | none => exact congrArg some (Nat.min_comm x y)
  | some m => exact congrArg some (by rw [Nat.min_assoc, Nat.min_comm x y, ← Nat.min_assoc])

/-! ### shape 4: lookups only (a hash map used as a finite function) -/

theorem lookup_perm_invariant {β} (k : Nat) {l₁ l₂ : List (Nat × β)} (h : l₁.Perm l₂)
    (v : β) : (k, v) ∈ l₁ ↔ (k, v) ∈ l₂ := h.mem_iff

/-! ### not invariant: one diagnostic per entry in iteration order (the `register .. used under multiple names` warnings before 8e51ced) -/

theorem emit_in_iteration_order_not_invariant :
    ∃ l₁ l₂ : List Nat, l₁.Perm l₂ ∧ l₁.map (fun r => s!"register {r} used under multiple names")
      ≠ l₂.map (fun r => s!"register {r} used under multiple names") :=
  ⟨[1, 2], [2, 1], List.Perm.swap 2 1 [], by decide +kernel⟩

example : sortByKey [(3, "c"), (1, "a"), (2, "b")] = [(1, "a"), (2, "b"), (3, "c")] := by decide +kernel
example : sortByKey [(2, "b"), (3, "c"), (1, "a")] = [(1, "a"), (2, "b"), (3, "c")] := by decide +kernel

end TruthModel.C19
