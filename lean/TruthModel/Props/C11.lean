import TruthModel.Model.Expr
/-
C11 — compile-time evaluation agrees with run-time evaluation.

Five evaluators: `eval` (the VM), `simplify` (the folder), `constEval` (`_const_eval`, every const cached), `evalConst`
(`_get_or_compute` without the cache) and `evalConstC` (with it, defined here).

Floats are parametric (`F : FloatOps`, no laws assumed).
-/
namespace TruthModel.C11
open TruthModel

/-! ## The integer operator table equals the documented machine semantics

The specification is written independently over `Int` (and over 32-bit patterns for the
bitwise operators).  `binopInt_spec` quantifies over all 2^32 × 2^32 operand pairs of every
non-bitwise operator; nothing is enumerated, the proofs go through the `toInt` characterisations
of the fixed-width operations in core.  VM, folder and const evaluator all call the one `binop`
(`BinOpKind::const_eval`), so the agreement theorems further down hold for any table; only this section says
the table is the right one. -/

def wrap (x : Int) : Int := x.bmod (2 ^ 32)

/-- shift count: "modulo 32" of the (signed) right operand -/
def shiftCount (b : Int) : Nat := (b.emod 32).toNat

/-- `none` = the expression has no defined value (division by zero); also `none` on the three bitwise operators,
which are specified on bit patterns instead (`bitwise_spec`; `binopInt_spec` excludes them by `isBitwise`). -/
def specInt : BinOp → Int → Int → Option Int
  | .add, a, b => some (wrap (a + b))
  | .sub, a, b => some (wrap (a - b))
  | .mul, a, b => some (wrap (a * b))
  | .div, a, b => if b = 0 then none else some (wrap (a.tdiv b))
  | .rem, a, b => if b = 0 then none else some (a.tmod b)
  | .eq, a, b => some (if a = b then 1 else 0)
  | .ne, a, b => some (if a = b then 0 else 1)
  | .lt, a, b => some (if a < b then 1 else 0)
  | .le, a, b => some (if a ≤ b then 1 else 0)
  | .gt, a, b => some (if a > b then 1 else 0)
  | .ge, a, b => some (if a ≥ b then 1 else 0)
  | .lor, a, b => some (if a = 0 then b else a)
  | .land, a, b => some (if a = 0 then 0 else b)
  | .shl, a, b => some (wrap (a * 2 ^ shiftCount b))
  | .shr, a, b => some (a / 2 ^ shiftCount b)                       -- floor: sign-extending
  | .ushr, a, b => some (wrap ((a.emod (2 ^ 32)) / 2 ^ shiftCount b)) -- zero-extending
  | .xor, _, _ => none   -- bitwise operators are specified on bit patterns below
  | .band, _, _ => none
  | .bor, _, _ => none

def isBitwise : BinOp → Bool
  | .xor | .band | .bor => true
  | _ => false

theorem toInt_range (a : Int32) : -2147483648 ≤ a.toInt ∧ a.toInt ≤ 2147483647 :=
  ⟨Int32.minValue_le_toInt a, Int32.toInt_le a⟩

theorem eq_ofInt_of_toInt {r : Int32} {v : Int} (h : r.toInt = v) : r = Int32.ofInt v := by
  subst h; simp

theorem toInt_eq_zero_iff (b : Int32) : b.toInt = 0 ↔ b = 0 := by
  constructor
  · intro h; apply Int32.toInt_inj.mp; simpa using h
  · intro h; subst h; rfl

theorem wrap_id {x : Int} (h1 : -2147483648 ≤ x) (h2 : x ≤ 2147483647) : wrap x = x :=
  Int.bmod_eq_of_le h1 (Int.lt_of_le_of_lt h2 (by decide))

theorem toUInt32_toNat_cast (b : Int32) :
    (b.toUInt32.toNat : Int) = b.toInt % ((4294967296 : Nat) : Int) := by
  rw [← Int32.toInt_toBitVec, BitVec.toInt_eq_toNat_bmod, Int.bmod_emod]
  exact (Int.emod_eq_of_lt (Int.natCast_nonneg _) (Int.ofNat_lt.mpr b.toBitVec.isLt)).symm

theorem toInt32_toInt (u : UInt32) : u.toInt32.toInt = (u.toNat : Int).bmod (2 ^ 32) := by
  rw [← Int32.toInt_toBitVec, UInt32.toBitVec_toInt32, BitVec.toInt_eq_toNat_bmod]; rfl

theorem pow32 : (2 : Nat) ^ 32 = 4294967296 := by decide
theorem two_cast : ((2 : Nat) : Int) = 2 := rfl

/-- `handle_shift_rhs`: the count actually used is the right operand modulo 32 (Euclidean, so
a negative right operand counts from 32 downwards). -/
theorem shiftRhs_toNat (b : Int32) : (shiftRhs b).toNat = shiftCount b.toInt := by
  apply Int.ofNat_inj.mp
  unfold shiftRhs shiftCount
  rw [UInt32.toNat_mod, Int.natCast_emod, toUInt32_toNat_cast]
  -- 32 divides 2^32
  exact (Int.emod_emod_of_dvd _ (by decide)).trans (Int.toNat_of_nonneg (Int.emod_nonneg _ (by decide))).symm

theorem shiftCount_lt (b : Int) : shiftCount b < 32 :=
  (Int.toNat_lt (Int.emod_nonneg _ (by decide))).mpr (Int.emod_lt_of_pos _ (by decide))

theorem smod32_toNat (x : BitVec 32) (h : x.toNat < 32) : (x.smod 32).toNat = x.toNat := by
  have hx : x.msb = false := BitVec.msb_eq_false_iff_two_mul_lt.mpr
    (Nat.lt_of_lt_of_le ((Nat.mul_lt_mul_left (by decide : 0 < 2)).mpr h) (by decide))
  have hy : (32 : BitVec 32).msb = false := by decide
  rw [BitVec.toNat_smod, hx, hy]
  simp only [BitVec.umod_eq, BitVec.toNat_umod]
  exact Nat.mod_eq_of_lt h

theorem spec_shl (a b : Int32) :
    (a.toUInt32 <<< shiftRhs b).toInt32
      = Int32.ofInt (wrap (a.toInt * 2 ^ shiftCount b.toInt)) := by
  apply eq_ofInt_of_toInt
  rw [toInt32_toInt, UInt32.toNat_shiftLeft, shiftRhs_toNat,
    Nat.mod_eq_of_lt (shiftCount_lt b.toInt), Nat.shiftLeft_eq]
  unfold wrap
  generalize shiftCount b.toInt = k
  rw [pow32, Int.natCast_emod, Int.natCast_mul, Int.natCast_pow, two_cast,
    Int.emod_bmod, ← Int.bmod_mul_bmod, toUInt32_toNat_cast, Int.emod_bmod, Int.bmod_mul_bmod]

theorem spec_shr (a b : Int32) :
    a >>> (shiftRhs b).toInt32 = Int32.ofInt (a.toInt / 2 ^ shiftCount b.toInt) := by
  apply eq_ofInt_of_toInt
  have h : (shiftRhs b).toNat < 32 := by rw [shiftRhs_toNat]; exact shiftCount_lt _
  rw [← Int32.toInt_toBitVec, Int32.toBitVec_shiftRight, BitVec.toInt_sshiftRight',
    UInt32.toBitVec_toInt32, smod32_toNat _ h, Int.shiftRight_eq_div_pow, Int32.toInt_toBitVec,
    Int.natCast_pow, two_cast]
  show a.toInt / 2 ^ (shiftRhs b).toNat = _
  rw [shiftRhs_toNat]

theorem spec_ushr (a b : Int32) :
    (a.toUInt32 >>> shiftRhs b).toInt32
      = Int32.ofInt (wrap ((a.toInt.emod (2 ^ 32)) / 2 ^ shiftCount b.toInt)) := by
  apply eq_ofInt_of_toInt
  rw [toInt32_toInt, UInt32.toNat_shiftRight, shiftRhs_toNat,
    Nat.mod_eq_of_lt (shiftCount_lt b.toInt), Nat.shiftRight_eq_div_pow]
  unfold wrap
  generalize shiftCount b.toInt = k
  rw [Int.natCast_ediv, Int.natCast_pow, toUInt32_toNat_cast, two_cast]
  rfl

theorem ok_int {r : Int32} {v : Int} (h : r.toInt = v) :
    (Outcome.ok (Value.int r) : Outcome Value) = .ok (.int (Int32.ofInt v)) := by
  subst h; rw [Int32.ofInt_toInt]

theorem ok_b2i {p q : Prop} [Decidable p] [Decidable q] (h : p ↔ q) :
    (Outcome.ok (Value.int (b2i (decide p))) : Outcome Value) = .ok (.int (Int32.ofInt (if q then 1 else 0))) := by
  by_cases hq : q
  · rw [decide_eq_true (h.mpr hq), if_pos hq]; rfl
  · rw [decide_eq_false (mt h.mp hq), if_neg hq]; rfl

theorem binopInt_spec (op : BinOp) (a b : Int32) (hop : isBitwise op = false) :
    binopInt op a b = match specInt op a.toInt b.toInt with
      | some v => .ok (.int (Int32.ofInt v))
      | none => .err "const evaluation error" := by
  cases op with
  | add => exact ok_int (Int32.toInt_add a b)
  | sub => exact ok_int (Int32.toInt_sub a b)
  | mul => exact ok_int (Int32.toInt_mul a b)
  | div =>
    by_cases hb : b = 0
    · subst hb; rfl
    · simp only [binopInt, specInt, if_neg hb, if_neg (mt (toInt_eq_zero_iff b).mp hb)]
      exact ok_int (Int32.toInt_div a b)
  | rem =>
    by_cases hb : b = 0
    · subst hb; rfl
    · simp only [binopInt, specInt, if_neg hb, if_neg (mt (toInt_eq_zero_iff b).mp hb)]
      exact ok_int (Int32.toInt_mod a b)
  | eq => exact ok_b2i Int32.toInt_inj.symm
  | ne =>
    by_cases h : a = b
    · subst h; simp only [binopInt, specInt, bne_self_eq_false, if_true]; rfl
    · simp only [binopInt, specInt, bne_iff_ne.mpr h, if_neg (mt Int32.toInt_inj.mp h)]; rfl
  | lt => exact ok_b2i Int32.lt_iff_toInt_lt
  | le => exact ok_b2i Int32.le_iff_toInt_le
  | gt => exact ok_b2i Int32.lt_iff_toInt_lt
  | ge => exact ok_b2i Int32.le_iff_toInt_le
  | lor => exact ok_int (by simp only [apply_ite Int32.toInt, toInt_eq_zero_iff])
  | land => exact ok_int (by simp only [apply_ite Int32.toInt, toInt_eq_zero_iff, Int32.toInt_zero])
  | shl => exact congrArg (fun r => Outcome.ok (Value.int r)) (spec_shl a b)
  | shr => exact congrArg (fun r => Outcome.ok (Value.int r)) (spec_shr a b)
  | ushr => exact congrArg (fun r => Outcome.ok (Value.int r)) (spec_ushr a b)
  | xor => cases hop
  | band => cases hop
  | bor => cases hop

/-- model values and specification values on operands where the statement has content: `-7 / 2` (truncation),
`1 << 33` (count modulo 32), `-8 >> 1` (sign extension), `-1 >>> 28` (zero extension). -/
example : binopInt .div (-7) 2 = .ok (.int (-3)) ∧ specInt .div (-7) 2 = some (-3) := by decide +kernel
example : binopInt .shl 1 33 = .ok (.int 2) := by decide +kernel
example : binopInt .shr (-8) 1 = .ok (.int (-4)) := by decide +kernel
example : binopInt .ushr (-1) 28 = .ok (.int 15) := by decide +kernel
example : specInt .shl 1 33 = some 2 ∧ specInt .shr (-8) 1 = some (-4)
    ∧ specInt .ushr (-1) 28 = some 15 := by decide +kernel
example : isBitwise .shl = false := rfl

theorem binopInt_cases (op : BinOp) (a b : Int32) :
    (∃ r, binopInt op a b = .ok (.int r)) ∨
      ((op = .div ∨ op = .rem) ∧ b = 0 ∧ binopInt op a b = .err "const evaluation error") := by
  cases op with
  | div =>
    by_cases hb : b = 0
    · exact .inr ⟨.inl rfl, hb, if_pos hb⟩
    · exact .inl ⟨_, if_neg hb⟩
  | rem =>
    by_cases hb : b = 0
    · exact .inr ⟨.inr rfl, hb, if_pos hb⟩
    · exact .inl ⟨_, if_neg hb⟩
  | _ => exact .inl ⟨_, rfl⟩

/-- Division by zero is the only undefined integer operation, and it is an error, not a panic. -/
theorem binopInt_err_iff (op : BinOp) (a b : Int32) :
    (∃ c, binopInt op a b = .err c) ↔ ((op = .div ∨ op = .rem) ∧ b = 0) := by
  constructor
  · rintro ⟨c, h⟩
    rcases binopInt_cases op a b with ⟨r, hr⟩ | ⟨ho, hb, _⟩
    · rw [hr] at h; cases h
    · exact ⟨ho, hb⟩
  · rintro ⟨h | h, rfl⟩ <;> subst h <;> exact ⟨_, rfl⟩

example : binopInt .rem 5 0 = .err "const evaluation error" := by decide +kernel

theorem bitwise_spec (a b : Int32) :
    (∃ r, binopInt .xor a b = .ok (.int r) ∧ r.toBitVec = a.toBitVec ^^^ b.toBitVec) ∧
    (∃ r, binopInt .band a b = .ok (.int r) ∧ r.toBitVec = a.toBitVec &&& b.toBitVec) ∧
    (∃ r, binopInt .bor a b = .ok (.int r) ∧ r.toBitVec = a.toBitVec ||| b.toBitVec) :=
  ⟨⟨_, rfl, Int32.toBitVec_xor a b⟩, ⟨_, rfl, Int32.toBitVec_and a b⟩,
   ⟨_, rfl, Int32.toBitVec_or a b⟩⟩

example : binopInt .xor 12 10 = .ok (.int 6) ∧ binopInt .band 12 10 = .ok (.int 8)
    ∧ binopInt .bor 12 10 = .ok (.int 14) := by decide +kernel

/-- the three integer unary operators: `-x` wraps, `!x` is C truthiness, `~x` is `-x-1` (which never leaves the range) -/
theorem unop_int_spec (F : FloatOps) (x : Int32) :
    unop F .neg (.int x) = .ok (some (.int (Int32.ofInt (wrap (-x.toInt))))) ∧
    unop F .not (.int x) = .ok (some (.int (if x = 0 then 1 else 0))) ∧
    unop F .bnot (.int x) = .ok (some (.int (Int32.ofInt (-x.toInt - 1)))) := by
  refine ⟨?_, ?_, ?_⟩
  · exact congrArg (fun r => Outcome.ok (some (Value.int r))) (eq_ofInt_of_toInt (Int32.toInt_neg x))
  · exact congrArg (fun r => Outcome.ok (some (Value.int r))) (by simp only [b2i, beq_iff_eq])
  · refine congrArg (fun r => Outcome.ok (some (Value.int r))) (eq_ofInt_of_toInt ?_)
    rw [Int32.toInt_not]
    exact wrap_id (Int.sub_le_sub_right (Int.neg_le_neg (toInt_range x).2) 1) (Int.sub_le_sub_right (Int.neg_le_neg (toInt_range x).1) 1)

/-! `i32::MIN` corner cases: `wrapping_div`/`wrapping_rem`/`wrapping_neg` wrap, they do not trap. -/
theorem div_min_neg_one : binopInt .div Int32.minValue (-1) = .ok (.int Int32.minValue) := by
  decide +kernel
theorem rem_min_neg_one : binopInt .rem Int32.minValue (-1) = .ok (.int 0) := by decide +kernel
theorem neg_min (F : FloatOps) :
    unop F .neg (.int Int32.minValue) = .ok (some (.int Int32.minValue)) :=
  congrArg (fun r => Outcome.ok (some (Value.int r))) (by decide +kernel)
example : specInt .div (-2147483648) (-1) = some (-2147483648) := by decide +kernel
example : binopInt .mul 65536 65536 = .ok (.int 0) := by decide +kernel
example : binopInt .add Int32.maxValue 1 = .ok (.int Int32.minValue) := by decide +kernel

/-! ## Which operand types panic: two integers never, two floats exactly on the integer-only operators, two strings
and mixed types always (the type checker, `HasType` of C09, admits only the first two, and floats not on those
operators) -/

/-- operators that exist only on integers: the `uncaught_type_error` arms for floats -/
def isIntOnly : BinOp → Bool
  | .lor | .land | .xor | .band | .bor | .shl | .shr | .ushr => true
  | _ => false

theorem binopInt_no_panic (op : BinOp) (a b : Int32) (s : String) :
    binopInt op a b ≠ .panic s := by
  intro h
  rcases binopInt_cases op a b with ⟨r, hr⟩ | ⟨_, _, hr⟩ <;> rw [hr] at h <;> cases h

theorem binop_no_panic_of_same_type (F : FloatOps) (op : BinOp) (a b : Int32) (s : String) :
    binop F op (.int a) (.int b) ≠ .panic s :=
  binopInt_no_panic op a b s

theorem binop_float_panic_iff (F : FloatOps) (op : BinOp) (a b : UInt32) :
    (∃ s, binop F op (.float a) (.float b) = .panic s) ↔ isIntOnly op = true := by
  -- the float table has an arm for the arithmetic and comparison operators and for nothing else
  have h : if isIntOnly op then binopFloat F op a b = .panic typeErrorSite else ∃ v, binopFloat F op a b = .ok v := by
    cases op with
    | add | sub | mul | div | rem | eq | ne | lt | le | gt | ge => exact ⟨_, rfl⟩
    | _ => rfl
  cases ho : isIntOnly op with
  | true => exact ⟨fun _ => rfl, fun _ => ⟨_, (if_pos ho).mp h⟩⟩
  | false =>
    obtain ⟨v, hv⟩ := (if_neg (ne_true_of_eq_false ho)).mp h
    exact ⟨fun ⟨s, hs⟩ => (by cases hv.symm.trans hs), Bool.noConfusion⟩

/-- Mixed operand types always reach the `uncaught_type_error` arm. -/
theorem binop_mixed_panics (F : FloatOps) (op : BinOp) (a b : Value) (h : a.ty ≠ b.ty) :
    binop F op a b = .panic typeErrorSite := by
  cases a <;> cases b <;> first | rfl | exact absurd rfl h

theorem binop_str_panics (F : FloatOps) (op : BinOp) (a b : String) :
    binop F op (.str a) (.str b) = .panic typeErrorSite := rfl

example (F : FloatOps) : binop F .shl (.float 0) (.float 0) = .panic typeErrorSite := rfl
example (F : FloatOps) : binop F .add (.float 1) (.float 2) = .ok (.float (F.add 1 2)) := rfl
example (F : FloatOps) : binop F .add (.int 1) (.float 2) = .panic typeErrorSite :=
  binop_mixed_panics F .add _ _ (by decide)

/-! ## What a successful const evaluation looks like, node by node

`constEval` is `evalConstExpr` with the const table as its oracle, so the facts are stated for
`evalConstExpr` only. -/

theorem constEval_eq_evalConstExpr (F : FloatOps) (defs : Nat → Option Expr) (cs : Consts)
    (st : List Nat) (e : Expr) :
    constEval F cs e = evalConstExpr F defs
      (fun _ n => match cs n with | some v => .ok v | none => .err "const evaluation error")
      st e := by
  induction e with
  | litI x => rfl
  | litF x => rfl
  | litS x => rfl
  | reg r s => rfl
  | var n s => unfold constEval evalConstExpr; cases cs n <;> rfl
  | unop op b ih => unfold constEval evalConstExpr; rw [ih]
  | binop op a b iha ihb => unfold constEval evalConstExpr; rw [iha, ihb]
  | ternary c l r ihc ihl ihr => unfold constEval evalConstExpr; rw [ihc, ihl, ihr]

section
variable {F : FloatOps} {defs : Nat → Option Expr} {rec : List Nat → Nat → Outcome Value} {st : List Nat}

theorem evalConstExpr_ok {e : Expr} {v : Value} : evalConstExpr F defs rec st e = .ok v →
    match e with
    | .var n sig => ∃ w, rec st n = .ok w ∧ castBySigil F w sig = some v
    | .unop op b => ∃ bv, evalConstExpr F defs rec st b = .ok bv ∧ unop F op bv = .ok (some v)
    | .binop op a b => ∃ av bv, evalConstExpr F defs rec st a = .ok av ∧ evalConstExpr F defs rec st b = .ok bv ∧
        binop F op av bv = .ok v
    | .ternary c l r => ∃ x lv rv, evalConstExpr F defs rec st c = .ok (.int x) ∧ evalConstExpr F defs rec st l = .ok lv ∧
        evalConstExpr F defs rec st r = .ok rv ∧ v = if x = 0 then rv else lv
    | _ => True := by
  -- the successful paths: variable, unary, binary, ternary (zero / non-zero condition), literals
  fun_induction evalConstExpr F defs rec st e with
  | case5 n sig w hw u hu => intro h; cases h; exact ⟨w, hw, hu⟩
  | case9 op b bv hb w hw => intro h; cases h; exact ⟨bv, hb, hw⟩
  | case15 op a b av ha bv hb => exact fun h => ⟨av, bv, ha, hb, h⟩
  | case20 c l r lv hl rv hr hc => exact fun h => ⟨0, lv, rv, hc, hl, hr, (Outcome.ok.inj h).symm⟩
  | case21 c l r lv hl rv hr x hx hc => exact fun h => ⟨x, lv, rv, hc, hl, hr, (Outcome.ok.inj h).symm.trans (if_neg hx).symm⟩
  | case1 | case2 | case3 => exact fun _ => trivial
  | _ => exact nofun
end

/-! ## Folding preserves the value: `eval (simplify e) = eval e`

No typing hypothesis is needed: whenever the folding visitor succeeds, the folded expression
evaluates (under every environment, with the same const table) to exactly what the
original evaluates to - including which error/panic outcome. -/

theorem toConst_eval (F : FloatOps) (cs : Consts) (env : Env) (e : Expr) (v : Value)
    (h : e.toConst = some v) : eval F cs env e = .ok v := by
  cases e <;> simp [Expr.toConst] at h <;> subst h <;> rfl

theorem eval_toExpr (F : FloatOps) (cs : Consts) (env : Env) (v : Value) :
    eval F cs env v.toExpr = .ok v := by
  cases v <;> rfl

/-- the sigil operators `$(x)`, `%(x)` are never folded -/
theorem unop_some_not_sigil {F : FloatOps} {op : UnOp} {v w : Value} (h : unop F op v = .ok (some w)) :
    sigilOfUnop op = none := by
  cases op with
  | sigI => cases v <;> cases h
  | sigF => cases v <;> cases h
  | _ => rfl

/-- one node of the folding visitor: the result evaluates like the node (`simplifyNode_sound`), and it is a literal,
the node itself, or a branch of a ternary with a literal condition (the shapes `simplify_idempotent` goes through) -/
theorem simplifyNode_spec (F : FloatOps) (cs : Consts) (e e' : Expr) (h : simplifyNode F cs e = .ok e') :
    (∀ env, eval F cs env e' = eval F cs env e) ∧
    ((∃ v : Value, e' = v.toExpr) ∨ e' = e ∨ (∃ c l r, e = .ternary c l r ∧ (e' = l ∨ e' = r))) := by
  revert h
  fun_cases simplifyNode F cs e with
  | case1 n s u hn w hw =>
    intro h; cases h
    exact ⟨fun env => by simp only [eval, hn, hw, eval_toExpr], .inl ⟨_, rfl⟩⟩
  | case4 op b bv hb w hw =>
    intro h; cases h
    exact ⟨fun env => by simp only [eval, toConst_eval F cs env b bv hb, eval_toExpr, unop_some_not_sigil hw, hw],
      .inl ⟨_, rfl⟩⟩
  | case9 op a b av bv hb ha w hw =>
    intro h; cases h
    exact ⟨fun env => by simp only [eval, toConst_eval F cs env a av ha, toConst_eval F cs env b bv hb, eval_toExpr, hw],
      .inl ⟨_, rfl⟩⟩
  | case13 c l r hc =>
    intro h; cases h
    exact ⟨fun env => by simp only [eval, toConst_eval F cs env c _ hc, ↓reduceIte], .inr (.inr ⟨_, _, _, rfl, .inr rfl⟩)⟩
  | case14 c l r v hc hv =>
    intro h; cases h
    exact ⟨fun env => by simp only [eval, toConst_eval F cs env c _ hc, if_neg hv], .inr (.inr ⟨_, _, _, rfl, .inl rfl⟩)⟩
  | case3 | case5 | case8 | case12 | case16 | case17 => intro h; cases h; exact ⟨fun _ => rfl, .inr (.inl rfl)⟩
  | case2 | case6 | case7 | case10 | case11 | case15 => exact nofun

theorem simplifyNode_sound (F : FloatOps) (cs : Consts) (env : Env) (e e' : Expr)
    (h : simplifyNode F cs e = .ok e') : eval F cs env e' = eval F cs env e :=
  (simplifyNode_spec F cs e e' h).1 env

theorem simplify_sound (F : FloatOps) (cs : Consts) (env : Env) (e e' : Expr)
    (h : simplify F cs e = .ok e') : eval F cs env e' = eval F cs env e := by
  fun_induction simplify F cs e generalizing e' with
  | case1 op b b' hb ih =>
    rw [simplifyNode_sound F cs env _ _ h]
    simp only [eval, ih b' hb]
  | case4 op a b a' ha b' hb iha ihb =>
    rw [simplifyNode_sound F cs env _ _ h]
    simp only [eval, iha a' ha, ihb b' hb]
  | case9 c l r c' hc l' hl r' hr ihc ihl ihr =>
    rw [simplifyNode_sound F cs env _ _ h]
    simp only [eval, ihc c' hc, ihl l' hl, ihr r' hr]
  | case16 => exact simplifyNode_sound F cs env _ _ h
  | _ => cases h

/-! ## The two tree walkers agree

`constEval` (`Evaluator::_const_eval`) and the folding visitor `simplify` are separate pieces of
code that "must be updated in sync".  Whenever `constEval` produces a value, the visitor folds
the whole expression to exactly that literal, and the VM evaluates it to that value under every
register valuation. -/

/-- const table `c0 = 5` -/
def exCs : Consts := fun n => if n = 0 then some (.int 5) else none
/-- `c0 + -(2)` -/
def exE : Expr := .binop .add (.var 0 none) (.unop .neg (.litI 2))

@[simp] theorem toConst_toExpr (v : Value) : v.toExpr.toConst = some v := by cases v <;> rfl

theorem simplify_toExpr (F : FloatOps) (cs : Consts) (v : Value) :
    simplify F cs v.toExpr = .ok v.toExpr := by cases v <;> rfl

theorem constEval_simplify (F : FloatOps) (cs : Consts) (e : Expr) (v : Value)
    (h : constEval F cs e = .ok v) : simplify F cs e = .ok v.toExpr := by
  rw [constEval_eq_evalConstExpr F (fun _ => none) cs []] at h
  induction e generalizing v with
  | litI x => cases h; rfl
  | litF x => cases h; rfl
  | litS x => cases h; rfl
  | reg r s => cases h
  | var n s =>
    obtain ⟨w, hw, hc⟩ := evalConstExpr_ok h
    cases hn : cs n with
    | none => rw [hn] at hw; cases hw
    | some u =>
      rw [hn] at hw; cases hw
      simp only [simplify, simplifyNode, hn, hc]
  | unop op b ih =>
    obtain ⟨bv, hb, hu⟩ := evalConstExpr_ok h
    simp only [simplify, ih bv hb, simplifyNode, toConst_toExpr, hu]
  | binop op a b iha ihb =>
    obtain ⟨av, bv, ha, hb, ho⟩ := evalConstExpr_ok h
    simp only [simplify, iha av ha, ihb bv hb, simplifyNode, toConst_toExpr, ho]
  | ternary c l r ihc ihl ihr =>
    obtain ⟨x, lv, rv, hc, hl, hr, rfl⟩ := evalConstExpr_ok h
    simp only [simplify, ihc _ hc, ihl lv hl, ihr rv hr, simplifyNode, toConst_toExpr]
    exact (apply_ite (fun v : Value => Outcome.ok v.toExpr) ..).symm

example (F : FloatOps) : constEval F exCs exE = .ok (.int 3) := rfl
example (F : FloatOps) : simplify F exCs exE = .ok (.litI 3) :=
  constEval_simplify F exCs exE (.int 3) rfl
/-- the converse fails on the sigil operators: folded by neither, rejected by `constEval` -/
example (F : FloatOps) :
    constEval F exCs (.unop .sigI (.litI 1)) = .err "const evaluation error"
    ∧ simplify F exCs (.unop .sigI (.litI 1)) = .ok (.unop .sigI (.litI 1)) := ⟨rfl, rfl⟩

theorem constEval_eq_eval (F : FloatOps) (cs : Consts) (e : Expr) (v : Value)
    (h : constEval F cs e = .ok v) (env : Env) : eval F cs env e = .ok v := by
  rw [← simplify_sound F cs env e _ (constEval_simplify F cs e v h), eval_toExpr]

example (F : FloatOps) (env : Env) : eval F exCs env exE = .ok (.int 3) :=
  constEval_eq_eval F exCs exE (.int 3) rfl env
/-- ... and here the VM gives a value (`$(1)` is a cast) although `constEval` rejects -/
example (F : FloatOps) (env : Env) :
    eval F exCs env (.unop .sigI (.litI 1)) = .ok (.int 1) := rfl

theorem simplify_idempotent (F : FloatOps) (cs : Consts) (e e' : Expr)
    (h : simplify F cs e = .ok e') : simplify F cs e' = .ok e' := by
  fun_induction simplify F cs e generalizing e' with
  | case1 op b b' hb ih =>
    rcases (simplifyNode_spec F cs _ _ h).2 with ⟨v, rfl⟩ | rfl | ⟨_, _, _, hc, _⟩
    · exact simplify_toExpr F cs v
    · simp only [simplify, ih b' hb, h]
    · cases hc
  | case4 op a b a' ha b' hb iha ihb =>
    rcases (simplifyNode_spec F cs _ _ h).2 with ⟨v, rfl⟩ | rfl | ⟨_, _, _, hc, _⟩
    · exact simplify_toExpr F cs v
    · simp only [simplify, iha a' ha, ihb b' hb, h]
    · cases hc
  | case9 c l r c' hc l' hl r' hr ihc ihl ihr =>
    rcases (simplifyNode_spec F cs _ _ h).2 with ⟨v, rfl⟩ | rfl | ⟨_, _, _, hc', hlr⟩
    · exact simplify_toExpr F cs v
    · simp only [simplify, ihc c' hc, ihl l' hl, ihr r' hr, h]
    · injection hc' with h1 h2 h3; subst h1 h2 h3
      rcases hlr with rfl | rfl
      · exact ihl _ hl
      · exact ihr _ hr
  | case16 e hu hb ht =>
    rcases (simplifyNode_spec F cs _ _ h).2 with ⟨v, rfl⟩ | heq | ⟨c, l, r, hc, _⟩
    · exact simplify_toExpr F cs v
    · subst heq
      cases e' with
      | unop op b => exact absurd rfl (hu op b)
      | binop op a b => exact absurd rfl (hb op a b)
      | ternary c l r => exact absurd rfl (ht c l r)
      | _ => exact h
    · exact absurd hc (ht c l r)
  | _ => cases h

/-- `REG[1] + 2 * 3` folds to `REG[1] + 6`, and that is a fixed point -/
example (F : FloatOps) :
    simplify F exCs (.binop .add (.reg 1 none) (.binop .mul (.litI 2) (.litI 3)))
      = .ok (.binop .add (.reg 1 none) (.litI 6)) := rfl
example (F : FloatOps) : simplify F exCs (.binop .add (.reg 1 none) (.litI 6))
    = .ok (.binop .add (.reg 1 none) (.litI 6)) :=
  simplify_idempotent F exCs (.binop .add (.reg 1 none) (.binop .mul (.litI 2) (.litI 3))) _ rfl

/-! ## Chains of const definitions: fuel, evaluation stack and cache do not matter

`evalConst fuel stack n` is `_get_or_compute` without the cache.  Its *computed values* (the
`ok` outcomes) depend neither on the fuel, nor on the evaluation stack, nor on a cache. -/

/-- `const c0 = 2; const c1 = c0 + 1; const c2 = c1 * c0; const c3 = c3;` -/
def exDefs : Nat → Option Expr
  | 0 => some (.litI 2)
  | 1 => some (.binop .add (.var 0 none) (.litI 1))
  | 2 => some (.binop .mul (.var 1 none) (.var 0 none))
  | 3 => some (.var 3 none)
  | _ => none

/-- the table after `c0`, `c1` have been computed -/
def exCache : Consts :=
  fun n => if n = 0 then some (.int 2) else if n = 1 then some (.int 3) else none

/-- variables (named, not registers) occurring in an expression -/
def vars : Expr → List Nat
  | .var n _ => [n]
  | .unop _ e => vars e
  | .binop _ a b => vars a ++ vars b
  | .ternary c l r => vars c ++ vars l ++ vars r
  | _ => []

section
variable {F : FloatOps} {defs : Nat → Option Expr}

theorem evalConstExpr_mono {rec₁ rec₂ : List Nat → Nat → Outcome Value} {st₁ st₂ : List Nat} {e : Expr}
    (hrec : ∀ n ∈ vars e, ∀ v, rec₁ st₁ n = .ok v → rec₂ st₂ n = .ok v) {v : Value}
    (h : evalConstExpr F defs rec₁ st₁ e = .ok v) : evalConstExpr F defs rec₂ st₂ e = .ok v := by
  induction e generalizing v with
  | litI x => exact h
  | litF x => exact h
  | litS x => exact h
  | reg r s => cases h
  | var n s =>
    obtain ⟨w, hw, hc⟩ := evalConstExpr_ok h
    unfold evalConstExpr; simp only [hrec n List.mem_cons_self w hw, hc]
  | unop op b ih =>
    obtain ⟨bv, hb, hu⟩ := evalConstExpr_ok h
    unfold evalConstExpr; simp only [ih hrec hb, hu]
  | binop op a b iha ihb =>
    obtain ⟨av, bv, ha, hb, ho⟩ := evalConstExpr_ok h
    unfold evalConstExpr; simp only [iha (fun n hn => hrec n (List.mem_append_left _ hn)) ha,
      ihb (fun n hn => hrec n (List.mem_append_right _ hn)) hb, ho]
  | ternary c l r ihc ihl ihr =>
    obtain ⟨x, lv, rv, hc, hl, hr, rfl⟩ := evalConstExpr_ok h
    unfold evalConstExpr; simp only [ihc (fun n hn => hrec n (List.mem_append_left _ (List.mem_append_left _ hn))) hc,
      ihl (fun n hn => hrec n (List.mem_append_left _ (List.mem_append_right _ hn))) hl,
      ihr (fun n hn => hrec n (List.mem_append_right _ hn)) hr]
    exact (apply_ite Outcome.ok ..).symm

theorem evalConstExpr_ok_vars {rec : List Nat → Nat → Outcome Value} {st : List Nat} {e : Expr} {v : Value}
    (h : evalConstExpr F defs rec st e = .ok v) : ∀ n ∈ vars e, ∃ w, rec st n = .ok w := by
  induction e generalizing v with
  | litI x => intro n hn; cases hn
  | litF x => intro n hn; cases hn
  | litS x => intro n hn; cases hn
  | reg r s => cases h
  | var m s =>
    obtain ⟨w, hw, _⟩ := evalConstExpr_ok h
    intro n hn
    cases List.mem_singleton.mp hn
    exact ⟨w, hw⟩
  | unop op b ih =>
    obtain ⟨bv, hb, _⟩ := evalConstExpr_ok h
    exact ih hb
  | binop op a b iha ihb =>
    obtain ⟨av, bv, ha, hb, _⟩ := evalConstExpr_ok h
    intro n hn
    exact (List.mem_append.mp hn).elim (iha ha n) (ihb hb n)
  | ternary c l r ihc ihl ihr =>
    obtain ⟨x, lv, rv, hc, hl, hr, _⟩ := evalConstExpr_ok h
    intro n hn
    exact (List.mem_append.mp hn).elim (fun h => (List.mem_append.mp h).elim (ihc hc n) (ihl hl n)) (ihr hr n)

theorem const_step_ok {k : Nat} {st : List Nat} {n : Nat} {v : Value} :
    evalConst F defs (k + 1) st n = .ok v ↔
      n ∉ st ∧ ∃ e, defs n = some e ∧ evalConstExpr F defs (evalConst F defs k) (n :: st) e = .ok v := by
  simp only [evalConst]
  by_cases hn : n ∈ st
  · simp [hn]
  · cases hd : defs n <;> simp [hn]

theorem evalConst_mono {k k' : Nat} {st st' : List Nat} {n : Nat} {v : Value} (hk : k ≤ k') (hst : st' ⊆ st)
    (h : evalConst F defs k st n = .ok v) : evalConst F defs k' st' n = .ok v := by
  induction k generalizing k' st st' n v with
  | zero => cases h
  | succ k ih =>
    cases k' with
    | zero => cases hk
    | succ k' =>
      obtain ⟨hn, e, he, h⟩ := const_step_ok.mp h
      exact const_step_ok.mpr ⟨fun hm => hn (hst hm), e, he, evalConstExpr_mono
        (fun m _ w hw => ih (Nat.le_of_succ_le_succ hk) (List.cons_subset_cons n hst) hw) h⟩

theorem evalConst_fuel_mono {k k' : Nat} {st : List Nat} {n : Nat} {v : Value} (hk : k ≤ k')
    (h : evalConst F defs k st n = .ok v) : evalConst F defs k' st n = .ok v :=
  evalConst_mono hk (List.Subset.refl st) h

theorem evalConst_of_mem {k : Nat} {st : List Nat} {x : Nat} (hx : x ∈ st) {w : Value} :
    evalConst F defs k st x ≠ .ok w := by
  intro h
  cases k with
  | zero => cases h
  | succ k => exact (const_step_ok.mp h).1 hx

/-- Pushing a const `n` whose definition mentions `x` changes no computed value while `x` is on the
stack or is the one asked for: a run that reached `n` would go on to `x` and fail there. -/
theorem evalConst_push_dependent {n x : Nat} {e : Expr} (hd : defs n = some e) (hx : x ∈ vars e)
    {k : Nat} {st st' : List Nat} {m : Nat} {w : Value} (hst : st' ⊆ st ++ [n]) (hxm : x ∈ m :: st)
    (h : evalConst F defs k st m = .ok w) : evalConst F defs k st' m = .ok w := by
  induction k generalizing st st' m w with
  | zero => cases h
  | succ k ih =>
    obtain ⟨hm, em, hem, h⟩ := const_step_ok.mp h
    have hmn : m ≠ n := by
      rintro rfl
      cases hd.symm.trans hem
      obtain ⟨u, hu⟩ := evalConstExpr_ok_vars h x hx
      exact evalConst_of_mem hxm hu
    refine const_step_ok.mpr ⟨fun hm' => (List.mem_append.mp (hst hm')).elim hm fun h1 => hmn (List.mem_singleton.mp h1),
      em, hem, evalConstExpr_mono (fun y _ u hu => ?_) h⟩
    exact ih (List.cons_subset_cons m hst) (List.mem_cons_of_mem y hxm) hu

/-- evaluating const `n` (which pushes `n`) is evaluating its definition on an empty stack -/
theorem evalConst_unfold_nil {n : Nat} {e : Expr} (hd : defs n = some e) (k : Nat) (v : Value) :
    evalConst F defs (k + 1) [] n = .ok v ↔
      evalConstExpr F defs (evalConst F defs k) [] e = .ok v := by
  have hunf : evalConst F defs (k + 1) [] n = .ok v ↔ evalConstExpr F defs (evalConst F defs k) [n] e = .ok v :=
    const_step_ok.trans ⟨fun ⟨_, e', he', h⟩ => Option.some.inj (hd.symm.trans he') ▸ h, fun h => ⟨List.not_mem_nil, e, hd, h⟩⟩
  refine hunf.trans ⟨evalConstExpr_mono fun m _ w hw => evalConst_mono (Nat.le_refl k) (List.nil_subset _) hw,
    evalConstExpr_mono fun m hm w hw => ?_⟩
  exact evalConst_push_dependent hd hm (List.Subset.refl _) List.mem_cons_self hw

end

example (F : FloatOps) : evalConst F exDefs 3 [] 2 = .ok (.int 6) := rfl
example (F : FloatOps) : evalConst F exDefs 2 [] 2 = .err "fuel" := rfl
example (F : FloatOps) : evalConst F exDefs 5 [] 3 = .err "cycle in const definition" := rfl
example (F : FloatOps) : evalConst F exDefs 10 [] 2 = .ok (.int 6) :=
  evalConst_fuel_mono (k := 3) (by decide) rfl
/-- a larger stack can turn a value into a cycle error (never into another value: `evalConst_mono`) -/
example (F : FloatOps) : evalConst F exDefs 3 [0] 2 = .err "cycle in const definition" := rfl

/-- evaluation through a table that holds exactly the computed values (on the consts `S`, e.g. those already
computed) agrees, on every computed value, with evaluation that recomputes each referenced const: the bridge
from `constEval` (previous section, and C13) to `evalConst` -/
theorem evalConst_cached (F : FloatOps) (defs : Nat → Option Expr) (fuel : Nat) (cs : Consts)
    (S : Nat → Prop)
    (hcs : ∀ n, S n → ∀ v, cs n = some v ↔ evalConst F defs fuel [] n = .ok v)
    (e : Expr) (he : ∀ n ∈ vars e, S n) (v : Value) :
    constEval F cs e = .ok v ↔
      evalConstExpr F defs (evalConst F defs fuel) [] e = .ok v := by
  rw [constEval_eq_evalConstExpr F defs cs []]
  constructor
  · refine evalConstExpr_mono fun n hn w hw => (hcs n (he n hn) w).mp ?_
    revert hw; cases cs n <;> simp
  · refine evalConstExpr_mono fun n hn w hw => ?_
    simp only [(hcs n (he n hn) w).mpr hw]

theorem exCache_ok (F : FloatOps) (n : Nat) (hn : n = 0 ∨ n = 1) (v : Value) :
    exCache n = some v ↔ evalConst F exDefs 2 [] n = .ok v := by
  rcases hn with rfl | rfl
  · have : evalConst F exDefs 2 [] 0 = .ok (.int 2) := rfl
    rw [this]; simp [exCache]
  · have : evalConst F exDefs 2 [] 1 = .ok (.int 3) := rfl
    rw [this]; simp [exCache]

example (F : FloatOps) :
    evalConstExpr F exDefs (evalConst F exDefs 2) [] (.binop .mul (.var 1 none) (.var 0 none))
      = .ok (.int 6) :=
  (evalConst_cached F exDefs 2 exCache (fun n => n = 0 ∨ n = 1) (exCache_ok F) _
    (by decide) _).mp rfl

/-- Computing const `n` through a table that holds exactly the values of the consts its
definition mentions gives what the uncached depth-first evaluation gives. -/
theorem evalConst_cached_def (F : FloatOps) (defs : Nat → Option Expr) (fuel : Nat) (cs : Consts)
    (S : Nat → Prop)
    (hcs : ∀ n, S n → ∀ v, cs n = some v ↔ evalConst F defs fuel [] n = .ok v)
    (n : Nat) (e : Expr) (hd : defs n = some e) (he : ∀ m ∈ vars e, S m) (v : Value) :
    constEval F cs e = .ok v ↔ evalConst F defs (fuel + 1) [] n = .ok v := by
  rw [evalConst_unfold_nil hd, evalConst_cached F defs fuel cs S hcs e he]

example (F : FloatOps) : evalConst F exDefs 3 [] 2 = .ok (.int 6) :=
  (evalConst_cached_def F exDefs 2 exCache (fun n => n = 0 ∨ n = 1) (exCache_ok F) 2 _ rfl
    (by decide) _).mp rfl

/-! ### `_get_or_compute` with its cache

`evalConstC` is `_get_or_compute` with the order of its tests: first the cache lookup, then the cycle check,
then the definition.  The cache is a parameter (the table as it is when the call is made); the insertion
after a computation (consts.rs:183) is `consistent_insert`, which no theorem composes into a run. -/

def evalConstC (F : FloatOps) (defs : Nat → Option Expr) (cache : Consts) :
    Nat → List Nat → Nat → Outcome Value
  | 0, _, _ => .err "fuel"
  | fuel + 1, stack, n =>
    match cache n with
    | some v => .ok v
    | none =>
      if stack.contains n then .err "cycle in const definition"
      else match defs n with
        | none => .err "const evaluation error"
        | some e => evalConstExpr F defs (evalConstC F defs cache fuel) (n :: stack) e

/-- every cached value is the value computed without a cache (within `N` levels) -/
def Consistent (F : FloatOps) (defs : Nat → Option Expr) (N : Nat) (cache : Consts) : Prop :=
  ∀ n v, cache n = some v → evalConst F defs N [] n = .ok v

theorem consistent_empty (F : FloatOps) (defs : Nat → Option Expr) (N : Nat) :
    Consistent F defs N (fun _ => none) := by
  intro n v h; cases h

theorem consistent_insert (F : FloatOps) (defs : Nat → Option Expr) (N : Nat) (cache : Consts)
    (hc : Consistent F defs N cache) (n : Nat) (v : Value) (st : List Nat)
    (hv : evalConst F defs N st n = .ok v) :
    Consistent F defs N (fun m => if m = n then some v else cache m) := by
  intro m w h
  by_cases hm : m = n
  · subst hm
    cases (if_pos rfl).symm.trans h
    exact evalConst_mono (Nat.le_refl N) (List.nil_subset st) hv
  · exact hc m w ((if_neg hm).symm.trans h)

theorem consistent_fuel (F : FloatOps) (defs : Nat → Option Expr) (N N' : Nat) (cache : Consts)
    (hN : N ≤ N') (hc : Consistent F defs N cache) : Consistent F defs N' cache :=
  fun n v h => evalConst_fuel_mono hN (hc n v h)

theorem evalConstC_sound (F : FloatOps) (defs : Nat → Option Expr) (N : Nat) (cache : Consts)
    (hc : Consistent F defs N cache) (k : Nat) (st : List Nat) (n : Nat) (v : Value)
    (h : evalConstC F defs cache k st n = .ok v) : evalConst F defs (N + k) [] n = .ok v := by
  induction k generalizing st n v with
  | zero => cases h
  | succ k ih =>
    simp only [evalConstC] at h
    split at h
    · rename_i w hw
      cases h
      exact evalConst_fuel_mono (Nat.le_add_right ..) (hc n _ hw)
    · split at h
      · cases h
      · split at h
        · cases h
        · rename_i e hd
          exact (evalConst_unfold_nil hd (N + k) v).mpr (evalConstExpr_mono (fun m _ w hw => ih _ m w hw) h)

theorem evalConstC_complete (F : FloatOps) (defs : Nat → Option Expr) (N : Nat) (cache : Consts)
    (hc : Consistent F defs N cache) (k : Nat) (st : List Nat) (n : Nat) (v : Value)
    (h : evalConst F defs k st n = .ok v) : evalConstC F defs cache k st n = .ok v := by
  induction k generalizing st n v with
  | zero => cases h
  | succ k ih =>
    simp only [evalConstC]
    split
    · rename_i w hw
      -- both the cached and the computed value are the value at fuel `N + (k + 1)` on the empty stack
      have h1 := evalConst_fuel_mono (Nat.le_add_right N (k + 1)) (hc n w hw)
      have h2 := evalConst_mono (Nat.le_add_left (k + 1) N) (List.nil_subset st) h
      exact h1.symm.trans h2
    · obtain ⟨hn, e, hd, h⟩ := const_step_ok.mp h
      rw [if_neg (mt List.contains_iff_mem.mp hn), hd]
      exact evalConstExpr_mono (fun m _ w hw => ih _ m w hw) h

/-- With a consistent cache, a root call (`run_rooted`: empty stack) computes `v` for some
amount of fuel iff the cache-free evaluation does. -/
theorem evalConstC_iff (F : FloatOps) (defs : Nat → Option Expr) (N : Nat) (cache : Consts)
    (hc : Consistent F defs N cache) (n : Nat) (v : Value) :
    (∃ k, evalConstC F defs cache k [] n = .ok v) ↔ (∃ k, evalConst F defs k [] n = .ok v) :=
  ⟨fun ⟨k, h⟩ => ⟨N + k, evalConstC_sound F defs N cache hc k [] n v h⟩,
   fun ⟨k, h⟩ => ⟨k, evalConstC_complete F defs N cache hc k [] n v h⟩⟩

theorem exCache_consistent (F : FloatOps) : Consistent F exDefs 2 exCache := by
  intro n v h
  by_cases h0 : n = 0
  · subst h0; exact (exCache_ok F 0 (.inl rfl) v).mp h
  · by_cases h1 : n = 1
    · subst h1; exact (exCache_ok F 1 (.inr rfl) v).mp h
    · simp [exCache, h0, h1] at h

/-- with `c0`, `c1` cached, `c2` needs two levels instead of three -/
example (F : FloatOps) : evalConstC F exDefs exCache 2 [] 2 = .ok (.int 6) := rfl
example (F : FloatOps) : evalConst F exDefs 4 [] 2 = .ok (.int 6) :=
  evalConstC_sound F exDefs 2 exCache (exCache_consistent F) 2 [] 2 _ rfl
example (F : FloatOps) : evalConstC F exDefs exCache 3 [] 2 = .ok (.int 6) :=
  evalConstC_complete F exDefs 2 exCache (exCache_consistent F) 3 [] 2 _ rfl

end TruthModel.C11
