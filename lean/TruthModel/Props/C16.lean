import TruthModel.Props.C16Instr
import TruthModel.Props.C16Files
import TruthModel.Props.C16Anm
import TruthModel.Props.C16AnmAmpl
import TruthModel.Props.C16Ecl10
/-
C16 — any binary input ends in success or a diagnostic, never a crash.
-/
