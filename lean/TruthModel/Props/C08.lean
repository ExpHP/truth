import TruthModel.Lemmas.FmtStmtParse
import TruthModel.Lemmas.FmtStmtLayout
/-
C08 — printed scripts parse back to the same script: the property as a statement (`printed_scripts_parse_back_full`,
`stmts_parse_back_full`), what is proved of it (`printed_scripts_parse_back_partial`, `stmts_parse_back_partial`,
the at-width and every-width theorems for statements and blocks), that it is false as stated
(`stmts_parse_back_full_false`), and concrete runs of printer, lexer and parser.
-/
namespace TruthModel.C08
open TruthModel TruthModel.Fmt TruthModel.FmtExpr

/-- The statement of C08 over an abstract script type: `print w` at every width is accepted by
`parse` and denotes the same script, and printing again reproduces the text. -/
def printed_scripts_parse_back_full {Script : Type} (print : Nat → Script → List Char)
    (parse : List Char → Option Script) (denote : Script → Script) : Prop :=
  ∀ (w : Nat) (x : Script), ∃ y, parse (print w x) = some y ∧ denote y = denote x ∧ print w y = print w x

/-- What is proved of `printed_scripts_parse_back_full` below the statements (for those see
`stmts_parse_back_partial`): integers in every format and strings; width only changes whitespace and
trailing commas; printed expression tokens parse back to the same tree and print the same again.
Missing: the item / meta grammar, float digits and the lexing of the joined text (`LexOK`), which are
searched / compared on the implementation; the property is false at the glue sites
(`unary_glue_minus`, `unary_glue_not`, `glue_sites_fail`). -/
theorem printed_scripts_parse_back_partial :
    (∀ f v, evalLiteral (printInt f v) = .int v) ∧
    (∀ s, lex (escapeString s) = ([.str (escapeString s)], .eof) ∧ parseStringLiteral (escapeString s) = .ok s) ∧
    (∀ w d, ess (renderPieces w d) = d.toks) ∧
    (∀ e, NoGlue e = true → parseExpr (printExpr e) = some (norm e)) ∧
    (∀ e, NoNegLit e = true → HintFree e = true → printExpr (norm e) = printExpr e) ∧
    (∀ w e, commaTok (ess (renderExprPieces w e)) = tokTexts (printExpr e)) :=
  ⟨int_print_parse, string_print_lex_parse, layout_tokens, expr_print_parse, expr_print_idempotent,
    expr_layout_printExpr⟩

open TruthModel.FmtStmt

/-- **C08, statements at every width** at which the formatter does not panic.  `tokTexts` keeps the text of a
token, not its class: that the written text lexes to these tokens (and, where an argument list is broken over lines, the
trailing comma that `ess` drops, which the parser then has to accept) is compared with the real lexer (`LexOK` for
expressions), not proved. -/
theorem stmt_print_parse_at_width (w : Nat) (s : Stmt) (hok : OKS s = true) (ps : List Piece)
    (h : renderStmtPieces w s = .ok ps) :
    ∃ toks, commaTok (ess ps) = tokTexts toks ∧ parseStmt toks = some (normS s) :=
  ⟨printStmt s, stmt_layout_tokens w s ps h, stmt_print_parse s hok⟩

theorem block_print_parse_at_width (w : Nat) (b : Block) (hok : OKB b = true) (ps : List Piece)
    (h : renderBlockPieces w b = .ok ps) :
    ∃ toks, commaTok (ess ps) = tokTexts toks ∧ parseBlock toks = some (normB b) :=
  ⟨printBlock b, block_layout_tokens w b ps h, block_print_parse b hok⟩

/-- **C08, statements at every width, unconditionally for statements whose labels hold no call**:
the formatter prints the statement at every width, and the tokens of that text parse back to it -/
theorem stmt_print_parse_every_width (w : Nat) (s : Stmt) (hok : OKS s = true) (hfl : FlatK s.kind = true) :
    ∃ ps toks, renderStmtPieces w s = .ok ps ∧ commaTok (ess ps) = tokTexts toks ∧ parseStmt toks = some (normS s) := by
  obtain ⟨ps, hps⟩ := stmt_renders w s hfl
  obtain ⟨toks, h⟩ := stmt_print_parse_at_width w s hok ps hps
  exact ⟨ps, toks, hps, h⟩

theorem block_print_parse_every_width (w : Nat) (b : Block) (hok : OKB b = true) (hfl : FlatB b = true) :
    ∃ ps toks, renderBlockPieces w b = .ok ps ∧ commaTok (ess ps) = tokTexts toks ∧ parseBlock toks = some (normB b) := by
  obtain ⟨ps, hps⟩ := block_renders w b hfl
  obtain ⟨toks, h⟩ := block_print_parse_at_width w b hok ps hps
  exact ⟨ps, toks, hps, h⟩

theorem parseStmtText_eq (s : List Char) :
    parseStmtText s = match lexF s with
      | (toks, .eof) => parseStmt toks
      | _ => none := by
  unfold parseStmtText; rw [lex_eq]; rfl

section stmtExamples
def sx : Expr := .var { sigil := none, name := .normal ['x'] }
def si (n : Int32) : Expr := .litInt n signedDec
def sCall : Expr := .call (.normal ['f']) .nil (.cons (si 1) (.cons (.binop sx .add (si 2)) .nil))
/-- a block with a call, a difficulty-labelled assignment to a register, every kind of label -/
def sBlock : Block :=
  .cons none (.expr sCall) (.cons (some ['E', 'N']) (.assign ⟨some .int, .reg 3⟩ .shl (.binop sx .mul (.litInt (-4) ⟨true, .hex⟩)))
    (.cons none (.label ['l', 'b', 'l']) (.cons none (.interrupt (si 1)) (.cons none (.interrupt (si 2))
      (.cons none (.absTime (-30)) (.cons none (.relTime (si 5)) .nil))))))
/-- `if (x == 0) {..} else unless (x) { goto L @ -5; } else { int a = 1,b; @g(x) async x; times(c = 3) { do { } while (x); } }` -/
def sStmt : Stmt :=
  ⟨none, .condChain .if_ (.binop sx .eq (si 0)) sBlock
    (.elif .unless sx (.cons none (.jump (.goto ['L'] (some (-5)))) .nil)
      (.els (.cons none (.decl .int [(⟨none, .normal ['a']⟩, some (si 1)), (⟨none, .normal ['b']⟩, none)])
        (.cons none (.callSub true (.id sx) ['g'] (.cons sx .nil))
          (.cons none (.times (some ⟨none, .normal ['c']⟩) (si 3) (.cons none (.doWhile .nil sx) .nil)) .nil)))))⟩

/-- `loop { f(1, (x + 2)); lbl: {"E"}: interrupt[1]: interrupt[2]: }` -/
def sSmall : Stmt :=
  ⟨none, .loop (.cons none (.expr sCall) (.cons none (.label ['l', 'b', 'l'])
    (.cons (some ['E']) (.interrupt (si 1)) (.cons none (.interrupt (si 2)) .nil))))⟩
def sIdem : Stmt := ⟨some ['H'], .condJump .unless (.binop sx .lt (si 3)) (.goto ['e', 'n', 'd'] none)⟩
theorem examples_ok : OKS sStmt = true ∧ OKS sSmall = true ∧ OKS sIdem = true := by decide +kernel
example : OKS sStmt = true ∧ IdemK sStmt.kind = false ∧ normS sStmt ≠ sStmt := ⟨examples_ok.1, by decide +kernel, by decide +kernel⟩
example : parseStmt (printStmt sStmt) = some (normS sStmt) := stmt_print_parse sStmt examples_ok.1
theorem sSmall_renders :
    renderStmt 1000 sSmall = .ok "loop {\n    f(1, (x + 2));\nlbl:\n    {\"E\"}:  \ninterrupt[1]:\ninterrupt[2]:\n}".toList ∧
    renderStmt 12 sSmall =
      .ok "loop {\n    f(\n        1,\n        (x + 2),\n    );\nlbl:\n    {\"E\"}:  \ninterrupt[1]:\ninterrupt[2]:\n}".toList := by
  repeat rw [String.toList_ofList]
  decide +kernel
example : OKS sSmall = true ∧
    renderStmt 1000 sSmall = .ok "loop {\n    f(1, (x + 2));\nlbl:\n    {\"E\"}:  \ninterrupt[1]:\ninterrupt[2]:\n}".toList ∧
    renderStmt 12 sSmall =
      .ok "loop {\n    f(\n        1,\n        (x + 2),\n    );\nlbl:\n    {\"E\"}:  \ninterrupt[1]:\ninterrupt[2]:\n}".toList :=
  ⟨examples_ok.2.1, sSmall_renders⟩
def parsesBackAt (w : Nat) (s : Stmt) : Bool :=
  match renderStmt w s with
  | .ok t => parseStmtText t == some (normS s)
  | _ => false
/-- at width 12 the argument list of `f(..)` is written one item per line; the text still parses back -/
example : parsesBackAt 12 sSmall = true ∧ parsesBackAt 1000 sSmall = true := by
  unfold parsesBackAt
  rw [sSmall_renders.1, sSmall_renders.2]
  repeat rw [String.toList_ofList]
  simp only [parseStmtText_eq]
  decide +kernel
example : OKS sIdem = true ∧ IdemK sIdem.kind = true ∧ printStmt (normS sIdem) = printStmt sIdem :=
  ⟨examples_ok.2.2, by decide +kernel⟩

/-- `else` binds to the chain whose block was just closed; a second `else` is rejected; a body must be a block -/
example : parseStmtText "if (a) { if (b) { } else { } }".toList ≠ parseStmtText "if (a) { if (b) { } } else { }".toList ∧
    parseStmtText "if (a) { } else { } else { }".toList = none ∧
    parseStmtText "if (a) if (b) { } else { }".toList = none ∧
    parseStmtText "x = a : b;".toList ≠ none ∧ parseStmtText "a : b;".toList = none ∧
    parseStmtText "-10:".toList = some ⟨none, .absTime (-10)⟩ ∧ parseStmtText "+-10:".toList ≠ none ∧
    parseStmtText "{\"E\"}: lbl:".toList = none ∧ parseStmtText "int(x);".toList ≠ none ∧
    parseStmtText "f() async;".toList = some ⟨none, .callSub true .plain ['f'] .nil⟩ := by
  repeat rw [String.toList_ofList]
  simp only [parseStmtText_eq]
  decide +kernel
end stmtExamples

/-- **The glue site of the statement level** (known finding "plus-before-plus"): a relative time
label whose delta begins with `++` is outside `OKS`; the tokens that were written would parse, but
the text `+++x:` is lexed `++` `+` `x` `:` and rejected. -/
theorem rel_label_plus_glue :
    let s : Stmt := ⟨none, .relTime (.xcrement true true { sigil := none, name := .normal ['x'] })⟩
    OKS s = false ∧ renderStmt 100 s = .ok "+++x:\n".toList ∧ parseStmtText "+++x:\n".toList = none ∧
      parseStmt (printStmt s) = some s := by
  repeat rw [String.toList_ofList]
  simp only [parseStmtText_eq]
  decide +kernel

/-- **The label assertion** (known finding "Detected line break in label"): an interrupt label
whose expression holds a call that does not fit the width makes the formatter panic; at a larger
width the same statement is printed. -/
theorem label_break_panics :
    let s : Stmt := ⟨none, .interrupt sCall⟩
    renderStmt 8 s = .panic labelPanic ∧ renderStmt 80 s = .ok "\ninterrupt[f(1, (x + 2))]:\n".toList := by
  rw [String.toList_ofList]
  decide +kernel

example : OKS sStmt = true ∧ FlatK sStmt.kind = true ∧ FlatK (Kind.interrupt sCall) = false :=
  ⟨examples_ok.1, by decide +kernel, by decide +kernel⟩

/-- C08 for statements: at every width the printed text parses to a statement that denotes the
same statement and prints the same again (`printed_scripts_parse_back_full` with `renderStmt` for `print`, `normS`
for `denote`, and the formatter's panic as a failure). -/
def stmts_parse_back_full : Prop :=
  ∀ (w : Nat) (s : Stmt), ∃ text s', renderStmt w s = .ok text ∧ parseStmtText text = some s' ∧ normS s' = normS s ∧
    renderStmt w s' = .ok text

/-- it is false as stated: `+ ++x:` prints text that does not parse -/
theorem stmts_parse_back_full_false : ¬ stmts_parse_back_full := by
  intro h
  obtain ⟨text, s', h1, h2, _⟩ := h 100 ⟨none, .relTime (.xcrement true true { sigil := none, name := .normal ['x'] })⟩
  obtain ⟨_, hr, hp, _⟩ := rel_label_plus_glue
  cases hr.symm.trans h1
  cases hp.symm.trans h2

/-- What is proved of `stmts_parse_back_full`: on the token level, for the statements / blocks of
`OKS` / `OKB`, at every width at which the formatter does not panic, the written tokens parse back
to the same statement; printing again gives the same tokens inside `IdemK`.
Missing: that the joined text lexes to the written tokens (compared with the real lexer on every
generated statement; false at `+ ++x:` and at the glue sites of the expressions inside), items
(`const` declarations, functions, `script`, `meta`), float digits, comments. -/
theorem stmts_parse_back_partial :
    (∀ s, OKS s = true → parseStmt (printStmt s) = some (normS s)) ∧
    (∀ b, OKB b = true → parseBlock (printBlock b) = some (normB b)) ∧
    (∀ s, IdemK s.kind = true → printStmt (normS s) = printStmt s) ∧
    (∀ w s ps, renderStmtPieces w s = .ok ps → commaTok (ess ps) = tokTexts (printStmt s)) ∧
    (∀ w b ps, renderBlockPieces w b = .ok ps → commaTok (ess ps) = tokTexts (printBlock b)) :=
  ⟨stmt_print_parse, block_print_parse, stmt_print_idempotent, stmt_layout_tokens, block_layout_tokens⟩

end TruthModel.C08
