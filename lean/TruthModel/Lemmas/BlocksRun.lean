import TruthModel.Lemmas.BlocksStruct
/- C06: the executable interpreter refines `Big` (induction on the fuel); chains and loops are
stated with a continuation `ss`, as the rules of `Big` are. -/
namespace TruthModel.Blocks

def Res.toOut : Res → Option Out
  | .done st _ => some (.done st)
  | .brk st _ => some (.brk st)
  | _ => none

theorem andThen_out {r : Res} {f : St → Nat → Res} {o : Out} (h : (r.andThen f).toOut = some o) :
    (∃ st1 it1, r = .brk st1 it1 ∧ o = .brk st1) ∨ ∃ st1 it1, r = .done st1 it1 ∧ (f st1 it1).toOut = some o := by
  cases r with
  | done st1 it1 => exact Or.inr ⟨_, _, rfl, h⟩
  | brk st1 it1 => cases h; exact Or.inl ⟨_, _, rfl, rfl⟩
  | _ => cases h

theorem loopThen_out {r : Res} {tE : Int} {f g : St → Nat → Res} {o : Out}
    (h : (r.loopThen tE f g).toOut = some o) :
    (∃ st1 it1, r = .done st1 it1 ∧ (f st1 it1).toOut = some o) ∨
    (∃ st1 it1, r = .brk st1 it1 ∧ (g (st1.setTime tE) it1).toOut = some o) := by
  cases r with
  | done st1 it1 => exact Or.inl ⟨_, _, rfl, h⟩
  | brk st1 it1 => exact Or.inr ⟨_, _, rfl, h⟩
  | _ => cases h

/-! `runIter` never returns `brk`: a `break` of the body ends the loop (`loopThen`); hence `False` in `SndI`. -/

def SndL (m : Mode) (max fuel : Nat) : Prop := ∀ lt ss st it o, (runL m max fuel lt ss st it).toOut = some o → Big m (.seq lt ss) st o
def SndB (m : Mode) (max fuel : Nat) : Prop := ∀ lt b st it o, (runB m max fuel lt b st it).toOut = some o → Big m (.blk lt b) st o
def SndC (m : Mode) (max fuel : Nat) : Prop := ∀ lt ch st it o, (runC m max fuel lt ch st it).toOut = some o →
  match o with
  | .done st1 => ∀ ss r, Big m (.seq (endC lt ch) ss) st1 r → Big m (.chain lt ch ss) st r
  | .brk st1 => ∀ ss, Big m (.chain lt ch ss) st (.brk st1)
def SndI (m : Mode) (max fuel : Nat) : Prop := ∀ lt s k st it o, s.isLoop = true → (runIter m max fuel lt s k st it).toOut = some o →
  match o with
  | .done st1 => ∀ ss r, Big m (.seq (endL lt s.body) ss) st1 r → Big m (.iter lt s k ss) st r
  | .brk _ => False

theorem sndB_succ {m : Mode} {max fuel : Nat} (hL : SndL m max fuel) : SndB m max (fuel + 1) := by
  intro lt b st it o h
  rw [runB] at h
  by_cases hlim : it ≥ max
  · rw [if_pos hlim] at h; cases h
  rw [if_neg hlim] at h
  cases hw : wait lt st with
  | none => simp only [hw] at h; cases h
  | some st0 =>
    simp only [hw] at h
    rcases andThen_out h with ⟨st1, it1, hr, rfl⟩ | ⟨st1, it1, hr, h2⟩
    · exact Big.blkBrk lt b st st0 st1 hw (hL lt b st0 _ _ (by rw [hr]; rfl))
    · by_cases hlim2 : it1 ≥ max
      · rw [if_pos hlim2] at h2; cases h2
      rw [if_neg hlim2] at h2
      cases hw2 : wait (endL lt b) st1 with
      | none => simp only [hw2] at h2; cases h2
      | some st2 =>
        simp only [hw2] at h2; cases h2
        exact Big.blk lt b st st0 st1 st2 hw (hL lt b st0 _ _ (by rw [hr]; rfl)) hw2

theorem sndC_succ {m : Mode} {max fuel : Nat} (hB : SndB m max fuel) (hC : SndC m max fuel) : SndC m max (fuel + 1) := by
  intro lt ch st it o h
  cases ch with
  | none =>
    simp only [runC, Res.toOut] at h
    cases h
    intro ss r hr
    exact Big.chainNone lt ss st r hr
  | els b =>
    simp only [runC] at h
    rcases andThen_out h with ⟨st1, it1, hr, rfl⟩ | ⟨st1, it1, hr, h2⟩
    · intro ss
      exact Big.chainElsBrk lt b ss st st1 (hB lt b _ _ _ (by rw [hr]; rfl))
    · simp [Res.toOut] at h2
      subst h2
      intro ss r hs
      exact Big.chainEls lt b ss st st1 r (hB lt b _ _ _ (by rw [hr]; rfl)) hs
  | elif isIf c thn rest =>
    simp only [runC] at h
    by_cases hc : c.evalB st.regs = isIf
    · rw [if_pos hc] at h
      rcases andThen_out h with ⟨st1, it1, hr, rfl⟩ | ⟨st1, it1, hr, h2⟩
      · intro ss
        exact Big.chainTBrk lt isIf c thn rest ss st st1 hc (hB lt thn _ _ _ (by rw [hr]; rfl))
      · simp [Res.toOut] at h2
        subst h2
        intro ss r hs
        exact Big.chainT lt isIf c thn rest ss st st1 r hc (hB lt thn _ _ _ (by rw [hr]; rfl)) hs
    · rw [if_neg hc] at h
      have := hC (endL lt thn) rest st it o h
      cases o with
      | done st1 =>
        intro ss r hs
        exact Big.chainF lt isIf c thn rest ss st r hc (this ss r hs)
      | brk st1 =>
        intro ss
        exact Big.chainF lt isIf c thn rest ss st _ hc (this ss)

theorem sndI_succ {m : Mode} {max fuel : Nat} (hB : SndB m max fuel) (hI : SndI m max fuel) : SndI m max (fuel + 1) := by
  intro lt s k st it o hl h
  rw [runIter] at h
  rcases loopThen_out h with ⟨st1, it1, hr, h2⟩ | ⟨st1, it1, hr, h2⟩
  · have hb := hB lt s.body st it _ (by rw [hr]; rfl)
    -- `again o (rule)`: one more iteration (`hI`), entered by `rule`
    have again : ∀ {s' : Stmt} {k' : Int32} {st' : St} (o : Out), s'.isLoop = true →
        (runIter m max fuel lt s' k' st' it1).toOut = some o →
        (∀ ss r, Big m (.iter lt s' k' ss) st' r → Big m (.again lt s k ss) st1 r) → s.body = s'.body →
        match o with
        | .done st2 => ∀ ss r, Big m (.seq (endL lt s.body) ss) st2 r → Big m (.iter lt s k ss) st r
        | .brk _ => False := by
      intro s' k' st' o hl' h' rule hbody
      have := hI lt s' k' st' it1 o hl' h'
      cases o with
      | done st2 => intro ss r hs; exact Big.iter lt s k ss st st1 r hb (rule ss r (this ss r (hbody ▸ hs)))
      | brk _ => exact this
    cases s, hl using Stmt.loopCases with
    | loop b => exact again o rfl h2 (fun ss r => Big.againLoop lt b k ss st1 r) rfl
    | doWhile c b =>
      simp only [] at h2
      by_cases hc : c.evalB st1.regs = true
      · rw [if_pos hc] at h2
        exact again o rfl h2 (fun ss r => Big.againDoT lt c b k ss st1 r hc) rfl
      · rw [if_neg hc] at h2; cases h2
        intro ss r hs
        exact Big.iter lt _ k ss st st1 r hb (Big.againDoF lt c b k ss st1 r (Bool.eq_false_iff.2 hc) hs)
    | while_ c b =>
      simp only [] at h2
      by_cases hc : c.evalB st1.regs = true
      · rw [if_pos hc] at h2
        exact again o rfl h2 (fun ss r => Big.againWhT lt c b k ss st1 r hc) rfl
      · rw [if_neg hc] at h2; cases h2
        intro ss r hs
        exact Big.iter lt _ k ss st st1 r hb (Big.againWhF lt c b k ss st1 r (Bool.eq_false_iff.2 hc) hs)
    | timesN count b =>
      simp only [] at h2
      by_cases hz : k - 1 = 0
      · rw [if_pos hz] at h2; cases h2
        intro ss r hs
        exact Big.iter lt _ k ss st st1 r hb (Big.againTimesNEnd lt count b k ss st1 r hz hs)
      · rw [if_neg hz] at h2
        exact again o rfl h2 (fun ss r => Big.againTimesN lt count b k ss st1 r hz) rfl
    | timesS x count b =>
      simp only [] at h2
      by_cases hmin : st1.regs x = Int32.minValue
      · rw [if_pos hmin] at h2; cases h2
      rw [if_neg hmin] at h2
      by_cases hz : st1.regs x - 1 = 0
      · rw [if_pos hz] at h2; cases h2
        intro ss r hs
        exact Big.iter lt _ k ss st st1 r hb (Big.againTimesSEnd lt x count b k ss st1 r hmin hz hs)
      rw [if_neg hz] at h2
      by_cases hg : m = some .gt ∧ ¬ 0 < st1.regs x - 1
      · rw [if_pos hg] at h2; cases h2
      rw [if_neg hg] at h2
      exact again o rfl h2 (fun ss r => Big.againTimesS lt x count b k ss st1 r hmin hz
        (fun hm => Classical.not_not.1 fun h' => hg ⟨hm, h'⟩)) rfl
  · cases h2
    intro ss r hs
    exact Big.iterBrk lt s k ss st st1 r (hB lt s.body st it _ (by rw [hr]; rfl)) hs

theorem sndL_succ {m : Mode} {max fuel : Nat} (hL : SndL m max fuel) (hB : SndB m max fuel) (hC : SndC m max fuel) (hI : SndI m max fuel) :
    SndL m max (fuel + 1) := by
  intro lt ss st it o h
  cases ss with
  | nil => simp only [runL, Res.toOut] at h; cases h; exact Big.nil lt st
  | cons s ss =>
    rw [runL] at h
    by_cases hlim : it ≥ max
    · rw [if_pos hlim] at h; cases h
    rw [if_neg hlim] at h
    cases hw : wait (stmtTime lt s) st with
    | none => simp only [hw] at h; cases h
    | some st0 =>
      simp only [hw] at h
      -- a loop statement whose first iteration starts in `st'` with hidden counter `k'`
      have enter : ∀ (s' : Stmt) (k' : Int32) (st' : St), s'.isLoop = true →
          ((runIter m max fuel lt s' k' st' (it + 1)).andThen fun st1 it =>
            runL m max fuel (endL lt s'.body) ss st1 it).toOut = some o →
          Big m (.iter lt s' k' ss) st' o := by
        intro s' k' st' hl h
        rcases andThen_out h with ⟨st1, it1, hr, rfl⟩ | ⟨st1, it1, hr, h2⟩
        · exact (hI lt s' k' st' _ (.brk st1) hl (by rw [hr]; rfl)).elim
        · exact hI lt s' k' st' _ (.done st1) hl (by rw [hr]; rfl) ss o (hL _ ss _ _ o h2)
      cases s with
      | call op args | assign r e | tabs t | trel d => exact Big.simple lt _ ss st st0 _ o hw rfl (hL _ ss _ _ o h)
      | brk => cases h; exact Big.brk lt ss st st0 hw
      | cbrk isIf c =>
        simp only [] at h
        by_cases hc : c.evalB st0.regs = isIf
        · rw [if_pos hc] at h; cases h; exact Big.cbrkT lt isIf c ss st st0 hw hc
        · rw [if_neg hc] at h; exact Big.cbrkF lt isIf c ss st st0 o hw hc (hL _ ss _ _ o h)
      | block b =>
        rcases andThen_out h with ⟨st1, it1, hr, rfl⟩ | ⟨st1, it1, hr, h2⟩
        · exact Big.blockBrk lt b ss st st0 st1 hw (hB lt b st0 _ _ (by rw [hr]; rfl))
        · exact Big.block lt b ss st st0 st1 o hw (hB lt b st0 _ _ (by rw [hr]; rfl)) (hL _ ss _ _ o h2)
      | cond ch =>
        rcases andThen_out h with ⟨st1, it1, hr, rfl⟩ | ⟨st1, it1, hr, h2⟩
        · exact Big.cond lt ch ss st st0 _ hw (hC lt ch st0 _ (.brk st1) (by rw [hr]; rfl) ss)
        · exact Big.cond lt ch ss st st0 _ hw (hC lt ch st0 _ (.done st1) (by rw [hr]; rfl) ss o (hL _ ss _ _ o h2))
      | loop b => exact Big.loop lt b ss st st0 o hw (enter (.loop b) 0 st0 rfl h)
      | doWhile c b => exact Big.doWhile lt c b ss st st0 o hw (enter (.doWhile c b) 0 st0 rfl h)
      | while_ c b =>
        simp only [] at h
        by_cases hc : c.evalB st0.regs = true
        · rw [if_pos hc] at h
          exact Big.whileT lt c b ss st st0 o hw hc (enter (.while_ c b) 0 st0 rfl h)
        · rw [if_neg hc] at h
          exact Big.whileF lt c b ss st st0 o hw (Bool.eq_false_iff.2 hc) (hL _ ss _ _ o h)
      | times clob count b =>
        cases clob with
        | none =>
          simp only [] at h
          by_cases hg : count.eval st0.regs < 0 ∧ m ≠ none
          · rw [if_pos hg] at h; cases h
          rw [if_neg hg] at h
          by_cases hn : count.eval st0.regs ≤ 0
          · rw [if_pos hn] at h
            by_cases hz : count.eval st0.regs = 0
            · exact Big.timesZ lt count b ss st st0 o hw hz (hL _ ss _ _ o h)
            · have hneg := Int32.lt_of_le_of_ne hn hz
              exact Big.timesNeg lt count b ss st st0 o (Classical.not_not.1 fun h' => hg ⟨hneg, h'⟩) hw hneg
                (hL _ ss _ _ o h)
          · rw [if_neg hn] at h
            exact Big.timesP lt count b ss st st0 o hw (Int32.not_le.1 hn) (enter (.times none count b) _ _ rfl h)
        | some x =>
          simp only [] at h
          by_cases hz : count.eval st0.regs = 0
          · rw [if_pos hz] at h
            exact Big.timesSZ lt x count b ss st st0 o hw hz (hL _ ss _ _ o h)
          · rw [if_neg hz] at h
            exact Big.timesSP lt x count b ss st st0 o hw hz (enter (.times (some x) count b) _ _ rfl h)

theorem snd_all (m : Mode) (max fuel : Nat) : SndL m max fuel ∧ SndB m max fuel ∧ SndC m max fuel ∧ SndI m max fuel := by
  induction fuel with
  | zero =>
    refine ⟨?_, ?_, ?_, ?_⟩
    · intro lt ss st it o h; rw [runL] at h; cases h
    · intro lt b st it o h; rw [runB] at h; cases h
    · intro lt ch st it o h; rw [runC] at h; cases h
    · intro lt s k st it o _ h; rw [runIter] at h; cases h
  | succ fuel ih =>
    obtain ⟨hL, hB, hC, hI⟩ := ih
    exact ⟨sndL_succ hL hB hC hI, sndB_succ hL, sndC_succ hB hC, sndI_succ hB hI⟩

/-- **The executable interpreter refines the relation**: whatever `runSM m` (for `m = none` the function `runS` compared
with `AstVm` on every run) computes as a normal result is a derivation of `Big m`. -/
theorem runSM_sound (m : Mode) (max : Nat) (prog : List Stmt) (regs : Nat → Int32) (st' : St) (it' : Nat)
    (h : runSM m max prog regs = .done st' it') : Big m (.blk 0 prog) (St.init regs) (.done st') :=
  (snd_all m max _).2.1 0 prog _ _ _ (by unfold runSM at h; rw [h]; rfl)

end TruthModel.Blocks
