import TruthModel.Model.Diff
import TruthModel.Model.DiffRaise
/-
Difficulty masks bit by bit (`setBit`, `bitsOf`, `rangeMask`), the partition of the difficulties into the runs
between consecutive stops (`ranges`, `covers`), and contiguous masks (C14).  The last block (contiguous masks:
`firstBit`, `contiguousBits`, `diffPart` of `Model/DiffRaise`) serves the decompile direction only and is why this
file imports that model.
-/
namespace TruthModel.C14
open TruthModel TruthModel.Diff TruthModel.DiffRaise

theorem getLsbD_setBit (m : Mask) (i : Nat) (on : Bool) (j : Nat) (hj : j < 8) :
    (setBit m i on).getLsbD j = if j = i then on else m.getLsbD j := by
  have h1 : (1#8 <<< i).getLsbD j = decide (j = i) := by
    rw [Bool.eq_iff_iff]
    simp only [BitVec.getLsbD_shiftLeft, BitVec.getLsbD_one, Bool.and_eq_true, Bool.not_eq_true', decide_eq_true_eq,
      decide_eq_false_iff_not]
    exact ⟨fun ⟨⟨_, hni⟩, _, h0⟩ => Nat.le_antisymm (Nat.sub_eq_zero_iff_le.mp h0) (Nat.not_lt.mp hni),
      fun h => h ▸ ⟨⟨hj, Nat.lt_irrefl _⟩, by decide, Nat.sub_self _⟩⟩
  unfold setBit
  cases on
  · rw [if_neg Bool.false_ne_true, BitVec.getLsbD_and, BitVec.getLsbD_not, h1, decide_eq_true hj]
    by_cases h : j = i
    · rw [if_pos h, decide_eq_true h]; exact Bool.and_false _
    · rw [if_neg h, decide_eq_false h]; exact Bool.and_true _
  · rw [if_pos rfl, BitVec.getLsbD_or, h1]
    by_cases h : j = i
    · rw [if_pos h, decide_eq_true h]; exact Bool.or_true _
    · rw [if_neg h, decide_eq_false h]; exact Bool.or_false _

theorem getLsbD_foldl_setBit (L : List Nat) (on : Bool) (m : Mask) (j : Nat) (hj : j < 8) :
    (L.foldl (fun m i => setBit m i on) m).getLsbD j = if j ∈ L then on else m.getLsbD j := by
  induction L generalizing m with
  | nil => rfl
  | cons i L ih =>
    rw [List.foldl_cons, ih, getLsbD_setBit _ _ _ _ hj]
    by_cases h1 : j ∈ L
    · rw [if_pos h1, if_pos (List.mem_cons_of_mem _ h1)]
    · by_cases h2 : j = i
      · rw [if_neg h1, if_pos h2, if_pos (h2 ▸ List.mem_cons_self ..)]
      · rw [if_neg h1, if_neg h2, if_neg (fun h => (List.mem_cons.mp h).elim h2 h1)]

theorem mem_bitsOf (m : Mask) (i : Nat) : i ∈ bitsOf m ↔ i < 8 ∧ m.getLsbD i = true := by
  simp [bitsOf]

theorem bitsOf_lt (m : Mask) : ∀ i ∈ bitsOf m, i < 8 := fun i hi => ((mem_bitsOf m i).mp hi).1

theorem bitsOf_sorted (m : Mask) : (bitsOf m).Pairwise (· < ·) := by
  unfold bitsOf
  exact List.Pairwise.filter _ (by decide)

theorem bitsOf_zero (m : Mask) (h : m.getLsbD 0 = true) : ∃ t, bitsOf m = 0 :: t :=
  ⟨(List.range' 1 7).filter fun i => m.getLsbD i, by
    unfold bitsOf
    rw [show List.range 8 = 0 :: List.range' 1 7 from rfl, List.filter_cons, h]; rfl⟩

theorem ff_get : ∀ j, j < 8 → (0xFF#8 : Mask).getLsbD j = true := by decide

theorem foldl_setBit_bitsOf (x out : Mask) (on : Bool) :
    (bitsOf x).foldl (fun m i => setBit m i on) out = if on then out ||| x else out &&& ~~~x := by
  apply BitVec.eq_of_getLsbD_eq
  intro j hj
  rw [getLsbD_foldl_setBit _ _ _ _ hj]
  cases on <;>
    simp only [mem_bitsOf, hj, true_and, BitVec.getLsbD_or, BitVec.getLsbD_and, BitVec.getLsbD_not, decide_true,
      Bool.true_and, Bool.false_eq_true, if_false, if_true] <;>
    cases x.getLsbD j <;> cases out.getLsbD j <;> rfl

theorem getLsbD_ofList (l : List Nat) (j : Nat) (hj : j < 8) :
    (l.foldl (fun m i => setBit m i true) 0#8).getLsbD j = decide (j ∈ l) := by
  rw [getLsbD_foldl_setBit _ _ _ _ hj, BitVec.getLsbD_zero]
  by_cases h : j ∈ l
  · rw [if_pos h, decide_eq_true h]
  · rw [if_neg h, decide_eq_false h]

theorem ofList_bitsOf (E : Mask) : (bitsOf E).foldl (fun m i => setBit m i true) 0#8 = E := by
  rw [foldl_setBit_bitsOf, if_pos rfl, BitVec.zero_or]

/-- `BitSet32` iteration returns the inserted difficulties, ascending -/
theorem bitsOf_ofList (l : List Nat) (hs : l.Pairwise (· < ·)) (h8 : ∀ x ∈ l, x < 8) :
    bitsOf (l.foldl (fun m i => setBit m i true) 0#8) = l := by
  refine List.Perm.eq_of_pairwise (fun _ _ _ _ h1 h2 => absurd h1 (Nat.lt_asymm h2)) (bitsOf_sorted _) hs
    ((List.perm_ext_iff_of_nodup ((bitsOf_sorted _).imp Nat.ne_of_lt) (hs.imp Nat.ne_of_lt)).mpr fun x => ?_)
  rw [mem_bitsOf]
  refine ⟨fun ⟨hx, hb⟩ => ?_, fun h => ⟨h8 x h, ?_⟩⟩
  · rwa [getLsbD_ofList _ _ hx, decide_eq_true_eq] at hb
  · rw [getLsbD_ofList _ _ (h8 x h), decide_eq_true h]

/-- the mask `((mask & diffBits) & cm) | (mask & auxBits)` that `elaborate_diff_switches` and `lower_assign_diff_switch`
give the copy for the case mask `cm`: on a difficulty bit it is `mask` narrowed by `cm` -/
theorem narrowed_get (d : Defs) (mask cm : Mask) (j : Nat) (hdiff : (diffBits d).getLsbD j = true) :
    (((mask &&& diffBits d) &&& cm) ||| (mask &&& auxBits d)).getLsbD j = (mask.getLsbD j && cm.getLsbD j) := by
  have hj : j < 8 := Nat.lt_of_not_le fun h => by rw [BitVec.getLsbD_of_ge _ _ h] at hdiff; cases hdiff
  have haux : (auxBits d).getLsbD j = false := by
    simpa only [diffBits, auxBits, BitVec.getLsbD_not, hj, decide_true, Bool.true_and, Bool.not_eq_true'] using hdiff
  rw [BitVec.getLsbD_or, BitVec.getLsbD_and, BitVec.getLsbD_and, BitVec.getLsbD_and, hdiff, haux, Bool.and_true,
    Bool.and_false, Bool.or_false]

theorem narrowed_aux (d : Defs) (mask cm : Mask) :
    (((mask &&& diffBits d) &&& cm) ||| (mask &&& auxBits d)) &&& auxBits d = mask &&& auxBits d := by
  apply BitVec.eq_of_getLsbD_eq
  intro i hi
  simp only [BitVec.getLsbD_and, BitVec.getLsbD_or, diffBits, auxBits, BitVec.getLsbD_not, hi, decide_true, Bool.true_and]
  cases mask.getLsbD i <;> cases cm.getLsbD i <;> cases d.defaultOn.getLsbD i <;> rfl

theorem stops_sorted (m : Mask) (n : Nat) (h : ∀ s ∈ bitsOf m, s < n) :
    (bitsOf m ++ [n]).Pairwise (· < ·) ∧ ∀ s ∈ bitsOf m ++ [n], s ≤ n :=
  ⟨List.pairwise_append.mpr ⟨bitsOf_sorted m, List.pairwise_singleton _ _, fun s hs _ ht => List.mem_singleton.mp ht ▸ h s hs⟩,
    fun s hs => (List.mem_append.mp hs).elim (fun hs => Nat.le_of_lt (h s hs)) fun hs => Nat.le_of_eq (List.mem_singleton.mp hs)⟩

def covers (r : Nat × Nat) (d : Nat) : Bool := decide (r.1 ≤ d) && decide (d < r.2)

theorem covers_iff (r : Nat × Nat) (d : Nat) : covers r d = true ↔ r.1 ≤ d ∧ d < r.2 := by
  rw [covers, Bool.and_eq_true, decide_eq_true_eq, decide_eq_true_eq]

theorem head_le_of_sorted {b s : Nat} {rest : List Nat} (hs : (b :: rest).Pairwise (· < ·)) (h : s ∈ b :: rest) : b ≤ s := by
  rcases List.mem_cons.mp h with e | e
  · exact Nat.le_of_eq e.symm
  · exact Nat.le_of_lt ((List.pairwise_cons.mp hs).1 s e)

theorem mem_ranges (l : List Nat) (r : Nat × Nat) (h : r ∈ ranges l) :
    r.1 ∈ l ∧ r.2 ∈ l ∧ (l.Pairwise (· < ·) → r.1 < r.2) := by
  induction l with
  | nil => cases h
  | cons a l ih =>
    cases l with
    | nil => cases h
    | cons b rest =>
      rcases List.mem_cons.mp h with rfl | h
      · exact ⟨List.mem_cons_self .., List.mem_cons_of_mem _ (List.mem_cons_self ..),
          fun hs => (List.pairwise_cons.mp hs).1 b (List.mem_cons_self ..)⟩
      · exact ⟨List.mem_cons_of_mem _ (ih h).1, List.mem_cons_of_mem _ (ih h).2.1,
          fun hs => (ih h).2.2 (List.pairwise_cons.mp hs).2⟩

theorem ranges_cover (stops : List Nat) (hs : stops.Pairwise (· < ·)) (d : Nat)
    (h0 : ∀ s0, stops.head? = some s0 → s0 ≤ d) (h1 : ∃ s ∈ stops, d < s) :
    ∃ a b, (ranges stops).filter (covers · d) = [(a, b)] ∧ a ≤ d ∧ d < b ∧ a ∈ stops ∧
      ∀ s ∈ stops, s ≤ d → s ≤ a := by
  induction stops with
  | nil => obtain ⟨s, hs1, _⟩ := h1; cases hs1
  | cons a l ih =>
    have ha := h0 a rfl
    cases l with
    | nil =>
      obtain ⟨s, hs1, hs2⟩ := h1
      cases List.mem_singleton.mp hs1
      exact absurd ha (Nat.not_le.mpr hs2)
    | cons b rest =>
      have hp := List.pairwise_cons.mp hs
      rw [ranges, List.filter_cons]
      by_cases hdb : d < b
      · -- `d` lies in the first range, and below every later stop
        refine ⟨a, b, ?_, ha, hdb, List.mem_cons_self .., fun s hs' hsd => ?_⟩
        · rw [if_pos ((covers_iff (a, b) d).mpr ⟨ha, hdb⟩),
            List.filter_eq_nil_iff.mpr fun r hr hc => Nat.not_le.mpr
              (Nat.lt_of_lt_of_le hdb (head_le_of_sorted hp.2 (mem_ranges _ _ hr).1)) ((covers_iff r d).mp hc).1]
        · rcases List.mem_cons.mp hs' with h | h
          · exact Nat.le_of_eq h
          · exact absurd (Nat.le_trans (head_le_of_sorted hp.2 h) hsd) (Nat.not_le.mpr hdb)
      · have hbd : b ≤ d := Nat.le_of_not_lt hdb
        obtain ⟨a', b', hf, h1', h2', h3', h4'⟩ := ih hp.2 (fun s0 hs0 => by cases hs0; exact hbd)
          (by
            obtain ⟨s, hs1, hs2⟩ := h1
            rcases List.mem_cons.mp hs1 with h | h
            · exact absurd (h ▸ hs2) (Nat.not_lt.mpr ha)
            · exact ⟨s, h, hs2⟩)
        refine ⟨a', b', ?_, h1', h2', List.mem_cons_of_mem _ h3', fun s hs' hsd => ?_⟩
        · rw [if_neg fun h => hdb ((covers_iff (a, b) d).mp h).2]
          exact hf
        · rcases List.mem_cons.mp hs' with h | h
          · exact h ▸ Nat.le_trans (Nat.le_of_lt (hp.1 b (List.mem_cons_self ..))) (h4' b (List.mem_cons_self ..) hbd)
          · exact h4' s h hsd

theorem ranges_fst : ∀ (l : List Nat) (e : Nat), (ranges (l ++ [e])).map (·.1) = l := by
  intro l e
  induction l with
  | nil => rfl
  | cons a l ih =>
    cases l with
    | nil => rfl
    | cons b l => exact congrArg (a :: ·) ih

theorem rangeMask_get (a b j : Nat) (hj : j < 8) : (rangeMask a b).getLsbD j = (decide (a ≤ j) && decide (j < b)) := by
  have hmem : j ∈ List.range' a (b - a) ↔ a ≤ j ∧ j < b := by
    rw [List.mem_range'_1]
    refine and_congr_right fun haj => ?_
    rcases Nat.le_total a b with hab | hab
    · rw [Nat.add_sub_cancel' hab]
    · rw [Nat.sub_eq_zero_of_le hab]
      exact ⟨fun h => absurd haj (Nat.not_le.mpr h), fun h => absurd (Nat.le_trans hab haj) (Nat.not_le.mpr h)⟩
  unfold rangeMask
  rw [getLsbD_ofList _ _ hj, ← Bool.decide_and]
  exact decide_eq_decide.mpr hmem

theorem rangeMask_ne_zero (s e : Nat) (h : s < e) (h8 : e ≤ 8) : rangeMask s e ≠ 0#8 := by
  intro h0
  have := congrArg (·.getLsbD s) h0
  rw [rangeMask_get s e s (Nat.lt_of_lt_of_le h h8), BitVec.getLsbD_zero, decide_eq_true (Nat.le_refl s),
    decide_eq_true h] at this
  cases this

theorem diffPart_get (d : Defs) (m : Mask) (j : Nat) :
    (diffPart d m).getLsbD j = (m.getLsbD j && !(auxBits d).getLsbD j) := by
  simp only [diffPart, BitVec.getLsbD_xor, BitVec.getLsbD_and]
  cases m.getLsbD j <;> cases (auxBits d).getLsbD j <;> rfl

/-- the `assert!(!mask.is_empty())` of `bitmask_bits_are_contiguous` cannot fire behind `first() == Some(..)` -/
theorem firstBit_some_nonempty (m : Mask) (s : Nat) (h : firstBit m = some s) : bitsOf m ≠ [] := by
  intro h0; simp [firstBit, h0] at h

theorem sorted_run : ∀ (L : List Nat) (f l : Nat), L.Pairwise (· < ·) → L.head? = some f → L.getLast? = some l →
    L.length + f ≤ l + 1 ∧ (L.length + f = l + 1 → L = List.range' f L.length) := by
  intro L
  induction L with
  | nil => exact fun _ _ _ hf _ => nomatch hf
  | cons x L ih =>
    intro f l hs hf hl
    cases hf
    cases L with
    | nil => cases hl; exact ⟨Nat.le_of_eq (Nat.add_comm 1 x), fun _ => rfl⟩
    | cons y rest =>
      have hp := List.pairwise_cons.mp hs
      have hxy : x < y := hp.1 y (List.mem_cons_self ..)
      obtain ⟨h1, h2⟩ := ih y l hp.2 rfl ((List.getLast?_cons_cons).symm.trans hl)
      simp only [List.length_cons] at h1 h2 ⊢
      -- `x < y`, so one more entry in front needs one more number below
      have hxy' : rest.length + 1 + (x + 1) ≤ rest.length + 1 + y := Nat.add_le_add_left hxy _
      rw [Nat.add_assoc (rest.length + 1) 1 x, Nat.add_comm 1 x]
      refine ⟨Nat.le_trans hxy' h1, fun h => ?_⟩
      cases Nat.add_left_cancel (Nat.le_antisymm (Nat.le_trans h1 (Nat.le_of_eq h.symm)) hxy')
      rw [List.range'_succ, ← h2 h]

theorem contiguous_is_range (m : Mask) (s : Nat) (hf : firstBit m = some s) (hc : contiguousBits m = true) :
    m = rangeMask s (s + (bitsOf m).length) ∧ 0 < (bitsOf m).length ∧ s + (bitsOf m).length ≤ 8 := by
  unfold firstBit at hf
  unfold contiguousBits at hc
  rw [hf] at hc
  cases hl : (bitsOf m).getLast? with
  | none => rw [hl] at hc; cases hc
  | some l =>
    rw [hl] at hc
    have hlen : l + 1 - s = (bitsOf m).length := beq_iff_eq.mp hc
    have hl8 : l < 8 := bitsOf_lt m l (List.mem_of_getLast? hl)
    have hpos : 0 < (bitsOf m).length := List.length_pos_iff.mpr (firstBit_some_nonempty m s hf)
    -- the subtraction of `contiguousBits` is exact: the list is not empty
    have hsum : (bitsOf m).length + s = l + 1 :=
      hlen ▸ Nat.sub_add_cancel (Nat.le_of_lt (Nat.lt_of_sub_pos (hlen ▸ hpos)))
    have hrun := (sorted_run _ s l (bitsOf_sorted m) hf hl).2 hsum
    refine ⟨?_, hpos, by rw [Nat.add_comm, hsum]; exact hl8⟩
    unfold rangeMask
    rw [Nat.add_sub_cancel_left, ← hrun, ofList_bitsOf]

/-- conversely the mask of each of the 36 ranges is contiguous -/
theorem range_fin : ∀ a, a < 8 → ∀ b, b < 9 → a < b →
    firstBit (rangeMask a b) = some a ∧ contiguousBits (rangeMask a b) = true ∧ (bitsOf (rangeMask a b)).length = b - a := by
  decide +kernel

end TruthModel.C14
