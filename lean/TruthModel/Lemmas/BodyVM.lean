import TruthModel.Model.BodySem
import TruthModel.Lemmas.LowerShape
/-
The timed target machine (`Model/BodySem.lean`, `stepT` / `execT`) inside the fragment of one source statement
(`execFrag_reachTn`, the timed version of `execFrag_reach` with the number of steps, which `Lemmas/BodySim.lean` uses;
`execFrag_reachT` is the same without the number).  Inside a program `pre ++ code@t ++ post` (every statement of
`code` stamped with the time `t`), if the labels of `code` are hygienic, carry the time `t`, and no jump with an explicit
time stays inside `code`, then whatever `execFrag` computes for `code` from the state "waited until `t`", the timed machine
computes from the state that has not waited yet: the first instruction waits, afterwards the script time stays `t`
(markers and labels never wait), calls logged on the way carry the `real_time` reached by that one wait.  This is
`execFrag_follows` for the timed machine: `nextT`, `jumpT`, `landT` are what it does at a step, a jump, a landing.
-/
namespace TruthModel.Lower
open TruthModel TruthModel.Regs

variable {F : FloatOps} {diff : Nat}

theorem VM.waitTo_of_le {s : VM} {t : Int} (h : t ≤ s.m.time) : s.waitTo t = s := by
  unfold VM.waitTo
  rw [if_neg (Int.not_lt.mpr h)]

theorem VM.waitTo_time_of_le {s : VM} {t : Int} (h : s.m.time ≤ t) : (s.waitTo t).m.time = t := by
  unfold VM.waitTo
  split
  · rfl
  · rename_i hn; exact Int.le_antisymm h (Int.not_lt.mp hn)

theorem VM.le_waitTo_time (s : VM) (t : Int) : t ≤ (s.waitTo t).m.time := by
  unfold VM.waitTo
  split
  · exact Int.le_refl _
  · rename_i hn; exact Int.not_lt.mp hn

theorem VM.waitTo_store (s : VM) (t : Int) : (s.waitTo t).m.store = s.m.store := by
  unfold VM.waitTo; split <;> rfl

theorem VM.waitTo_log (s : VM) (t : Int) : (s.waitTo t).m.log = s.m.log := by
  unfold VM.waitTo; split <;> rfl

theorem VM.waitTo_stamps (s : VM) (t : Int) : (s.waitTo t).stamps = s.stamps := by
  unfold VM.waitTo; split <;> rfl

theorem VM.waitTo_idem (s : VM) (t : Int) : (s.waitTo t).waitTo t = s.waitTo t :=
  VM.waitTo_of_le (VM.le_waitTo_time s t)

theorem VM.waitTo_waitTo (s : VM) {a b : Int} (h : a ≤ b) : (s.waitTo a).waitTo b = s.waitTo b := by
  unfold VM.waitTo
  by_cases h1 : s.m.time < a
  · have h2 : s.m.time < b := Int.lt_of_lt_of_le h1 h
    simp only [h1, h2, if_true]
    by_cases h3 : a < b
    · simp only [h3, if_true]
      congr 1
      rw [Int.add_assoc, Int.add_comm (a - s.m.time), ← Int.add_sub_assoc, Int.sub_add_cancel]
    · cases Int.le_antisymm h (Int.not_lt.mp h3)
      rw [if_neg h3]
  · simp only [h1, if_false]

theorem VM.waitTo_congr {a b : VM} (T : Int) (ht : a.m.time = b.m.time) (hr : a.real = b.real) :
    (a.waitTo T).m.time = (b.waitTo T).m.time ∧ (a.waitTo T).real = (b.waitTo T).real := by
  unfold VM.waitTo
  rw [ht]
  split
  · exact ⟨rfl, by rw [hr]⟩
  · exact ⟨ht, hr⟩

theorem VM.after_self (s : VM) : s.after s.m = s := by
  cases s; simp only [VM.after, Nat.sub_self, List.replicate_zero, List.append_nil]

theorem VM.after_m (s : VM) (m' : Machine) : (s.after m').m = m' := rfl
theorem VM.after_real (s : VM) (m' : Machine) : (s.after m').real = s.real := rfl

theorem VM.after_after (v : VM) {m1 m2 : Machine} (h1 : v.m.log.length ≤ m1.log.length) (h2 : m1.log.length ≤ m2.log.length) :
    (v.after m1).after m2 = v.after m2 := by
  have e : m1.log.length - v.m.log.length + (m2.log.length - m1.log.length) = m2.log.length - v.m.log.length :=
    (Nat.add_comm _ _).trans (Nat.sub_add_sub_cancel h2 h1)
  simp only [VM.after, List.append_assoc, List.replicate_append_replicate, e]

theorem stepJ_marker (F : FloatOps) (diff : Nat) (s : JM) {st : JStmt} (h : st.isMarker = true) :
    stepJ F diff s st = .ok (s, .next) := by
  cases st with
  | base b =>
    cases b with
    | instr i => cases h
    | _ => rfl
  | label _ _ => rfl
  | _ => cases h

theorem timedJumps_of_jumpOf {code : List JStmt} {st : JStmt} {l : Nat} {x : Int} (hst : st ∈ code)
    (h : jumpOf st = some (l, some x)) : (l, x) ∈ timedJumps code := by
  obtain ⟨a, b, rfl⟩ := List.append_of_mem hst
  rw [timedJumps_append]
  refine List.mem_append_right _ ?_
  cases st with
  | jmp | condJmp | cmpJmp | countJmp => cases h; exact List.mem_cons_self ..
  | _ => cases h

/-- `Reach` for the timed machine `stepT`; `ReachTn` also counts the steps, which the divergence theorem needs.  (In this
namespace the suffix `T` means the timed machine; in `C02.*` it means "with ternaries".) -/
inductive ReachT (F : FloatOps) (diff : Nat) (P : List (Int × JStmt)) : Nat → TVM → Nat → TVM → Prop
  | refl (pc : Nat) (s : TVM) : ReachT F diff P pc s pc s
  | step (pc : Nat) (s : TVM) (pc1 : Nat) (s1 : TVM) (pc2 : Nat) (s2 : TVM) :
      stepT F diff P pc s = .ok (some (pc1, s1)) → ReachT F diff P pc1 s1 pc2 s2 → ReachT F diff P pc s pc2 s2

inductive ReachTn (F : FloatOps) (diff : Nat) (P : List (Int × JStmt)) : Nat → Nat → TVM → Nat → TVM → Prop
  | refl (pc : Nat) (s : TVM) : ReachTn F diff P 0 pc s pc s
  | step (n pc : Nat) (s : TVM) (pc1 : Nat) (s1 : TVM) (pc2 : Nat) (s2 : TVM) :
      stepT F diff P pc s = .ok (some (pc1, s1)) → ReachTn F diff P n pc1 s1 pc2 s2 → ReachTn F diff P (n + 1) pc s pc2 s2

section timed
variable {P : List (Int × JStmt)} {n m pc pc' pc1 pc2 : Nat} {s s' s1 s2 u : TVM}

theorem ReachT.trans (h1 : ReachT F diff P pc s pc1 s1) (h2 : ReachT F diff P pc1 s1 pc2 s2) : ReachT F diff P pc s pc2 s2 := by
  induction h1 with
  | refl => exact h2
  | step pc s pa sa pb sb hs _ ih => exact .step pc s pa sa pc2 s2 hs (ih h2)

theorem execT_of_reachT (h : ReachT F diff P pc s P.length s') : ∃ fuel, execT F diff P fuel pc s = .ok s' := by
  generalize hn : P.length = n at h
  induction h with
  | refl pc s =>
    refine ⟨1, ?_⟩
    subst hn
    simp only [execT, stepT, List.getElem?_eq_none (Nat.le_refl _)]
  | step pc s pc1 s1 pc2 s2 hs _ ih =>
    obtain ⟨fuel, hf⟩ := ih hn
    exact ⟨fuel + 1, by simp only [execT, hs, hf]⟩

theorem ReachTn.toReachT (h : ReachTn F diff P n pc s pc' s') : ReachT F diff P pc s pc' s' := by
  induction h with
  | refl => exact .refl _ _
  | step n pc s pc1 s1 pc2 s2 hs _ ih => exact .step _ _ _ _ _ _ hs ih

theorem ReachTn.trans (h1 : ReachTn F diff P n pc s pc1 s1) (h2 : ReachTn F diff P m pc1 s1 pc2 s2) : ReachTn F diff P (n + m) pc s pc2 s2 := by
  induction h1 with
  | refl => rw [Nat.zero_add]; exact h2
  | step n pc s pa sa pb sb hs _ ih =>
    have := ih h2
    rw [Nat.add_right_comm n 1 m]
    exact .step _ _ _ _ _ _ _ hs this

theorem ReachTn.tail (h : ReachTn F diff P n pc s pc1 s1) (hs : stepT F diff P pc1 s1 = .ok (some (pc2, s2))) :
    ReachTn F diff P (n + 1) pc s pc2 s2 :=
  h.trans (.step _ _ _ _ _ _ _ hs (.refl _ _))

theorem execT_fuel_of_reachTn (h : ReachTn F diff P n pc s pc' s') : ∀ fuel, fuel ≤ n → execT F diff P fuel pc s = .panic "out of fuel" := by
  induction h with
  | refl pc s => intro fuel hf; cases Nat.le_zero.mp hf; rfl
  | step n pc s pc1 s1 pc2 s2 hs _ ih =>
    intro fuel hf
    cases fuel with
    | zero => rfl
    | succ fuel => simp only [execT, hs]; exact ih fuel (Nat.le_of_succ_le_succ hf)

theorem stepT_some {u' : TVM} (h : stepT F diff P pc u = .ok (some (pc', u'))) :
    ∃ t st v j1 f, P[pc]? = some (t, st) ∧ (if st.isMarker then u.vm else u.vm.waitTo t) = v ∧
      stepJ F diff ⟨v.m, u.cmp⟩ st = .ok (j1, f) ∧
      match f with
      | .next => pc' = pc + 1 ∧ u' = ⟨v.after j1.m, j1.cmp⟩
      | .jump l time => ∃ tl, findLabelJ (P.map (·.2)) l 0 = some (pc', tl) ∧
          u' = ⟨(v.after j1.m).setTime (time.getD tl), j1.cmp⟩ := by
  revert h
  fun_cases stepT F diff P pc u
  case case2 => intro h; cases h; exact ⟨_, _, _, _, .next, ‹_›, rfl, ‹_›, rfl, rfl⟩
  case case4 => intro h; cases h; exact ⟨_, _, _, _, .jump _ _, ‹_›, rfl, ‹_›, _, ‹_›, rfl⟩
  all_goals nofun

theorem stepT_none (h : stepT F diff P pc s = .ok none) : P[pc]? = none := by
  revert h
  fun_cases stepT F diff P pc s
  case case1 => intro _; assumption
  all_goals nofun

theorem stepT_next {t : Int} {st : JStmt} {v : VM} {j1 : JM} (hg : P[pc]? = some (t, st)) (hv : (if st.isMarker then u.vm else u.vm.waitTo t) = v)
    (hs : stepJ F diff ⟨v.m, u.cmp⟩ st = .ok (j1, .next)) :
    stepT F diff P pc u = .ok (some (pc + 1, ⟨v.after j1.m, j1.cmp⟩)) := by
  simp only [stepT, hg, hv, hs]

theorem stepT_jump {t : Int} {st : JStmt} {v : VM} {j1 : JM} {l : Nat} {time : Option Int} {i : Nat} {tl : Int} (hg : P[pc]? = some (t, st))
    (hv : (if st.isMarker then u.vm else u.vm.waitTo t) = v) (hs : stepJ F diff ⟨v.m, u.cmp⟩ st = .ok (j1, .jump l time))
    (hf : findLabelJ (P.map (·.2)) l 0 = some (i, tl)) :
    stepT F diff P pc u = .ok (some (i, ⟨(v.after j1.m).setTime (time.getD tl), j1.cmp⟩)) := by
  simp only [stepT, hg, hv, hs, hf]

end timed

theorem map_snd_stamped (t : Int) (code : List JStmt) : (code.map fun x => (t, x)).map (·.2) = code := by
  rw [List.map_map]; exact List.map_id' code

section reachT
variable (F : FloatOps) (diff : Nat) (pre : List (Int × JStmt)) (t : Int) (code : List JStmt) (P : List (Int × JStmt))
  (pc0 : Nat) (u0 : TVM)

/-- where the timed machine, started at `(pc0, u0)` in front of a fragment lowered at time `t`, is while `execFrag` stands
in front of the `n`-th statement of the fragment in state `j`: it has arrived there in a state that, once it has waited, is the
waited `u0` after `j` -/
def RunT (n : Nat) (j : JM) : Prop :=
  t ≤ j.m.time ∧ (u0.vm.waitTo t).m.log.length ≤ j.m.log.length ∧
    ∃ c u, ReachTn F diff P c pc0 u0 (pre.length + n) u ∧ u.cmp = j.cmp ∧ u.vm.waitTo t = (u0.vm.waitTo t).after j.m

/-- while `execFrag` looks for the label `l`: the machine arrives wherever the program defines the label, after at least one
step -/
def SeekT (j : JM) (l : Nat) (time : Option Int) : Prop :=
  (u0.vm.waitTo t).m.log.length ≤ j.m.log.length ∧ (∀ x, time = some x → (l, x) ∈ timedJumps code) ∧
    ∀ i tl, findLabelJ (P.map (·.2)) l 0 = some (i, tl) →
      ∃ c, 1 ≤ c ∧ ReachTn F diff P c pc0 u0 i ⟨((u0.vm.waitTo t).after j.m).setTime (time.getD tl), j.cmp⟩

variable {F diff pre t code P pc0 u0} {post : List (Int × JStmt)} (hP : P = pre ++ (code.map (fun x => (t, x)) ++ post))
  {n : Nat} {st : JStmt} {j j1 : JM} {l : Nat} {time : Option Int}
include hP

theorem getT (h : code[n]? = some st) : P[pre.length + n]? = some (t, st) :=
  hP ▸ getElem?_mid pre post (code := code.map (fun x => (t, x))) (by rw [List.getElem?_map, h]; rfl)

theorem markerT {c : Nat} {u : TVM} (hg : code[n]? = some st) (hmk : st.isMarker = true)
    (hr : ReachTn F diff P c pc0 u0 (pre.length + n) u) : ReachTn F diff P (c + 1) pc0 u0 (pre.length + (n + 1)) u := by
  have hstep := stepT_next (getT hP hg) (if_pos hmk) (stepJ_marker F diff ⟨u.vm.m, u.cmp⟩ hmk)
  rw [VM.after_self] at hstep
  exact hr.tail hstep

theorem nextT (hg : code[n]? = some st) (hst : stepJ F diff j st = .ok (j1, .next)) (hin : RunT F diff pre t P pc0 u0 n j) :
    RunT F diff pre t P pc0 u0 (n + 1) j1 := by
  obtain ⟨ht, hlog, c, u, hr, hcmp, hw⟩ := hin
  obtain ⟨htime1, hlog1⟩ := stepJ_frame hst
  refine ⟨htime1 ▸ ht, Nat.le_trans hlog hlog1, c + 1, ?_⟩
  by_cases hmk : st.isMarker = true
  · cases (stepJ_marker F diff j hmk).symm.trans hst
    exact ⟨u, markerT hP hg hmk hr, hcmp, hw⟩
  · have hst' : stepJ F diff ⟨((u0.vm.waitTo t).after j.m).m, j.cmp⟩ st = .ok (j1, .next) := hst
    have hstep := stepT_next (getT hP hg) ((if_neg hmk).trans hw) (hcmp ▸ hst')
    rw [VM.after_after _ hlog hlog1] at hstep
    exact ⟨⟨(u0.vm.waitTo t).after j1.m, j1.cmp⟩, hr.tail hstep, rfl, VM.waitTo_of_le (htime1 ▸ ht)⟩

theorem jumpT (hg : code[n]? = some st) (hst : stepJ F diff j st = .ok (j1, .jump l time))
    (hin : RunT F diff pre t P pc0 u0 n j) : SeekT F diff t code P pc0 u0 j1 l time := by
  obtain ⟨ht, hlog, c, u, hr, hcmp, hw⟩ := hin
  obtain ⟨htime1, hlog1⟩ := stepJ_frame hst
  have hmk : ¬ st.isMarker = true := fun hmk => nomatch (stepJ_marker F diff j hmk).symm.trans hst
  refine ⟨Nat.le_trans hlog hlog1, ?_, fun i tl hi => ?_⟩
  · rintro x rfl
    exact timedJumps_of_jumpOf (List.mem_of_getElem? hg) (stepJ_jump hst)
  · have hst' : stepJ F diff ⟨((u0.vm.waitTo t).after j.m).m, j.cmp⟩ st = .ok (j1, .jump l time) := hst
    have hstep := stepT_jump (getT hP hg) ((if_neg hmk).trans hw) (hcmp ▸ hst') hi
    rw [VM.after_after _ hlog hlog1] at hstep
    exact ⟨c + 1, Nat.le_add_left _ _, hr.tail hstep⟩

/-- a jump that stays inside the fragment carries no time and lands on a label with the time of the fragment -/
theorem landT (hy : Hygienic (pre.map (·.2)) code) (htimes : ∀ x ∈ labelTimes code, x = t)
    (hjumps : ∀ p ∈ timedJumps code, p.1 ∉ labelsOf code) {tl : Int} (hg : code[n]? = some (.label tl l))
    (hin : SeekT F diff t code P pc0 u0 j l time) : RunT F diff pre t P pc0 u0 (n + 1) (j.setTime (time.getD tl)) := by
  obtain ⟨hlog, htimed, hj⟩ := hin
  obtain ⟨pa, pb, hsplit⟩ := List.append_of_mem (List.mem_of_getElem? hg)
  have hin' : l ∈ labelsOf code := by rw [hsplit, labelsOf_append]; exact List.mem_append_right _ (List.mem_cons_self ..)
  obtain rfl : time = none := by
    cases time with
    | none => rfl
    | some x => exact absurd hin' (hjumps _ (htimed x rfl))
  obtain rfl : t = tl := (htimes tl (by rw [hsplit, labelTimes_append]; exact List.mem_append_right _ (List.mem_cons_self ..))).symm
  obtain ⟨c, hc1, hr⟩ := hj (pre.length + n) t (by
    have := hy.findLabelJ_get hg (post.map (·.2))
    rwa [hP, List.map_append, List.map_append, map_snd_stamped, ← List.length_map (·.2)])
  exact ⟨Int.le_refl _, hlog, c + 1, _, markerT hP hg rfl hr, rfl, VM.waitTo_of_le (Int.le_refl t)⟩

end reachT

theorem execFrag_reachTn (F : FloatOps) (diff : Nat) (pre post : List (Int × JStmt)) (t : Int) (code : List JStmt)
    (hy : Hygienic (pre.map (·.2)) code) (htimes : ∀ x ∈ labelTimes code, x = t)
    (hjumps : ∀ p ∈ timedJumps code, p.1 ∉ labelsOf code) :
    ∀ (n k : Nat) (u : TVM) (j' : JM) (e : Exit), code.length - k = n → k ≤ code.length →
      execFrag F diff .run (code.drop k) ⟨(u.vm.waitTo t).m, u.cmp⟩ = .ok (e, j') →
      match e with
      | .fall => ∃ c u', ReachTn F diff (pre ++ (code.map (fun x => (t, x)) ++ post)) c (pre.length + k) u (pre.length + code.length) u' ∧
          u'.cmp = j'.cmp ∧ u'.vm.waitTo t = (u.vm.waitTo t).after j'.m
      | .jump l time => ∀ i tl, findLabelJ ((pre ++ (code.map (fun x => (t, x)) ++ post)).map (·.2)) l 0 = some (i, tl) →
          ∃ c, 1 ≤ c ∧ ReachTn F diff (pre ++ (code.map (fun x => (t, x)) ++ post)) c (pre.length + k) u i
            ⟨((u.vm.waitTo t).after j'.m).setTime (time.getD tl), j'.cmp⟩ := by
  intro _ k u j' e _ hk h
  have := execFrag_follows (nextT (post := post) (pc0 := pre.length + k) (u0 := u) rfl) (jumpT rfl) (landT rfl hy htimes hjumps)
    _ .run _ k j' e rfl hk h ⟨VM.le_waitTo_time _ _, Nat.le_refl _, 0, u, .refl _ _, rfl, (VM.after_self _).symm⟩
  cases e with
  | fall => exact this.2.2
  | jump l time => exact this.2.2

theorem execFrag_reachT (F : FloatOps) (diff : Nat) (pre post : List (Int × JStmt)) (t : Int) (code : List JStmt)
    (hy : Hygienic (pre.map (·.2)) code) (htimes : ∀ x ∈ labelTimes code, x = t)
    (hjumps : ∀ p ∈ timedJumps code, p.1 ∉ labelsOf code) :
    ∀ (n k : Nat) (u : TVM) (j' : JM) (e : Exit), code.length - k = n → k ≤ code.length →
      execFrag F diff .run (code.drop k) ⟨(u.vm.waitTo t).m, u.cmp⟩ = .ok (e, j') →
      match e with
      | .fall => ∃ u', ReachT F diff (pre ++ (code.map (fun x => (t, x)) ++ post)) (pre.length + k) u (pre.length + code.length) u' ∧
          u'.cmp = j'.cmp ∧ u'.vm.waitTo t = (u.vm.waitTo t).after j'.m
      | .jump l time => ∀ i tl, findLabelJ ((pre ++ (code.map (fun x => (t, x)) ++ post)).map (·.2)) l 0 = some (i, tl) →
          ReachT F diff (pre ++ (code.map (fun x => (t, x)) ++ post)) (pre.length + k) u i
            ⟨((u.vm.waitTo t).after j'.m).setTime (time.getD tl), j'.cmp⟩ := by
  intro n k u j' e hn hk h
  have := execFrag_reachTn F diff pre post t code hy htimes hjumps n k u j' e hn hk h
  cases e with
  | fall => obtain ⟨c, u', hr, hc, hw⟩ := this; exact ⟨u', hr.toReachT, hc, hw⟩
  | jump l time => intro i tl hi; obtain ⟨c, _, hr⟩ := this i tl hi; exact hr.toReachT

end TruthModel.Lower
