import TruthModel.Lemmas.FmtExprParse
import TruthModel.Model.FmtStmt
/-
C08, the STATEMENT layer on tokens (`Model/FmtStmt.lean`).  For every statement / block inside `OKS` / `OKB`
(embedded expressions `NoGlue`, names that are identifier tokens, declarations of plain identifiers, a
difficulty label only on a physical statement, no `+ ++x:` label) the recursive-descent model of the grammar's
statement rules accepts the tokens the model of `impl Format for ast::Stmt / StmtKind / Block` writes and
returns the same tree up to `normK` (expressions in their normal form, `at_symbol` set): `print_parse_fuel`
proves it for kinds, labelled statements, blocks and `else` chains together, in any context and for any fuel
above `needK`; `needK_le` shows that the fuel `parseStmt` supplies is enough.  Printing the tree that was read
gives the same tokens again inside `IdemK`.

What the parser decides on the first tokens of a statement (`lead`, `}` ends a block, `else` continues a chain,
`{"..."}:` is a difficulty label) is proved of the parser, not of the printer: `lead_of_pUnary`, `pKind_head`.
-/
namespace TruthModel.C08
open TruthModel TruthModel.Fmt TruthModel.FmtExpr TruthModel.FmtStmt

@[simp] theorem cl_stmt :
    classify tSemi = .semi ∧ classify tPlus = .op .add := by decide +kernel
@[simp] theorem cl_lbrace : classify tLbrace = .bad := by decide +kernel
@[simp] theorem cl_rbrace : classify tRbrace = .bad := by decide +kernel

@[simp] theorem sk_toks :
    sk tLbrace = .lbrace ∧ sk tRbrace = .rbrace ∧ sk tSemi = .other ∧ sk tReturn = .kReturn ∧
    sk tElse = .kElse ∧ sk tDo = .kDo ∧ sk tWhile = .kWhile ∧ sk tTimes = .kTimes ∧ sk tLoop = .kLoop ∧
    sk tInterrupt = .kInterrupt ∧ sk tAsync = .kAsync ∧ sk tGoto = .kGoto ∧ sk tBreak = .kBreak ∧
    sk tLp = .other ∧ sk tAt = .other ∧ sk tPlus = .other ∧ sk tMinus = .other := by decide +kernel
@[simp] theorem sk_colon : sk tColon = .other := by decide +kernel
@[simp] theorem sk_rp : sk tRp = .other := by decide +kernel
@[simp] theorem sk_lb : sk tLb = .other := by decide +kernel
@[simp] theorem sk_rb : sk tRb = .other := by decide +kernel
@[simp] theorem sk_comma : sk tComma = .other := by decide +kernel
@[simp] theorem sk_assign : sk tAssign = .aop .assign := by decide +kernel
@[simp] theorem sk_int (s : List Char) : sk (.int s) = .other := rfl
@[simp] theorem sk_str (s : List Char) : sk (.str s) = .other := rfl
@[simp] theorem sk_aop (op : AssignOp) : sk op.tok = .aop op := by cases op <;> decide +kernel
@[simp] theorem sk_condkw (kw : CondKw) : sk kw.tok = (match kw with | .if_ => .kIf | .unless => .kUnless) := by
  cases kw <;> decide +kernel
@[simp] theorem sk_ty (k : TypeKw) : sk k.tok = .ty k := by cases k <;> decide +kernel

/-- an assignment operator is no token of an expression: it ends the `Var` in front of it -/
theorem cl_aop (op : AssignOp) : classify op.tok ≠ .semi ∧ classify op.tok ≠ .colon ∧
    stopsTerm (some (classify op.tok)) = true ∧ binOpOf (some (classify op.tok)) = none := by
  cases op <;> decide +kernel

/-- the words `wordSK` knows: the keyword tokens of the statement printer -/
def stmtKeywords : List (List Char) :=
  [tReturn, CondKw.if_.tok, CondKw.unless.tok, tElse, tDo, tWhile, tTimes, tLoop, tGoto, tBreak, tInterrupt, tAsync,
    TypeKw.int.tok, TypeKw.float.tok, TypeKw.string.tok, TypeKw.var.tok, TypeKw.void.tok].map tokChars

theorem wordSK_other (w : List Char) (h : w ∉ stmtKeywords) : wordSK w = .other := by
  simp only [stmtKeywords, List.map, tokChars, tReturn, CondKw.tok, CondKw.text, tElse, tDo, tWhile, tTimes, tLoop, tGoto,
    tBreak, tInterrupt, tAsync, TypeKw.tok, TypeKw.text, List.mem_cons, List.not_mem_nil, or_false, not_or] at h
  simp [wordSK, h]

-- one kernel evaluation of `wordClass` (its `reservedWords` are string literals) serves every keyword fact below
theorem stmtKeywords_facts : ∀ w ∈ stmtKeywords, identOK w = false ∧ wordSK w ≠ .rbrace ∧
    (wordSK w = .kElse ∨ wordSK w = .kWhile ∨ wordSK w = .kAsync → wordClass w = .bad) ∧
    (startsExpr (some (wordClass w)) = true →
      (wordSK w = .ty .int ∨ wordSK w = .ty .float) ∧ (wordClass w = .func .castI ∨ wordClass w = .func .castF)) := by
  decide +kernel

@[simp] theorem cl_else : classify tElse = .bad :=
  (stmtKeywords_facts _ (by decide +kernel)).2.2.1 (Or.inl (by decide +kernel))
@[simp] theorem cl_while : classify tWhile = .bad :=
  (stmtKeywords_facts _ (by decide +kernel)).2.2.1 (Or.inr (Or.inl (by decide +kernel)))
@[simp] theorem cl_async : classify tAsync = .bad :=
  (stmtKeywords_facts _ (by decide +kernel)).2.2.1 (Or.inr (Or.inr (by decide +kernel)))

theorem sk_ident {w : List Char} (h : identOK w = true) : sk (.word w) = .other := by
  by_cases hm : w ∈ stmtKeywords
  · have := (stmtKeywords_facts w hm).1
    rw [h] at this; cases this
  · exact wordSK_other w hm

/-- `}` and `else` are no tokens of an expression -/
theorem cl_bad_of_sk {t : Tok} (h : sk t = .rbrace ∨ sk t = .kElse) : classify t = .bad := by
  cases t with
  | punct s =>
    by_cases h1 : s = ['{']
    · simp [sk, h1] at h
    · by_cases h2 : s = ['}']
      · subst h2; exact cl_rbrace
      · cases h3 : assignOpOfText s <;> simp [sk, h1, h2, h3] at h
  | word w =>
    by_cases hm : w ∈ stmtKeywords
    · obtain ⟨_, h3, h4, _⟩ := stmtKeywords_facts w hm
      rcases h with h | h
      · exact absurd h h3
      · exact h4 (Or.inl h)
    · rw [show sk (.word w) = .other from wordSK_other w hm] at h
      simp at h
  | _ => simp [sk] at h

theorem hd_eq (toks : List Tok) : (toks.map classify).head? = hd toks := by
  cases toks <;> rfl

theorem drop_map_len (a b : List Tok) : (a ++ b).drop ((a ++ b).length - (b.map classify).length) = b := by
  have : (a ++ b).length - (b.map classify).length = a.length := by simp
  rw [this]
  exact List.drop_left' rfl

theorem exprAt_print (e : Expr) (h : NoGlue e = true) (sup : Bool) (f : Nat) (hf : cost e + 12 ≤ f) {t : Tok}
    (ht : closes (some (classify t)) = true) (rest : List Tok) :
    exprAt f (printE sup e ++ t :: rest) = some (norm e, t :: rest) := by
  unfold exprAt
  rw [List.map_append, expr_print_parse_in_context e h sup f hf ((t :: rest).map classify) ht]
  simp only
  rw [drop_map_len]

theorem exprNCAt_print (e : Expr) (h : NoGlue e = true) (f : Nat) (hf : cost e + 11 ≤ f) {t : Tok}
    (hst : stopsTerm (some (classify t)) = true) (hb : binOpOf (some (classify t)) = none) (rest : List Tok) :
    exprNCAt f (printE false e ++ t :: rest) = some (norm e, t :: rest) := by
  unfold exprNCAt
  rw [List.map_append, (good e h).level_zero f ((t :: rest).map classify) hf hst hb]
  simp only
  rw [drop_map_len]

theorem itemsAt_print (as : Exprs) (h : NoGlueAs as = true) (f : Nat) (hf : costAs as ≤ f) (rest : List Tok) :
    itemsAt f (printArgs as ++ tRp :: rest) = some ((.nil, normAs as), rest) := by
  unfold itemsAt
  have := goodAs as h f (rest.map classify) hf
  rw [List.map_append, List.map_cons, cl_rp, this]
  simp only
  have h2 := drop_map_len (printArgs as ++ [tRp]) rest
  simpa using h2

@[simp] theorem hd_cons (t : Tok) (r : List Tok) : hd (t :: r) = some (classify t) := rfl
@[simp] theorem hs_cons (t : Tok) (r : List Tok) : hs (t :: r) = some (sk t) := rfl
@[simp] theorem hd_nil : hd [] = none := rfl
@[simp] theorem hs_nil : hs [] = none := rfl

theorem braces_append (ts rest : List Tok) : braces ts ++ rest = tLbrace :: (ts ++ tRbrace :: rest) := by
  simp [braces]

theorem printE_hd_ne_semi (e : Expr) (h : NoGlue e = true) (X : List Tok) : hd (printE false e ++ X) ≠ some .semi := by
  obtain ⟨t, r, htr, hs⟩ := (good e h).head
  cases hp : printE false e with
  | nil => rw [hp] at htr; cases htr
  | cons t0 r0 =>
    rw [hp] at htr; cases htr
    intro hsemi
    rw [show classify t0 = .semi from Option.some.inj hsemi] at hs
    cases hs

theorem pLitIntSigned_print (t : Int32) (rest : List Tok) :
    pLitIntSigned (numToks (printI32 t) ++ rest) = some (t, rest) := by
  rcases shape_printI32 t with ⟨r, hr, hv⟩ | ⟨hr, hv⟩
  · rw [hr]
    simp [pLitIntSigned, tMinus, hv]
    decide +kernel
  · rw [hr]
    simp [pLitIntSigned, hv]

theorem pJump_print (j : Jump) (h : jumpOK j = true) (rest : List Tok) :
    pJump (jumpToks j ++ tSemi :: rest) = some (j, tSemi :: rest) := by
  cases j with
  | brk => simp [jumpToks, pJump]
  | goto d t =>
    have hd' : identOK d = true := h
    cases t with
    | none => simp [jumpToks, pJump, cl_ident hd']
    | some v =>
      have := pLitIntSigned_print v (tSemi :: rest)
      simp [jumpToks, pJump, cl_ident hd', this]

theorem jumpToks_head (j : Jump) : ∃ t0 r0, jumpToks j = t0 :: r0 ∧ (sk t0 = .kGoto ∨ sk t0 = .kBreak) := by
  cases j with
  | brk => exact ⟨tBreak, [], rfl, by simp⟩
  | goto d t => cases t <;> exact ⟨tGoto, _, rfl, by simp⟩

theorem pParenExpr_print (c : Expr) (h : NoGlue c = true) (f : Nat) (hf : cost c + 12 ≤ f) (rest : List Tok) :
    pParenExpr f (tLp :: (printE true c ++ tRp :: rest)) = some (norm c, rest) := by
  have := exprAt_print c h true f hf (t := tRp) (by simp [closes]) rest
  simp [pParenExpr, this]

/-- Fuel for `pKind` on a printed statement: an expression costs `cost e + 12` through `exprAt` (`pExpr`), `cost e + 11` through `exprNCAt`
(`pLevel 0`), where the `cost` of a call `f(..)` read as an expression is `costAs + 4`; one unit for `pKind` itself, two in `needB` for `pItemsB` and `pStmt`. -/
def needAsync : Async → Nat
  | .id e => cost e + 11
  | _ => 0

def needD : List (Var × Option Expr) → Nat
  | [] => 0
  | (_, none) :: rest => needD rest + 1
  | (_, some e) :: rest => max (cost e + 13) (needD rest + 1)

mutual
def needK : Kind → Nat
  | .jump _ => 1
  | .ret none => 1
  | .ret (some e) => cost e + 13
  | .condJump _ c _ => cost c + 13
  | .condChain _ c b rest => max (cost c + 12) (max (needB b) (needC rest)) + 1
  | .loop b => needB b + 1
  | .while_ c b => max (cost c + 12) (needB b) + 1
  | .doWhile b c => max (needB b) (cost c + 12) + 1
  | .times _ n b => max (cost n + 12) (needB b) + 1
  | .expr e => cost e + 13
  | .block b => needB b + 1
  | .assign _ _ e => cost e + 13
  | .decl _ vars => needD vars + 1
  | .callSub _ as _ args => max (costAs args + 16) (needAsync as) + 1
  | .label _ => 1
  | .interrupt e => cost e + 13
  | .absTime _ => 1
  | .relTime d => cost d + 12
def needB : Block → Nat
  | .nil => 1
  | .cons _ k rest => max (needK k + 2) (needB rest + 1)
def needC : Chain → Nat
  | .nil => 1
  | .els b => needB b + 1
  | .elif _ c b rest => max (cost c + 12) (max (needB b) (needC rest)) + 1
end

/-- a token of FIRST(`Expr`) is no statement keyword, except the casts `int(` / `float(` -/
theorem lead_of_startsExpr {t : Tok} (r : List Tok) (h : startsExpr (some (classify t)) = true) :
    lead (t :: r) = leadByClass t r ∨ ((∃ u, classify t = .func u) ∧ (hd r = some .lp → lead (t :: r) = .generic)) := by
  cases t with
  | punct s =>
    left
    by_cases h1 : s = ['{']
    · rw [h1, show classify (.punct ['{']) = .bad from cl_lbrace] at h; cases h
    · by_cases h2 : s = ['}']
      · simp [lead, sk, h2]
      · cases h3 : assignOpOfText s <;> simp [lead, sk, h1, h2, h3]
  | word w =>
    by_cases hm : w ∈ stmtKeywords
    · obtain ⟨h1, h2⟩ := (stmtKeywords_facts w hm).2.2.2 h
      exact Or.inr ⟨h2.elim (⟨_, ·⟩) (⟨_, ·⟩), fun hlp => by rcases h1 with h1 | h1 <;> simp [lead, sk, h1, hlp]⟩
    · left; simp [lead, sk, wordSK_other w hm]
  | _ => left; rfl

/-- The automaton's decision on the leading tokens, read off the expression parser: where it reads a term
and no `:` follows, the statement begins with an expression.  (A label is an identifier, a number or `-`
number with a `:` behind it; `int(` is a cast, `int x` a declaration.) -/
theorem lead_of_pUnary {f : Nat} {toks : List Tok} {x : Expr} {X : List PTok}
    (h : pUnary f (toks.map classify) = some (x, X)) (hX : X.head? ≠ some .colon) : lead toks = .generic := by
  obtain ⟨c0, cr, hc, hs⟩ := pUnary_head h
  cases toks with
  | nil => cases hc
  | cons t r =>
    cases hc
    rcases f with _ | _ | f
    · cases h
    · simp only [pUnary, pTerm] at h
      split at h <;> cases h
    rcases lead_of_startsExpr r hs with hl | ⟨⟨u, hu⟩, hl⟩
    · rw [hl]
      unfold leadByClass
      split
      · -- an identifier: with a `:` behind it the term is the variable, and the `:` is what is left
        rename_i w hw
        refine if_neg fun hcol => hX ?_
        have hcr : (r.map classify).head? = some .colon := (hd_eq r).trans hcol
        simp [hw, pUnary, pTerm, hcr, pVarPost] at h
        rw [← h.2, hcr]
      · -- a number: the same
        rename_i s hw
        refine if_neg fun hcol => hX ?_
        simp only [hw, List.map_cons, pUnary, pTerm] at h
        split at h
        · cases h; exact (hd_eq r).trans hcol
        · cases h
      · rename_i b hw
        by_cases hb : b = .sub
        · subst hb
          rw [if_pos rfl]
          split
          · -- `-` number `c`: the operand is the number, `c` is left
            rename_i s c r'
            refine if_neg fun hcol => hX ?_
            cases hv : litIntUnsigned s with
            | none => simp [hw, pUnary, pTerm, hv] at h
            | some v =>
              simp [hw, pUnary, pTerm, hv] at h
              rw [← h.2]; simp [hcol]
          · rfl
        · by_cases ha : b = .add
          · rw [hw, ha] at hs; cases hs
          · rw [if_neg hb, if_neg ha]
      · rename_i hw; rw [hw] at hs; cases hs
      · rfl
    · -- `int` / `float`: the term is a cast, which has its `(`
      refine hl ?_
      simp only [List.map_cons, hu, pUnary, pTerm] at h
      split at h
      · rename_i r1 hr; exact (hd_eq r).symm.trans (by rw [hr]; rfl)
      · cases h

theorem lead_print (e : Expr) (h : NoGlue e = true) {t : Tok} (hst : stopsTerm (some (classify t)) = true)
    (hc : classify t ≠ .colon) (X : List Tok) : lead (printE false e ++ t :: X) = .generic :=
  lead_of_pUnary (f := cost e) (x := norm e) (X := (t :: X).map classify)
    (by rw [List.map_append]; exact (good e h).unary (cost e) _ (Nat.le_refl _) hst) (by simpa using hc)

theorem varToks_hd_ne_lp (v : Var) (hok : varOK v = true) (X : List Tok) : hd (varToks v ++ X) ≠ some .lp := by
  obtain ⟨sg, nm⟩ := v
  cases nm with
  | normal id =>
    have hid : identOK id = true := hok
    rcases sg with _ | _ | _ <;> simp [varToks, sigilToks, nameToks, cl_ident hid]
  | reg n => rcases sg with _ | _ | _ <;> simp [varToks, sigilToks, nameToks]

theorem diffLabelAt_cases (toks : List Tok) : diffLabelAt toks = .absent ∨
    ∃ t0 s t2 r, toks = t0 :: .str s :: t2 :: r ∧ sk t0 = .lbrace ∧ sk t2 = .rbrace := by
  unfold diffLabelAt
  split
  · rename_i t0 s t2 r
    by_cases hc : sk t0 = .lbrace ∧ sk t2 = .rbrace
    · exact Or.inr ⟨_, _, _, _, rfl, hc.1, hc.2⟩
    · exact Or.inl (if_neg hc)
  · exact Or.inl rfl

theorem diffLabelAt_absent_of_sk {t0 : Tok} {r : List Tok} (h : sk t0 ≠ .lbrace) : diffLabelAt (t0 :: r) = .absent := by
  rcases diffLabelAt_cases (t0 :: r) with hd | ⟨_, _, _, _, he, hl, _⟩
  · exact hd
  · cases he; exact absurd hl h

theorem diffLabelAt_two (t0 t1 : Tok) : diffLabelAt [t0, t1] = .absent := by
  rcases diffLabelAt_cases [t0, t1] with h | ⟨_, _, _, _, he, _⟩
  · exact h
  · cases he

theorem exprNCAt_head {f : Nat} {toks : List Tok} {x : Expr × List Tok} (h : exprNCAt f toks = some x) :
    ∃ t r, toks = t :: r ∧ startsExpr (some (classify t)) = true := by
  unfold exprNCAt at h
  split at h
  · rename_i e r he
    obtain ⟨t, r', ht, hs⟩ := pLevel_head he
    cases toks with
    | nil => cases ht
    | cons t0 r0 => cases ht; exact ⟨t0, r0, rfl, hs⟩
  · cases h

theorem pGeneric_none {f : Nat} {t : Tok} {r : List Tok} (h : classify t = .bad) : pGeneric f (t :: r) = none := by
  cases hx : exprNCAt f (t :: r) with
  | none => simp [pGeneric, hx]
  | some x =>
    obtain ⟨t', r', ht, hs⟩ := exprNCAt_head hx
    cases ht
    rw [h] at hs
    cases hs

/-- a string token followed by a token that is no expression token: the term is the string -/
theorem pLevel_str (s : List Char) (cr : List PTok) : ∀ f k,
    pLevel f k (.str s :: .bad :: cr) = none ∨ ∃ e, pLevel f k (.str s :: .bad :: cr) = some (e, .bad :: cr) := by
  intro f
  induction f with
  | zero => exact fun _ => Or.inl rfl
  | succ f ih =>
    intro k
    unfold pLevel
    split
    · rcases f with _ | _ | f
      · exact Or.inl rfl
      · exact Or.inl rfl
      · simp only [pUnary, pTerm]
        split
        · exact Or.inr ⟨_, rfl⟩
        · exact Or.inl rfl
    · rcases ih (k + 1) with h | ⟨e, h⟩
      · rw [h]; exact Or.inl rfl
      · rw [h]
        cases f with
        | zero => exact Or.inl rfl
        | succ f => exact Or.inr ⟨e, by simp [pLoop, binOpOf]⟩

/-- `"text" }` is no statement: after the string the expression statement wants its `;` -/
theorem pKind_str {f : Nat} {s : List Char} {t2 : Tok} {r : List Tok} (h2 : sk t2 = .rbrace) :
    pKind f (.str s :: t2 :: r) = none := by
  cases f with
  | zero => rfl
  | succ f =>
    have hb := cl_bad_of_sk (Or.inl h2)
    have hx : exprNCAt f (.str s :: t2 :: r) = none ∨ ∃ e, exprNCAt f (.str s :: t2 :: r) = some (e, t2 :: r) := by
      unfold exprNCAt
      simp only [List.map_cons, cl_str, hb]
      rcases pLevel_str s (r.map classify) f 0 with h | ⟨e, h⟩
      · rw [h]; exact Or.inl rfl
      · rw [h]; exact Or.inr ⟨e, by simp⟩
    have hl : lead (.str s :: t2 :: r) = .generic := by simp [lead, leadByClass]
    simp only [pKind, hl, pGeneric]
    rcases hx with hx | ⟨e, hx⟩
    · rw [hx]
    · rw [hx]; simp [hb, h2]

theorem pKind_nil (f : Nat) : pKind f [] = none := by
  cases f with
  | zero => rfl
  | succ f =>
    cases hx : exprNCAt f [] with
    | none => simp [pKind, lead, pGeneric, hx]
    | some x =>
      obtain ⟨_, _, ht, _⟩ := exprNCAt_head hx
      cases ht

/-- What the success of the parser on some tokens tells about the first of them.  The block loop and the `else` chain get
their look-ahead conditions on what follows a statement from here (the rest parses: `pStmt_head`, `pItemsB_head`), not from the printer. -/
structure StmtStart (toks : List Tok) : Prop where
  not_rbrace : hs toks ≠ some .rbrace
  not_else : hs toks ≠ some .kElse

structure KindStart (toks : List Tok) : Prop extends StmtStart toks where
  no_label : diffLabelAt toks = .absent

/-- a statement does not begin with `}` or `else`, and what begins like a difficulty label (`{` string `}`)
is no statement -/
theorem pKind_head {f : Nat} {toks : List Tok} {x : Kind × List Tok} (h : pKind f toks = some x) : KindStart toks := by
  cases f with
  | zero => cases h
  | succ f =>
    have key : ∀ {t r}, toks = t :: r → ¬ (sk t = .rbrace ∨ sk t = .kElse) := by
      intro t r ht hsk
      subst ht
      have hb := cl_bad_of_sk hsk
      have hl : lead (t :: r) = .generic := by
        rcases hsk with hsk | hsk <;> simp [lead, hsk, leadByClass, hb]
      simp [pKind, hl, pGeneric_none hb] at h
    refine ⟨⟨?_, ?_⟩, ?_⟩
    · cases toks with
      | nil => simp
      | cons t r => exact fun hh => key rfl (Or.inl (Option.some.inj hh))
    · cases toks with
      | nil => simp
      | cons t r => exact fun hh => key rfl (Or.inr (Option.some.inj hh))
    · rcases diffLabelAt_cases toks with hd | ⟨t0, s, t2, r, rfl, h0, h2⟩
      · exact hd
      · -- `{` begins a block; its first statement would be `"text" }`
        have hl : lead (t0 :: .str s :: t2 :: r) = .lbrace := by simp [lead, h0]
        have hd : diffLabelAt (.str s :: t2 :: r) = .absent := diffLabelAt_absent_of_sk (by simp)
        simp only [pKind, hl, List.tail_cons] at h
        rcases f with _ | _ | f <;> simp [pItemsB, pStmt, hd, pKind_str h2] at h

theorem pStmt_head {f : Nat} {toks : List Tok} {x : (Option (List Char) × Kind) × List Tok} (h : pStmt f toks = some x) :
    StmtStart toks := by
  cases f with
  | zero => cases h
  | succ f =>
    rcases diffLabelAt_cases toks with hd | ⟨t0, s, t2, r, rfl, h0, _⟩
    · simp only [pStmt, hd] at h
      split at h
      · rename_i hk; exact (pKind_head hk).toStmtStart
      · cases h
    · exact ⟨by simp [h0], by simp [h0]⟩

theorem pItemsB_head {f : Nat} {toks : List Tok} {x : Block × List Tok} (h : pItemsB f toks = some x) :
    hs toks ≠ some .kElse := by
  cases f with
  | zero => cases h
  | succ f =>
    rw [pItemsB] at h
    split at h
    · rename_i hr; rw [hr]; simp
    · split at h
      · rename_i hst; exact (pStmt_head hst).not_else
      · cases h

theorem declVarOK_eq {v : Var} (h : declVarOK v = true) : ∃ w, v = { sigil := none, name := .normal w } ∧ identOK w = true := by
  obtain ⟨sg, nm⟩ := v
  cases sg <;> cases nm <;> simp_all [declVarOK]

theorem pDeclItems_print : ∀ (vars : List (Var × Option Expr)), vars ≠ [] → declOK vars = true → ∀ f rest, needD vars ≤ f →
    pDeclItems f (declToks vars ++ tSemi :: rest) = some (normDecl vars, tSemi :: rest) := by
  intro vars
  induction vars with
  | nil => exact fun hne => absurd rfl hne
  | cons x vs ih =>
    obtain ⟨v, oe⟩ := x
    intro _ h f rest hf
    cases oe with
    | none =>
      simp only [declOK, Bool.and_eq_true] at h
      obtain ⟨w, rfl, hw⟩ := declVarOK_eq h.1
      obtain ⟨f', rfl⟩ := exists_add_one_of_le (a := needD vs) hf
      have ih := fun hne => ih hne h.2 f' rest (Nat.le_of_succ_le_succ hf)
      cases vs <;> simp [declToks, varToks, sigilToks, nameToks, pDeclItems, cl_ident hw, normDecl, ih]
    | some e =>
      simp only [declOK, Bool.and_eq_true] at h
      obtain ⟨w, rfl, hw⟩ := declVarOK_eq h.1.1
      have hf := Nat.max_le.mp hf
      obtain ⟨f', rfl⟩ := exists_add_one_of_le hf.2
      have ih := fun hne => ih hne h.2 f' rest (Nat.le_of_succ_le_succ hf.2)
      have he := @exprAt_print e h.1.2 false f' (Nat.le_of_succ_le_succ hf.1)
      cases vs <;> simp [declToks, varToks, sigilToks, nameToks, pDeclItems, cl_ident hw, normDecl, he, closes, ih]

theorem declToks_head (vars : List (Var × Option Expr)) (hne : vars ≠ []) (h : declOK vars = true) (X : List Tok) :
    ∃ w r0, declToks vars ++ X = .word w :: r0 ∧ identOK w = true := by
  cases vars with
  | nil => exact absurd rfl hne
  | cons x xs =>
    obtain ⟨v, oe⟩ := x
    have hv : declVarOK v = true := by
      cases oe <;> simp only [declOK, Bool.and_eq_true] at h
      · exact h.1
      · exact h.1.1
    obtain ⟨w, rfl, hw⟩ := declVarOK_eq hv
    cases oe <;> exact ⟨w, _, rfl, hw⟩

theorem pDecl_print (ty : TypeKw) (vars : List (Var × Option Expr)) (hty : (ty == .int || ty == .float || ty == .var) = true)
    (h : declOK vars = true) (f : Nat) (hf : needD vars ≤ f) (rest : List Tok) :
    pDecl f ty (declToks vars ++ tSemi :: rest) = some (.decl ty (normDecl vars), rest) := by
  have h1 : ¬ (ty = .string ∨ ty = .void) := by cases ty <;> simp_all
  by_cases hne : vars = []
  · subst hne
    simp [pDecl, h1, declToks, normDecl]
  · obtain ⟨w, r0, hw, hid⟩ := declToks_head vars hne h (tSemi :: rest)
    have hnot : hd (declToks vars ++ tSemi :: rest) ≠ some .semi := by rw [hw]; simp [cl_ident hid]
    simp [pDecl, h1, hnot, pDeclItems_print vars hne h f rest hf]

theorem pAsyncTail_print (as : Async) (h : asyncOK as = true) (f : Nat) (hf : needAsync as ≤ f) (rest : List Tok) :
    pAsyncTail f (asyncToks as ++ tSemi :: rest) = some (normAsync as, rest) := by
  cases as with
  | none | plain => simp [asyncToks, pAsyncTail, normAsync]
  | id e =>
    have he : NoGlue e = true := h
    have hx := exprNCAt_print e he f hf (t := tSemi) (by simp [stopsTerm]) (by simp [binOpOf])
    simp [asyncToks, pAsyncTail, normAsync, printE_hd_ne_semi e he (tSemi :: rest), hx]

theorem pGeneric_expr (e : Expr) (h : NoGlue e = true) (f : Nat) (hf : cost e + 12 ≤ f) (rest : List Tok) :
    pGeneric f (printE false e ++ tSemi :: rest) = some (.expr (norm e), rest) := by
  have hx := exprNCAt_print e h f (Nat.le_of_succ_le hf) (t := tSemi) (by simp [stopsTerm]) (by simp [binOpOf])
  simp [pGeneric, hx]

theorem pGeneric_assign (v : Var) (op : AssignOp) (e : Expr) (hv : varOK v = true) (h : NoGlue e = true) (f : Nat)
    (hf : cost e + 12 ≤ f) (rest : List Tok) :
    pGeneric f (varToks v ++ op.tok :: (printE true e ++ tSemi :: rest)) = some (.assign v op (norm e), rest) := by
  have hx := exprNCAt_print (.var v) hv f
    (Nat.le_trans (Nat.add_le_add_right (cost_pos e) 11) (Nat.le_of_succ_le hf)) (cl_aop op).2.2.1 (cl_aop op).2.2.2
  have he := exprAt_print e h true f hf (t := tSemi) (by simp [closes])
  have hlp := varToks_hd_ne_lp v hv
  simp only [printE, norm] at hx
  simp [pGeneric, hx, (cl_aop op).1, varOfExpr, hlp, he]

theorem pGeneric_callSub (as : Async) (fn : List Char) (args : Exprs) (hf' : identOK fn = true) (ha : NoGlueAs args = true)
    (has : asyncOK as = true) (hne : as ≠ .none) (f : Nat) (hf : max (costAs args + 16) (needAsync as) ≤ f) (rest : List Tok) :
    pGeneric f (.word fn :: tLp :: (printArgs args ++ tRp :: (asyncToks as ++ tSemi :: rest))) =
      some (.callSub true (normAsync as) fn (normAs args), rest) := by
  have hng : NoGlue (.call (.normal fn) .nil args) = true := by simp [NoGlue, CallName.ok, hf', NoGluePs, ha]
  obtain ⟨X, hX⟩ : ∃ X, asyncToks as ++ tSemi :: rest = tAsync :: X := by
    cases as with
    | none => exact absurd rfl hne
    | plain | id _ => exact ⟨_, rfl⟩
  have hf := Nat.max_le.mp hf
  -- `simp [stopsTerm]` would decide the match by evaluating `classify tAsync`, and the kernel after it
  have hx := exprNCAt_print (.call (.normal fn) .nil args) hng f (Nat.le_of_succ_le hf.1) (t := tAsync)
    (by rw [cl_async]; rfl) (by rw [cl_async]; rfl) X
  have hform : (Tok.word fn :: tLp :: (printArgs args ++ tRp :: (asyncToks as ++ tSemi :: rest))) =
      printE false (.call (.normal fn) .nil args) ++ tAsync :: X := by
    simp [printE, CallName.tok, FmtExpr.printItems, hX]
  have ht := pAsyncTail_print as has f hf.2 rest
  rw [hX] at ht
  rw [hform]
  simp only [pGeneric, hx, norm, normPs]
  simp [printE, CallName.tok, cl_ident hf', Pseudos.isNil, ht]

theorem pAtCall_print (as : Async) (fn : List Char) (args : Exprs) (hf' : identOK fn = true) (ha : NoGlueAs args = true)
    (has : asyncOK as = true) (f : Nat) (hf : max (costAs args + 16) (needAsync as) ≤ f) (rest : List Tok) :
    pAtCall f (.word fn :: tLp :: (printArgs args ++ tRp :: (asyncToks as ++ tSemi :: rest))) =
      some (.callSub true (normAsync as) fn (normAs args), rest) := by
  have hf := Nat.max_le.mp hf
  have hi := itemsAt_print args ha f (Nat.le_trans (Nat.le_add_right _ 16) hf.1) (asyncToks as ++ tSemi :: rest)
  have ht := pAsyncTail_print as has f hf.2 rest
  simp [pAtCall, cl_ident hf', hi, Pseudos.isNil, ht]

theorem lead_cond (kw : CondKw) (r : List Tok) : lead (kw.tok :: r) = .cond kw := by
  cases kw <;> simp [lead]

theorem normK_isPhysical (k : Kind) : (normK k).isPhysical = k.isPhysical := by
  cases k with
  | ret v => cases v <;> rfl
  | _ => rfl

theorem exprAt_var (v : Var) (hok : varOK v = true) (f : Nat) (hf : 16 ≤ f) (rest : List Tok) :
    exprAt f (varToks v ++ tAssign :: rest) = some (.var v, tAssign :: rest) := by
  have := (good_var v hok).expr_before f ((tAssign :: rest).map classify) hf rfl rfl (by simp) (by simp)
  unfold exprAt
  rw [List.map_append, show (varToks v).map classify = (printE false (.var v)).map classify from rfl, this]
  simp only [norm]
  rw [drop_map_len]

theorem needK_pos (k : Kind) : 1 ≤ needK k := by
  cases k with
  | ret v => cases v <;> exact Nat.succ_le_succ (Nat.zero_le _)
  | _ => exact Nat.succ_le_succ (Nat.zero_le _)

/-- what fuel `f` reads back: the printed tokens of every kind, labelled statement, block and `else` chain that
needs no more, in front of any tokens that do not begin with `else` -/
structure ReadsBack (f : Nat) : Prop where
  kind : ∀ k, OKK k = true → ∀ rest, needK k ≤ f → hs rest ≠ some .kElse →
    pKind f (printKind k ++ rest) = some (normK k, rest)
  stmt : ∀ d k, (d.isNone || k.isPhysical) = true → OKK k = true → ∀ rest, needK k + 1 ≤ f → hs rest ≠ some .kElse →
    pStmt f (diffToks d ++ (printKind k ++ rest)) = some ((d, normK k), rest)
  block : ∀ b, OKB b = true → needB b ≤ f → ∀ rest,
    pItemsB f (printStmts b ++ tRbrace :: rest) = some (normB b, rest)
  chain : ∀ c, OKC c = true → ∀ rest, needC c ≤ f → hs rest ≠ some .kElse →
    pChain f (printChain c ++ rest) = some (normC c, rest)

/-- statements, blocks and `else` chains together, by induction on the fuel: every level of nesting
hands one unit less to the level below -/
theorem print_parse_fuel (f : Nat) : ReadsBack f := by
  induction f with
  | zero =>
    refine ⟨fun k _ _ hf => ?_, fun _ _ _ _ _ hf => ?_, fun b _ hf => ?_, fun c _ _ hf => ?_⟩
    · exact absurd (Nat.le_trans (needK_pos k) hf) (by decide)
    · exact absurd hf (Nat.not_succ_le_zero _)
    · cases b <;> simp [needB] at hf
    · cases c <;> simp [needC] at hf
  | succ f' ih =>
    refine ⟨?_, ?_, ?_, ?_⟩
    · intro k h rest hf hne
      cases k with
      | jump j =>
        obtain ⟨t0, r0, hjt, hsk⟩ := jumpToks_head j
        have hl : lead (jumpToks j ++ tSemi :: rest) = .jump := by
          rw [hjt]; rcases hsk with h | h <;> simp [lead, h]
        have hp := pJump_print j h rest
        simp [pKind, printKind, hl, hp, normK]
      | ret v =>
        cases v with
        | none => simp [pKind, lead, printKind, normK]
        | some e =>
          simp only [needK, Nat.reduceLeDiff] at hf
          have he : NoGlue e = true := h
          have hne := printE_hd_ne_semi e he (tSemi :: rest)
          have hx := exprAt_print e he false f' hf (t := tSemi) (by simp [closes])
          simp [pKind, lead, printKind, hne, hx, normK]
      | condJump kw c j =>
        simp only [OKK, needK, Bool.and_eq_true, Nat.reduceLeDiff] at h hf
        have hp := pParenExpr_print c h.1 f' hf
        obtain ⟨t0, r0, hjt, hsk⟩ := jumpToks_head j
        have hnb : hs (jumpToks j ++ tSemi :: rest) ≠ some .lbrace := by
          rw [hjt]; rcases hsk with h | h <;> simp [h]
        have hj := pJump_print j h.2 rest
        simp [pKind, lead_cond, printKind, hp, hnb, hj, normK]
      | condChain kw c b ch =>
        simp only [OKK, needK, Bool.and_eq_true, Nat.reduceLeDiff, Nat.max_le] at h hf
        have hp := pParenExpr_print c h.1.1 f' hf.1
        have ihb := ih.block b h.1.2 hf.2.1
        have ihc := ih.chain ch h.2 rest hf.2.2 hne
        simp [pKind, lead_cond, printKind, braces, hp, ihb, ihc, normK]
      | loop b | block b =>
        simp only [needK, Nat.reduceLeDiff] at hf
        have ihb := ih.block b h hf
        simp [pKind, lead, printKind, braces, ihb, normK]
      | while_ c b =>
        simp only [OKK, needK, Bool.and_eq_true, Nat.reduceLeDiff, Nat.max_le] at h hf
        have hp := pParenExpr_print c h.1 f' hf.1
        have ihb := ih.block b h.2 hf.2
        simp [pKind, lead, printKind, braces, hp, ihb, normK]
      | doWhile b c =>
        simp only [OKK, needK, Bool.and_eq_true, Nat.reduceLeDiff, Nat.max_le] at h hf
        have hp := pParenExpr_print c h.2 f' hf.2
        have ihb := ih.block b h.1 hf.1
        simp [pKind, lead, printKind, braces, hp, ihb, normK]
      | times clb n b =>
        simp only [OKK, needK, Bool.and_eq_true, Nat.reduceLeDiff, Nat.max_le] at h hf
        have hx := exprAt_print n h.1.2 true f' hf.1 (t := tRp) (by simp [closes])
        have ihb := ih.block b h.2 hf.2
        cases clb with
        | none => simp [pKind, lead, printKind, braces, clobberToks, hx, ihb, normK]
        | some v =>
          have hv : varOK v = true := h.1.1
          have hxv := exprAt_var v hv f' (Nat.le_trans (Nat.add_le_add_right (cost_pos n) 12) hf.1)
          have hlp := varToks_hd_ne_lp v hv
          simp [pKind, lead, printKind, braces, clobberToks, hxv, varOfExpr, hlp, hx, ihb, normK]
      | expr e =>
        simp only [needK, Nat.reduceLeDiff] at hf
        simp [pKind, printKind, lead_print e h (t := tSemi) rfl (by simp) rest, pGeneric_expr e h f' hf rest, normK]
      | assign v op e =>
        simp only [OKK, needK, Bool.and_eq_true, Nat.reduceLeDiff] at h hf
        have hl : lead (varToks v ++ op.tok :: (printE true e ++ tSemi :: rest)) = .generic :=
          lead_print (.var v) h.1 (cl_aop op).2.2.1 (cl_aop op).2.1 _
        simp [pKind, printKind, hl, pGeneric_assign v op e h.1 h.2 f' hf rest, normK]
      | decl ty vars =>
        simp only [OKK, needK, Bool.and_eq_true, Nat.reduceLeDiff] at h hf
        have hnlp : hd (declToks vars ++ tSemi :: rest) ≠ some .lp := by
          by_cases hne : vars = []
          · subst hne; simp [declToks]
          · obtain ⟨w, r0, hw, hid⟩ := declToks_head vars hne h.2 (tSemi :: rest)
            rw [hw]; simp [cl_ident hid]
        simp [pKind, printKind, lead, hnlp, pDecl_print ty vars h.1 h.2 f' hf rest, normK]
      | callSub atSym as fn args =>
        simp only [OKK, needK, Bool.and_eq_true, Nat.reduceLeDiff] at h hf
        cases atSym with
        | true =>
          simp [pKind, printKind, lead, leadByClass, pAtCall_print as fn args h.1.1.1 h.1.1.2 h.1.2 f' hf rest, normK]
        | false =>
          have hne : as ≠ .none := by
            intro hh; subst hh; simp at h
          simp [pKind, printKind, lead, sk_ident h.1.1.1, leadByClass, cl_ident h.1.1.1,
            pGeneric_callSub as fn args h.1.1.1 h.1.1.2 h.1.2 hne f' hf rest, normK]
      | label n =>
        have hn : identOK n = true := h
        simp [pKind, printKind, lead, sk_ident hn, leadByClass, cl_ident hn, normK]
      | interrupt e =>
        simp only [needK, Nat.reduceLeDiff] at hf
        have hx := exprAt_print e h false f' hf (t := tRb) (by simp [closes])
        simp [pKind, lead, printKind, hx, normK]
      | absTime t =>
        rcases shape_printI32 t with ⟨r, hr, hv⟩ | ⟨hr, hv⟩
        · simp [pKind, printKind, lead, leadByClass, hr, hv, normK]
        · simp [pKind, printKind, lead, leadByClass, hr, hv, normK]
      | relTime d =>
        simp only [OKK, needK, Bool.and_eq_true, Nat.reduceLeDiff] at h hf
        have hx := exprNCAt_print d h.1 f' hf (t := tColon) (by simp [stopsTerm]) (by simp [binOpOf])
        simp [pKind, printKind, lead, leadByClass, hx, normK]
    · intro d k hd' hk rest hf hne
      have ihk := ih.kind k hk rest (Nat.le_of_succ_le_succ hf) hne
      cases d with
      | none => simp only [diffToks, List.nil_append, pStmt, (pKind_head ihk).no_label, ihk]
      | some s =>
        have hph : k.isPhysical = true := hd'
        simp [diffToks, pStmt, diffLabelAt, (string_print_lex_parse _).2, ihk, normK_isPhysical, hph]
    · intro b h hf rest
      cases b with
      | nil => simp [printStmts, pItemsB, normB]
      | cons d k b =>
        simp only [OKB, needB, Bool.and_eq_true, Nat.reduceLeDiff, Nat.max_le] at h hf
        have ihb := ih.block b h.2 hf.2 rest
        have hst := ih.stmt d k h.1.1 h.1.2 (printStmts b ++ tRbrace :: rest) hf.1 (pItemsB_head ihb)
        have hhead := (pStmt_head hst).not_rbrace
        simp [printStmts, pItemsB, hhead, hst, ihb, normB]
    · intro c h rest hf hne
      cases c with
      | nil => simp [printChain, pChain, hne, normC]
      | els b =>
        simp only [needC, Nat.reduceLeDiff] at hf
        have ihb := ih.block b h hf
        simp [printChain, braces, pChain, ihb, normC]
      | elif kw c b ch =>
        simp only [OKC, needC, Bool.and_eq_true, Nat.reduceLeDiff, Nat.max_le] at h hf
        have hp := pParenExpr_print c h.1.1 f' hf.1
        have ihb := ih.block b h.1.2 hf.2.1
        have ihc := ih.chain ch h.2 rest hf.2.2 hne
        cases kw <;> simp [printChain, braces, pChain, hp, ihb, ihc, normC]

theorem pKind_print : ∀ (k : Kind), OKK k = true → ∀ (f : Nat) (rest : List Tok), needK k ≤ f → hs rest ≠ some .kElse →
    pKind f (printKind k ++ rest) = some (normK k, rest) :=
  fun k h f rest hf hne => (print_parse_fuel f).kind k h rest hf hne

theorem pItemsB_print : ∀ (b : Block), OKB b = true → ∀ (f : Nat) (rest : List Tok), needB b ≤ f →
    pItemsB f (printStmts b ++ tRbrace :: rest) = some (normB b, rest) :=
  fun b h f rest hf => (print_parse_fuel f).block b h hf rest

theorem pChain_print : ∀ (c : Chain), OKC c = true → ∀ (f : Nat) (rest : List Tok), needC c ≤ f → hs rest ≠ some .kElse →
    pChain f (printChain c ++ rest) = some (normC c, rest) :=
  fun c h f rest hf hne => (print_parse_fuel f).chain c h rest hf hne

theorem needD_le : ∀ (vars : List (Var × Option Expr)), declOK vars = true → needD vars ≤ 40 * (declToks vars).length + 20 := by
  intro vars
  induction vars with
  | nil => intro _; simp [needD]
  | cons x vs ih =>
    obtain ⟨v, oe⟩ := x
    have hv := varToks_len v
    cases oe with
    | none =>
      intro h
      simp only [declOK, Bool.and_eq_true] at h
      have ih := ih h.2
      simp only [needD, declToks, List.length_append]
      omega
    | some e =>
      intro h
      simp only [declOK, Bool.and_eq_true] at h
      have ih := ih h.2
      have h1 := le_len (cost_le e h.1.2)
      simp only [needD, declToks, List.length_append, List.length_cons]
      omega

theorem printKind_len (k : Kind) (h : OKK k = true) : 1 ≤ (printKind k).length := by
  have hp := pKind_print k h (needK k) [] (Nat.le_refl _) (by simp)
  cases hk : printKind k with
  | nil => rw [hk, List.nil_append, pKind_nil] at hp; cases hp
  | cons t r => simp

mutual
theorem needK_le : ∀ (k : Kind), OKK k = true → needK k ≤ 40 * (printKind k).length + 20
  | .jump _, _ | .ret none, _ | .label _, _ | .absTime _, _ => by simp [needK]
  | .ret (some e), h | .expr e, h | .interrupt e, h => by
    have h1 := le_len (cost_le e h)
    simp only [needK, printKind, List.length_append, List.length_cons, List.length_nil]
    omega
  | .condJump kw c j, h => by
    simp only [OKK, Bool.and_eq_true] at h
    have h1 := cost_le c h.1
    simp only [needK, printKind, List.length_append, List.length_cons]
    omega
  | .condChain kw c b ch, h => by
    simp only [OKK, Bool.and_eq_true] at h
    have h1 := cost_le c h.1.1
    have h2 := needB_le b h.1.2
    have h3 := needC_le ch h.2
    simp only [needK, printKind, braces, List.length_append, List.length_cons, List.length_nil, max_add_le_iff]
    omega
  | .loop b, h | .block b, h => by
    have h2 := needB_le b h
    simp only [needK, printKind, braces, List.length_append, List.length_cons, List.length_nil]
    omega
  | .while_ c b, h => by
    simp only [OKK, Bool.and_eq_true] at h
    have h1 := cost_le c h.1
    have h2 := needB_le b h.2
    simp only [needK, printKind, braces, List.length_append, List.length_cons, List.length_nil, max_add_le_iff]
    omega
  | .doWhile b c, h => by
    simp only [OKK, Bool.and_eq_true] at h
    have h1 := cost_le c h.2
    have h2 := needB_le b h.1
    simp only [needK, printKind, braces, List.length_append, List.length_cons, List.length_nil, max_add_le_iff]
    omega
  | .times clb n b, h => by
    simp only [OKK, Bool.and_eq_true] at h
    have h1 := cost_le n h.1.2
    have h2 := needB_le b h.2
    simp only [needK, printKind, braces, List.length_append, List.length_cons, List.length_nil, max_add_le_iff]
    omega
  | .assign v op e, h => by
    simp only [OKK, Bool.and_eq_true] at h
    have h1 := cost_le e h.2
    simp only [needK, printKind, List.length_append, List.length_cons, List.length_nil]
    omega
  | .decl ty vars, h => by
    simp only [OKK, Bool.and_eq_true] at h
    have h1 := needD_le vars h.2
    simp only [needK, printKind, List.length_append, List.length_cons, List.length_nil]
    omega
  | .callSub atSym as fn args, h => by
    simp only [OKK, Bool.and_eq_true] at h
    have h1 := costAs_le args h.1.1.2
    have h2 : needAsync as ≤ 40 * (asyncToks as).length := by
      cases as with
      | none | plain => simp [needAsync]
      | id e =>
        have h1 := le_len (cost_le e h.1.2)
        simp only [needAsync, asyncToks, List.length_cons]
        omega
    simp only [needK, printKind, List.length_append, List.length_cons, List.length_nil, max_add_le_iff]
    omega
  | .relTime d, h => by
    simp only [OKK, Bool.and_eq_true] at h
    have h1 := le_len (cost_le d h.1)
    simp only [needK, printKind, List.length_append, List.length_cons, List.length_nil]
    omega
theorem needB_le : ∀ (b : Block), OKB b = true → needB b ≤ 40 * (printStmts b).length + 40
  | .nil, _ => by simp [needB]
  | .cons d k b, h => by
    simp only [OKB, Bool.and_eq_true] at h
    have h1 := needK_le k h.1.2
    have h2 := needB_le b h.2
    have h3 := printKind_len k h.1.2
    simp only [needB, printStmts, List.length_append]
    omega
theorem needC_le : ∀ (c : Chain), OKC c = true → needC c ≤ 40 * (printChain c).length + 40
  | .nil, _ => by simp [needC]
  | .els b, h => by
    have h2 := needB_le b h
    simp only [needC, printChain, braces, List.length_append, List.length_cons, List.length_nil]
    omega
  | .elif kw c b ch, h => by
    simp only [OKC, Bool.and_eq_true] at h
    have h1 := cost_le c h.1.1
    have h2 := needB_le b h.1.2
    have h3 := needC_le ch h.2
    simp only [needC, printChain, braces, List.length_append, List.length_cons, List.length_nil, max_add_le_iff]
    omega
end

theorem stmt_print_parse_in_context (s : Stmt) (h : OKS s = true) (fuel : Nat) (hf : needK s.kind + 1 ≤ fuel)
    (rest : List Tok) (hne : hs rest ≠ some .kElse) :
    pStmt fuel (printStmt s ++ rest) = some ((s.diff, normK s.kind), rest) := by
  simp only [OKS, Bool.and_eq_true] at h
  simpa [printStmt] using (print_parse_fuel fuel).stmt s.diff s.kind h.1 h.2 rest hf hne

/-- **C08, statements: printed tokens parse back to the same statement** up to `normS`: the same
kind with the same labels, jump targets and times, assign-ops, declared variables, nested blocks
statement by statement, `else` parts on the same chain, and every embedded expression as
`expr_print_parse` returns it. -/
theorem stmt_print_parse (s : Stmt) (h : OKS s = true) : parseStmt (printStmt s) = some (normS s) := by
  have hk : OKK s.kind = true := by simp only [OKS, Bool.and_eq_true] at h; exact h.2
  have hb := needK_le s.kind hk
  have hlen : (printKind s.kind).length ≤ (printStmt s).length := by simp [printStmt]
  have := stmt_print_parse_in_context s h (stmtFuel (printStmt s)) (by simp only [stmtFuel]; omega) [] (by simp)
  simp only [List.append_nil] at this
  simp [parseStmt, parseStmtFuel, this, normS]

/-- **C08, blocks: a printed block parses back to the same block**, every statement of it in order -/
theorem block_print_parse (b : Block) (h : OKB b = true) : parseBlock (printBlock b) = some (normB b) := by
  have hb := needB_le b h
  have := pItemsB_print b h (stmtFuel (printBlock b)) []
    (by simp only [stmtFuel, printBlock, braces, List.length_cons, List.length_append]; omega)
  simp only [printBlock, braces] at this
  simp [parseBlock, parseBlockFuel, printBlock, braces, this]

/-- on text: when the joined text lexes to the written tokens (compared with the real lexer on
every generated statement, `stoks`), the printed text parses back to the same statement -/
theorem stmt_print_parse_text (s : Stmt) (h : OKS s = true) (text : List Char)
    (hl : lex text = (printStmt s, .eof)) : parseStmtText text = some (normS s) := by
  unfold parseStmtText
  rw [hl]
  exact stmt_print_parse s h

/-- the literals of the expression print without a sign and carry no radix hint
(`expr_print_idempotent`) -/
def idemE (e : Expr) : Bool := NoNegLit e && HintFree e

def idemDecl : List (Var × Option Expr) → Bool
  | [] => true
  | (_, none) :: rest => idemDecl rest
  | (_, some e) :: rest => idemE e && idemDecl rest

def idemAsync : Async → Bool
  | .id e => idemE e
  | _ => true

mutual
/-- every embedded expression is inside the fragment of `expr_print_idempotent`, and an explicit
sub call carries the `@` the parser always sets -/
def IdemK : Kind → Bool
  | .jump _ => true
  | .ret none => true
  | .ret (some e) => idemE e
  | .condJump _ c _ => idemE c
  | .condChain _ c b rest => idemE c && IdemB b && IdemC rest
  | .loop b => IdemB b
  | .while_ c b => idemE c && IdemB b
  | .doWhile b c => IdemB b && idemE c
  | .times _ n b => idemE n && IdemB b
  | .expr e => idemE e
  | .block b => IdemB b
  | .assign _ _ e => idemE e
  | .decl _ vars => idemDecl vars
  | .callSub atSym as _ args => atSym && idemAsync as && NoNegLitAs args && HintFreeAs args
  | .label _ => true
  | .interrupt e => idemE e
  | .absTime _ => true
  | .relTime d => idemE d
def IdemB : Block → Bool
  | .nil => true
  | .cons _ k rest => IdemK k && IdemB rest
def IdemC : Chain → Bool
  | .nil => true
  | .els b => IdemB b
  | .elif _ c b rest => idemE c && IdemB b && IdemC rest
end

theorem printE_norm_idem (e : Expr) (sup : Bool) (h : idemE e = true) : printE sup (norm e) = printE sup e := by
  simp only [idemE, Bool.and_eq_true] at h
  exact print_norm e sup h.1 h.2

theorem normDecl_isEmpty (vars : List (Var × Option Expr)) : (normDecl vars).isEmpty = vars.isEmpty := by
  cases vars with
  | nil => rfl
  | cons x xs => obtain ⟨v, oe⟩ := x; cases oe <;> rfl

theorem declToks_norm : ∀ (vars : List (Var × Option Expr)), idemDecl vars = true → declToks (normDecl vars) = declToks vars
  | [], _ => rfl
  | (v, none) :: vs, h => by simp [normDecl, declToks, declToks_norm vs h, normDecl_isEmpty]
  | (v, some e) :: vs, h => by
    simp only [idemDecl, Bool.and_eq_true] at h
    simp [normDecl, declToks, declToks_norm vs h.2, normDecl_isEmpty, printE_norm_idem e false h.1]

mutual
theorem printKind_norm : ∀ (k : Kind), IdemK k = true → printKind (normK k) = printKind k
  | .jump _, _ | .ret none, _ | .label _, _ | .absTime _, _ => rfl
  | .ret (some e), h | .expr e, h | .interrupt e, h | .relTime e, h => by
    simp [normK, printKind, printE_norm_idem e false h]
  | .condJump _ e _, h | .assign _ _ e, h => by simp [normK, printKind, printE_norm_idem e true h]
  | .condChain kw c b ch, h => by
    simp only [IdemK, Bool.and_eq_true] at h
    simp [normK, printKind, printE_norm_idem c true h.1.1, printStmts_norm b h.1.2, printChain_norm ch h.2]
  | .loop b, h | .block b, h => by simp [normK, printKind, printStmts_norm b h]
  | .while_ c b, h => by
    simp only [IdemK, Bool.and_eq_true] at h
    simp [normK, printKind, printE_norm_idem c true h.1, printStmts_norm b h.2]
  | .doWhile b c, h => by
    simp only [IdemK, Bool.and_eq_true] at h
    simp [normK, printKind, printE_norm_idem c true h.2, printStmts_norm b h.1]
  | .times clb n b, h => by
    simp only [IdemK, Bool.and_eq_true] at h
    simp [normK, printKind, printE_norm_idem n true h.1, printStmts_norm b h.2]
  | .decl ty vars, h => by simp [normK, printKind, declToks_norm vars h]
  | .callSub atSym as fn args, h => by
    simp only [IdemK, Bool.and_eq_true] at h
    have ha : asyncToks (normAsync as) = asyncToks as := by
      cases as with
      | none | plain => rfl
      | id e => simp [normAsync, asyncToks, printE_norm_idem e false h.1.1.2]
    simp [normK, printKind, h.1.1.1, ha, print_normAs args h.1.2 h.2]
theorem printStmts_norm : ∀ (b : Block), IdemB b = true → printStmts (normB b) = printStmts b
  | .nil, _ => rfl
  | .cons d k b, h => by
    simp only [IdemB, Bool.and_eq_true] at h
    simp [normB, printStmts, printKind_norm k h.1, printStmts_norm b h.2]
theorem printChain_norm : ∀ (c : Chain), IdemC c = true → printChain (normC c) = printChain c
  | .nil, _ => rfl
  | .els b, h => by simp [normC, printChain, printStmts_norm b h]
  | .elif kw c b ch, h => by
    simp only [IdemC, Bool.and_eq_true] at h
    simp [normC, printChain, printE_norm_idem c true h.1.1, printStmts_norm b h.1.2, printChain_norm ch h.2]
end

/-- **C08, statements: printing the re-parsed statement gives the same tokens again** -/
theorem stmt_print_idempotent (s : Stmt) (h : IdemK s.kind = true) : printStmt (normS s) = printStmt s := by
  simp [printStmt, normS, printKind_norm s.kind h]

theorem block_print_idempotent (b : Block) (h : IdemB b = true) : printBlock (normB b) = printBlock b := by
  simp [printBlock, printStmts_norm b h]

theorem stmt_print_parse_print (s : Stmt) (hok : OKS s = true) (h : IdemK s.kind = true) :
    ∃ s', parseStmt (printStmt s) = some s' ∧ printStmt s' = printStmt s ∧ parseStmt (printStmt s') = some s' :=
  print_parse_print (stmt_print_parse s hok) (stmt_print_idempotent s h)

theorem block_print_parse_print (b : Block) (hok : OKB b = true) (h : IdemB b = true) :
    ∃ b', parseBlock (printBlock b) = some b' ∧ printBlock b' = printBlock b ∧ parseBlock (printBlock b') = some b' :=
  print_parse_print (block_print_parse b hok) (block_print_idempotent b h)

end TruthModel.C08
