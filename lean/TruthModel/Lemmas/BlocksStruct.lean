import TruthModel.Lemmas.Blocks
/- C06: the generated code.  The loop forms have one layout (`lay`), the statements without a body become one flat
statement each (`Stmt.flat`); with these two groupings one induction principle over statements (`Stmt.induct`) gives: the
generated labels are distinct and lie in the construct's gensym interval (`fresh`), the code carries the times of the time
pass (`timed`), it keeps every call and time label in order (`kept_all`). -/
namespace TruthModel.Blocks

def Stmt.isLoop : Stmt → Bool
  | .loop _ => true
  | .while_ _ _ => true
  | .doWhile _ _ => true
  | .times _ _ _ => true
  | _ => false

@[elab_as_elim] theorem Stmt.loopCases {motive : (s : Stmt) → s.isLoop = true → Prop}
    (loop : ∀ b, motive (.loop b) rfl) (doWhile : ∀ c b, motive (.doWhile c b) rfl)
    (while_ : ∀ c b, motive (.while_ c b) rfl) (timesN : ∀ count b, motive (.times none count b) rfl)
    (timesS : ∀ x count b, motive (.times (some x) count b) rfl) (s : Stmt) (h : s.isLoop = true) : motive s h := by
  cases s with
  | loop b => exact loop b
  | doWhile c b => exact doWhile c b
  | while_ c b => exact while_ c b
  | times clob count b =>
    cases clob with
    | none => exact timesN count b
    | some x => exact timesS x count b
  | _ => cases h

theorem body_of_loop (b : List Stmt) : (Stmt.loop b).body = b := rfl
theorem body_of_doWhile (c : Expr) (b : List Stmt) : (Stmt.doWhile c b).body = b := rfl
theorem body_of_while (c : Expr) (b : List Stmt) : (Stmt.while_ c b).body = b := rfl
theorem body_of_times (x : Option Nat) (c : Expr) (b : List Stmt) : (Stmt.times x c b).body = b := rfl

/-- The code of a loop statement is `head; label lp; body; jmp; tail; label loop_end` for every loop form; `lay` gives
the parts (it is used on loop statements only; the last arm is never reached).  `label lp; body; jmp` is
`desugar_loop_body`, `head` / `tail` what `desugar_conditional_region` (`while`) and `desugar_times` put around it (the
`decl` / `scopeEnd` of a `times` without counter variable: the `Times` arm of `desugar_block`, around that call),
`label loop_end` the `@loop_end#` that `BreakContinueToGotoVisitor` inserts behind the statement. -/
structure Lay where
  head : List AF
  lp : Nat
  nb : Nat           -- gensym counter at the start of the body
  jmp : FStmt        -- the back jump
  tail : List AF

def lay (k : CJ) (n : Nat) (lt : Int) : Stmt → Lay
  | .loop _ => ⟨[], n + 1, n + 2, .goto (n + 1), []⟩
  | .doWhile c _ => ⟨[], n + 1, n + 2, .cjmp true c (n + 1), []⟩
  | .while_ c b =>
    ⟨[(lt, .cjmp false c (n + 1))], n + 2, n + 3, .cjmp true c (n + 2), [(endL lt b, .label (n + 1))]⟩
  | .times none count b =>
    ⟨[(lt, .decl (n + 1)), (lt, .assign (.tmp (n + 1)) count)] ++ zeroTest lt (.tmp (n + 1)) (n + 2) count,
      n + 3, n + 4, .cntjmp k (.tmp (n + 1)) (n + 3), [(endL lt b, .label (n + 2)), (endL lt b, .scopeEnd (n + 1))]⟩
  | .times (some x) count b =>
    ⟨[(lt, .assign (.reg x) count)] ++ zeroTest lt (.reg x) (n + 1) count,
      n + 2, n + 3, .cntjmp k (.reg x) (n + 2), [(endL lt b, .label (n + 1))]⟩
  | _ => ⟨[], 0, 0, .nop, []⟩

theorem desugarS_loop (k : CJ) (brk n : Nat) (lt : Int) (s : Stmt) (h : s.isLoop = true) :
    desugarS k brk n lt s =
      ((lay k n lt s).head ++ (lt, .label (lay k n lt s).lp) ::
        ((desugarB k n (lay k n lt s).nb lt s.body).1 ++
          (endL lt s.body, (lay k n lt s).jmp) ::
            ((lay k n lt s).tail ++ [(endL lt s.body, .label n)])),
       (desugarB k n (lay k n lt s).nb lt s.body).2) := by
  cases s, h using Stmt.loopCases with
  | loop b | doWhile c b | while_ c b => rfl
  | timesN count b | timesS x count b =>
    simp only [desugarS, lay, Stmt.body, desugarB, List.append_assoc, List.cons_append, List.nil_append]

theorem endS_loop (lt : Int) (s : Stmt) (h : s.isLoop = true) : endS lt s = endL lt s.body := by
  cases s, h using Stmt.loopCases with
  | loop b | doWhile c b | while_ c b | timesN c b | timesS x c b => rfl

def Stmt.isAtom : Stmt → Bool
  | .call _ _ => true
  | .assign _ _ => true
  | .tabs _ => true
  | .trel _ => true
  | .brk => true
  | .cbrk _ _ => true
  | _ => false

/-- the flat statement an atom becomes; `brk` is the label a `break` jumps to -/
def Stmt.flat (brk : Nat) : Stmt → FStmt
  | .call op args => .call op args
  | .assign r e => .assign (.reg r) e
  | .tabs t => .tabs t
  | .trel d => .trel d
  | .brk => .goto brk
  | .cbrk isIf c => .cjmp isIf c brk
  | _ => .nop

theorem desugarS_atom (k : CJ) (brk n : Nat) (lt : Int) {s : Stmt} (h : s.isAtom = true) :
    desugarS k brk n lt s = ([(stmtTime lt s, s.flat brk)], n) ∧ (∀ l, s.flat brk ≠ .label l) ∧
      (s.flat brk).time lt = stmtTime lt s ∧ endS lt s = stmtTime lt s := by
  cases s with
  | call op args | assign r e | tabs t | trel d | brk | cbrk isIf c => exact ⟨rfl, (fun _ h => nomatch h), rfl, rfl⟩
  | _ => cases h

theorem desugarL_cons_single {k : CJ} {brk n : Nat} {lt : Int} {s : Stmt} {a : AF}
    (h : desugarS k brk n lt s = ([a], n)) (ss : List Stmt) :
    desugarL k brk n lt (s :: ss) =
      (a :: (desugarL k brk n (endS lt s) ss).1, (desugarL k brk n (endS lt s) ss).2) := by
  simp only [desugarL, h, List.cons_append, List.nil_append]

theorem desugarL_block (k : CJ) (brk n : Nat) (lt : Int) (b ss : List Stmt) :
    desugarL k brk n lt (.block b :: ss) =
      ((desugarB k brk n lt b).1 ++ (desugarL k brk (desugarB k brk n lt b).2 (endL lt b) ss).1,
        (desugarL k brk (desugarB k brk n lt b).2 (endL lt b) ss).2) := by
  simp only [desugarL, desugarS, endS, desugarB]

theorem desugarB_append (k : CJ) (brk n : Nat) (lt : Int) (b : List Stmt) (post : List AF) :
    (desugarB k brk n lt b).1 ++ post =
      (lt, .nop) :: ((desugarL k brk n lt b).1 ++ (endL lt b, .nop) :: post) := by
  simp only [desugarB, bookend, List.append_assoc, List.cons_append, List.nil_append]

theorem Stmt.induct {PS : Stmt → Prop} {PL : List Stmt → Prop} {PC : Chain → Prop}
    (atom : ∀ s, s.isAtom = true → PS s) (block : ∀ b, PL b → PS (.block b)) (cond : ∀ ch, PC ch → PS (.cond ch))
    (loop : ∀ s, s.isLoop = true → PL s.body → PS s)
    (nil : PL []) (cons : ∀ s ss, PS s → PL ss → PL (s :: ss))
    (none : PC .none) (els : ∀ b, PL b → PC (.els b))
    (elif : ∀ isIf c thn rest, PL thn → PC rest → PC (.elif isIf c thn rest)) :
    (∀ s, PS s) ∧ (∀ ss, PL ss) ∧ (∀ ch, PC ch) :=
  ⟨Stmt.rec (motive_1 := PS) (motive_2 := PC) (motive_3 := PL)
      (fun _ _ => atom _ rfl) (fun _ _ => atom _ rfl) (fun _ => atom _ rfl) (fun _ => atom _ rfl) (atom _ rfl)
      (fun _ _ => atom _ rfl) block cond (fun b => loop (.loop b) rfl) (fun c b => loop (.while_ c b) rfl)
      (fun c b => loop (.doWhile c b) rfl) (fun x c b => loop (.times x c b) rfl) none els elif nil cons,
    Stmt.rec_1 (motive_1 := PS) (motive_2 := PC) (motive_3 := PL)
      (fun _ _ => atom _ rfl) (fun _ _ => atom _ rfl) (fun _ => atom _ rfl) (fun _ => atom _ rfl) (atom _ rfl)
      (fun _ _ => atom _ rfl) block cond (fun b => loop (.loop b) rfl) (fun c b => loop (.while_ c b) rfl)
      (fun c b => loop (.doWhile c b) rfl) (fun x c b => loop (.times x c b) rfl) none els elif nil cons,
    Chain.rec (motive_1 := PS) (motive_2 := PC) (motive_3 := PL)
      (fun _ _ => atom _ rfl) (fun _ _ => atom _ rfl) (fun _ => atom _ rfl) (fun _ => atom _ rfl) (atom _ rfl)
      (fun _ _ => atom _ rfl) block cond (fun b => loop (.loop b) rfl) (fun c b => loop (.while_ c b) rfl)
      (fun c b => loop (.doWhile c b) rfl) (fun x c b => loop (.times x c b) rfl) none els elif nil cons⟩

/-- the labels `ls` were generated while the gensym counter went from `n` to `n'`: they lie in `[n, n')` and are pairwise
distinct.  The simulation uses `n ≤ n'` (bounds of `Frame`) and, once, distinctness of the whole program; the interval is
there so that distinctness survives `++`. -/
def FreshL (n n' : Nat) (ls : List Nat) : Prop := n ≤ n' ∧ (∀ l ∈ ls, n ≤ l ∧ l < n') ∧ ls.Nodup

theorem FreshL.le {n n' : Nat} {ls : List Nat} (h : FreshL n n' ls) : n ≤ n' := h.1

theorem FreshL.nodup {n n' : Nat} {ls : List Nat} (h : FreshL n n' ls) : ls.Nodup := h.2.2

theorem FreshL.mem {n n' l : Nat} {ls : List Nat} (h : FreshL n n' ls) (hl : l ∈ ls) : n ≤ l ∧ l < n' := h.2.1 l hl

theorem FreshL.nil (n : Nat) : FreshL n n [] := ⟨Nat.le_refl n, (fun _ h => nomatch h), List.nodup_nil⟩

theorem FreshL.single (n : Nat) : FreshL n (n + 1) [n] :=
  ⟨Nat.le_succ n, fun l h => by rw [List.mem_singleton.1 h]; exact ⟨Nat.le_refl _, Nat.lt_succ_self _⟩,
    List.nodup_cons.2 ⟨List.not_mem_nil, List.nodup_nil⟩⟩

theorem FreshL.append {n m m' : Nat} {a b : List Nat} (ha : FreshL n m a) (hb : FreshL m m' b) :
    FreshL n m' (a ++ b) := by
  refine ⟨Nat.le_trans ha.le hb.le, fun l hl => ?_, List.nodup_append.2 ⟨ha.nodup, hb.nodup, fun x hx y hy => ?_⟩⟩
  · rcases List.mem_append.1 hl with h | h
    · exact ⟨(ha.mem h).1, Nat.lt_of_lt_of_le (ha.mem h).2 hb.le⟩
    · exact ⟨Nat.le_trans ha.le (hb.mem h).1, (hb.mem h).2⟩
  · rintro rfl
    exact Nat.lt_irrefl _ (Nat.lt_of_lt_of_le (ha.mem hx).2 (hb.mem hy).1)

theorem FreshL.cons {n n' : Nat} {ls : List Nat} (h : FreshL (n + 1) n' ls) : FreshL n n' (n :: ls) :=
  (FreshL.single n).append h

theorem FreshL.perm {n n' : Nat} {a b : List Nat} (ha : FreshL n n' a) (h : a.Perm b) : FreshL n n' b :=
  ⟨ha.le, fun _ hl => ha.mem (h.mem_iff.2 hl), h.nodup_iff.1 ha.nodup⟩

@[simp] theorem bookend_snd (lt tE : Int) (r : List AF × Nat) : (bookend lt tE r).2 = r.2 := rfl
@[simp] theorem labelsOf_bookend (lt tE : Int) (r : List AF × Nat) :
    labelsOf (bookend lt tE r).1 = labelsOf r.1 := by
  simp only [bookend, labelsOf_append]; exact List.append_nil _
@[simp] theorem desugarB_snd (k brk n lt b) : (desugarB k brk n lt b).2 = (desugarL k brk n lt b).2 := rfl
@[simp] theorem labelsOf_desugarB (k brk n lt b) :
    labelsOf (desugarB k brk n lt b).1 = labelsOf (desugarL k brk n lt b).1 := by simp [desugarB]

@[simp] theorem labelsOf_zeroTest (lt v l c) : labelsOf (zeroTest lt v l c) = [] := by
  unfold zeroTest; split <;> rfl
@[simp] theorem labelsOf_gotoEnd (t ve ch) : labelsOf (gotoEnd t ve ch) = [] := by
  cases ch <;> rfl

theorem FreshL.push {n m lp : Nat} {ls : List Nat} (h : FreshL n m ls) (hm : m ≤ lp) : FreshL n (lp + 1) (lp :: ls) := by
  refine ⟨Nat.le_succ_of_le (Nat.le_trans h.le hm), fun l hl => ?_, List.nodup_cons.2 ⟨fun hl => ?_, h.nodup⟩⟩
  · rcases List.mem_cons.1 hl with rfl | hl
    · exact ⟨Nat.le_trans h.le hm, Nat.lt_succ_self _⟩
    · exact ⟨(h.mem hl).1, Nat.lt_succ_of_lt (Nat.lt_of_lt_of_le (h.mem hl).2 hm)⟩
  · exact Nat.lt_irrefl _ (Nat.lt_of_lt_of_le (h.mem hl).2 hm)

theorem fresh_loop (k : CJ) (brk n : Nat) (lt : Int) (s : Stmt) (h : s.isLoop = true)
    (ih : FreshL (lay k n lt s).nb (desugarL k n (lay k n lt s).nb lt s.body).2
      (labelsOf (desugarL k n (lay k n lt s).nb lt s.body).1)) :
    FreshL n (desugarS k brk n lt s).2 (labelsOf (desugarS k brk n lt s).1) := by
  have hl : labelsOf (lay k n lt s).head = [] ∧ (∀ l, (lay k n lt s).jmp ≠ .label l) ∧
      FreshL n (lay k n lt s).nb ((lay k n lt s).lp :: (labelsOf (lay k n lt s).tail ++ [n])) := by
    cases s, h using Stmt.loopCases with
    | loop b | doWhile c b => exact ⟨rfl, (fun _ h => nomatch h), (FreshL.single n).push (Nat.le_refl _)⟩
    | while_ c b => exact ⟨rfl, (fun _ h => nomatch h), ((FreshL.single n).push (Nat.le_refl _)).push (Nat.le_refl _)⟩
    | timesN count b =>
      exact ⟨labelsOf_zeroTest _ _ _ _, (fun _ h => nomatch h), ((FreshL.single n).push (Nat.le_succ _)).push (Nat.le_refl _)⟩
    | timesS x count b =>
      exact ⟨labelsOf_zeroTest _ _ _ _, (fun _ h => nomatch h), ((FreshL.single n).push (Nat.le_refl _)).push (Nat.le_refl _)⟩
  obtain ⟨hhead, hjmp, hown⟩ := hl
  rw [desugarS_loop k brk n lt s h]
  simp only [labelsOf_append, labelsOf_cons_label, labelsOf_cons_other _ _ hjmp, labelsOf_desugarB, desugarB_snd,
    hhead, labelsOf_nil, List.nil_append]
  exact (hown.append ih).perm (List.Perm.cons _ List.perm_append_comm)

theorem fresh (k : CJ) :
    (∀ (s : Stmt) (brk n : Nat) (lt : Int),
      FreshL n (desugarS k brk n lt s).2 (labelsOf (desugarS k brk n lt s).1)) ∧
    (∀ (ss : List Stmt) (brk n : Nat) (lt : Int),
      FreshL n (desugarL k brk n lt ss).2 (labelsOf (desugarL k brk n lt ss).1)) ∧
    (∀ (ch : Chain) (brk ve n : Nat) (lt : Int),
      FreshL n (desugarC k brk ve n lt ch).2 (labelsOf (desugarC k brk ve n lt ch).1)) := by
  refine Stmt.induct ?_ ?_ ?_ ?_ ?_ ?_ ?_ ?_ ?_
  · intro s h brk n lt
    obtain ⟨hc, hl, _⟩ := desugarS_atom k brk n lt h
    rw [hc, labelsOf_cons_other _ _ hl]
    exact FreshL.nil n
  · intro b ih brk n lt
    simp only [desugarS, labelsOf_bookend, bookend_snd]
    exact ih brk n lt
  · intro ch ih brk n lt
    simp only [desugarS, labelsOf_append, labelsOf_cons_label, labelsOf_nil]
    exact (ih brk n (n + 1) lt).cons.perm (List.perm_append_singleton _ _).symm
  · intro s h ih brk n lt
    exact fresh_loop k brk n lt s h (ih n _ lt)
  · intro brk n lt
    exact FreshL.nil n
  · intro s ss ihs ihss brk n lt
    simp only [desugarL, labelsOf_append]
    exact (ihs brk n lt).append (ihss brk _ _)
  · intro brk ve n lt
    exact FreshL.nil n
  · intro b ih brk ve n lt
    simp only [desugarC, labelsOf_bookend, bookend_snd]
    exact ih brk n lt
  · intro isIf c thn rest iht ihr brk ve n lt
    -- `desugarC` opens the link with its test `(lt, .cjmp (!isIf) c n)`, which is no label
    simp only [desugarC, labelsOf_append, labelsOf_cons_label,
      labelsOf_cons_other (f := .cjmp (!isIf) c n) _ _ nofun, labelsOf_bookend, bookend_snd,
      labelsOf_gotoEnd, List.nil_append, List.append_assoc, List.cons_append]
    exact ((iht brk (n + 1) lt).append (ihr brk ve _ (endL lt thn))).cons.perm List.perm_middle.symm

theorem freshL (k : CJ) (brk n : Nat) (lt : Int) (ss : List Stmt) :
    FreshL n (desugarL k brk n lt ss).2 (labelsOf (desugarL k brk n lt ss).1) := (fresh k).2.1 ss brk n lt

theorem freshC (k : CJ) (brk ve n : Nat) (lt : Int) (ch : Chain) :
    FreshL n (desugarC k brk ve n lt ch).2 (labelsOf (desugarC k brk ve n lt ch).1) := (fresh k).2.2 ch brk ve n lt

theorem freshB (k : CJ) (brk n : Nat) (lt : Int) (b : List Stmt) :
    FreshL n (desugarB k brk n lt b).2 (labelsOf (desugarB k brk n lt b).1) := by
  rw [labelsOf_desugarB]; exact freshL k brk n lt b

theorem nodupC (k : CJ) : ∀ (brk ve n : Nat) (lt : Int) (ch : Chain), (labelsOf (desugarC k brk ve n lt ch).1).Nodup :=
  fun brk ve n lt ch => (freshC k brk ve n lt ch).nodup

def flatEnd (lt : Int) : List FStmt → Int
  | [] => lt
  | f :: fs => flatEnd (f.time lt) fs

/-- `code` is what the time pass makes of its own statements from `lt`, ending at `tEnd` -/
def Timed (lt : Int) (code : List AF) (tEnd : Int) : Prop :=
  annot lt (strip code) = code ∧ flatEnd lt (strip code) = tEnd

theorem strip_append (a b : List AF) : strip (a ++ b) = strip a ++ strip b := List.map_append

theorem annot_append (lt : Int) (a b : List FStmt) : annot lt (a ++ b) = annot lt a ++ annot (flatEnd lt a) b := by
  induction a generalizing lt with
  | nil => rfl
  | cons f a ih => simp only [List.cons_append, annot, flatEnd, ih]

theorem flatEnd_append (lt : Int) (a b : List FStmt) : flatEnd lt (a ++ b) = flatEnd (flatEnd lt a) b := by
  induction a generalizing lt with
  | nil => rfl
  | cons f a ih => exact ih _

theorem Timed.nil (lt : Int) : Timed lt [] lt := ⟨rfl, rfl⟩

theorem Timed.single {lt t : Int} {f : FStmt} (h : f.time lt = t) : Timed lt [(t, f)] t := by
  subst h; exact ⟨rfl, rfl⟩

theorem Timed.append {lt t1 t2 : Int} {a b : List AF} (ha : Timed lt a t1) (hb : Timed t1 b t2) :
    Timed lt (a ++ b) t2 := by
  obtain ⟨ha1, rfl⟩ := ha
  obtain ⟨hb1, rfl⟩ := hb
  exact ⟨by rw [strip_append, annot_append, ha1, hb1], by rw [strip_append, flatEnd_append]⟩

theorem Timed.cons {lt t : Int} {f : FStmt} {rest : List AF} {tEnd : Int} (hf : f.time lt = t)
    (h : Timed t rest tEnd) : Timed lt ((t, f) :: rest) tEnd :=
  (Timed.single hf).append h

theorem timed_bookend {lt tE : Int} {r : List AF × Nat} (h : Timed lt r.1 tE) : Timed lt (bookend lt tE r).1 tE := by
  unfold bookend
  exact Timed.cons rfl (Timed.append h (Timed.cons rfl (Timed.nil _)))

theorem timed_zeroTest (lt v l c) : Timed lt (zeroTest lt v l c) lt := by
  unfold zeroTest; split
  · exact Timed.cons rfl (Timed.nil _)
  · exact Timed.nil _

theorem timed_gotoEnd (t ve ch) : Timed t (gotoEnd t ve ch) t := by
  cases ch <;> first | exact Timed.nil _ | exact Timed.cons rfl (Timed.nil _)

theorem timed_loop (k : CJ) (brk n : Nat) (lt : Int) (s : Stmt) (h : s.isLoop = true)
    (ih : Timed lt (desugarL k n (lay k n lt s).nb lt s.body).1 (endL lt s.body)) :
    Timed lt (desugarS k brk n lt s).1 (endS lt s) := by
  have hl : Timed lt (lay k n lt s).head lt ∧
      (lay k n lt s).jmp.time (endL lt s.body) = endL lt s.body ∧
      Timed (endL lt s.body) (lay k n lt s).tail (endL lt s.body) := by
    cases s, h using Stmt.loopCases with
    | loop b | doWhile c b => exact ⟨Timed.nil _, rfl, Timed.nil _⟩
    | while_ c b => exact ⟨Timed.single rfl, rfl, Timed.single rfl⟩
    | timesN count b =>
      exact ⟨Timed.cons rfl (Timed.cons rfl (timed_zeroTest _ _ _ _)), rfl, Timed.cons rfl (Timed.single rfl)⟩
    | timesS x count b => exact ⟨Timed.cons rfl (timed_zeroTest _ _ _ _), rfl, Timed.single rfl⟩
  obtain ⟨h1, h2, h3⟩ := hl
  rw [desugarS_loop k brk n lt s h, endS_loop lt s h]
  exact Timed.append h1 (Timed.cons rfl (Timed.append (timed_bookend ih) (Timed.cons h2 (Timed.append h3 (Timed.single rfl)))))

theorem timed (k : CJ) :
    (∀ (s : Stmt) (brk n : Nat) (lt : Int), Timed lt (desugarS k brk n lt s).1 (endS lt s)) ∧
    (∀ (ss : List Stmt) (brk n : Nat) (lt : Int), Timed lt (desugarL k brk n lt ss).1 (endL lt ss)) ∧
    (∀ (ch : Chain) (brk ve n : Nat) (lt : Int), Timed lt (desugarC k brk ve n lt ch).1 (endC lt ch)) := by
  refine Stmt.induct ?_ ?_ ?_ ?_ ?_ ?_ ?_ ?_ ?_
  · intro s h brk n lt
    obtain ⟨hc, _, ht, he⟩ := desugarS_atom k brk n lt h
    rw [hc, he]
    exact Timed.single ht
  · intro b ih brk n lt
    simp only [desugarS, endS]
    exact timed_bookend (ih brk n lt)
  · intro ch ih brk n lt
    simp only [desugarS, endS]
    exact Timed.append (ih brk n (n + 1) lt) (Timed.single rfl)
  · intro s h ih brk n lt
    exact timed_loop k brk n lt s h (ih n _ lt)
  · intro brk n lt
    exact Timed.nil lt
  · intro s ss ihs ihss brk n lt
    simp only [desugarL, endL]
    exact Timed.append (ihs brk n lt) (ihss brk _ _)
  · intro brk ve n lt
    exact Timed.nil lt
  · intro b ih brk ve n lt
    simp only [desugarC, endC]
    exact timed_bookend (ih brk n lt)
  · intro isIf c thn rest iht ihr brk ve n lt
    simp only [desugarC, endC]
    exact Timed.append (Timed.append (Timed.append (Timed.append (Timed.single rfl) (timed_bookend (iht brk (n + 1) lt)))
      (timed_gotoEnd _ _ _)) (Timed.single rfl)) (ihr brk ve _ _)

theorem timedS (k : CJ) : ∀ (brk n : Nat) (lt : Int) (s : Stmt), Timed lt (desugarS k brk n lt s).1 (endS lt s) :=
  fun brk n lt s => (timed k).1 s brk n lt

theorem timedL (k : CJ) (brk n : Nat) (lt : Int) (ss : List Stmt) : Timed lt (desugarL k brk n lt ss).1 (endL lt ss) :=
  (timed k).2.1 ss brk n lt

theorem timedC (k : CJ) : ∀ (brk ve n : Nat) (lt : Int) (ch : Chain), Timed lt (desugarC k brk ve n lt ch).1 (endC lt ch) :=
  fun brk ve n lt ch => (timed k).2.2 ch brk ve n lt

def FStmt.isCallOrTime : FStmt → Bool
  | .call _ _ => true
  | .tabs _ => true
  | .trel _ => true
  | _ => false

mutual
def keepS : Stmt → List FStmt
  | .call op args => [.call op args]
  | .tabs t => [.tabs t]
  | .trel d => [.trel d]
  | .block b => keepL b
  | .cond ch => keepC ch
  | .loop b => keepL b
  | .while_ _ b => keepL b
  | .doWhile _ b => keepL b
  | .times _ _ b => keepL b
  | _ => []
def keepL : List Stmt → List FStmt
  | [] => []
  | s :: ss => keepS s ++ keepL ss
def keepC : Chain → List FStmt
  | .none => []
  | .els b => keepL b
  | .elif _ _ thn rest => keepL thn ++ keepC rest
end

def kept (p : List AF) : List FStmt := (strip p).filter FStmt.isCallOrTime

@[simp] theorem kept_nil : kept [] = [] := rfl
@[simp] theorem kept_append (a b : List AF) : kept (a ++ b) = kept a ++ kept b := by simp [kept, strip]
@[simp] theorem kept_cons (a : AF) (p : List AF) :
    kept (a :: p) = (if a.2.isCallOrTime then [a.2] else []) ++ kept p := by
  simp [kept, strip, List.filter_cons]; split <;> simp
@[simp] theorem kept_bookend (lt tE : Int) (r : List AF × Nat) : kept (bookend lt tE r).1 = kept r.1 := by
  simp [bookend, FStmt.isCallOrTime]
@[simp] theorem kept_zeroTest (lt v l c) : kept (zeroTest lt v l c) = [] := by
  unfold zeroTest; split <;> simp [FStmt.isCallOrTime]
@[simp] theorem kept_gotoEnd (t ve ch) : kept (gotoEnd t ve ch) = [] := by
  cases ch <;> simp [gotoEnd, FStmt.isCallOrTime]

theorem kept_single (t : Int) (f : FStmt) : kept [(t, f)] = if f.isCallOrTime then [f] else [] := by
  rw [kept_cons, kept_nil, List.append_nil]

theorem kept_cons_skip {f : FStmt} (t : Int) (p : List AF) (h : f.isCallOrTime = false) :
    kept ((t, f) :: p) = kept p := by
  rw [kept_cons, show (t, f).2 = f from rfl, h]; rfl

theorem keepS_atom (brk : Nat) {s : Stmt} (h : s.isAtom = true) :
    keepS s = if (s.flat brk).isCallOrTime then [s.flat brk] else [] := by
  cases s with
  | call op args | assign r e | tabs t | trel d | brk | cbrk isIf c => rfl
  | _ => cases h

theorem kept_loop (k : CJ) (brk n : Nat) (lt : Int) (s : Stmt) (h : s.isLoop = true)
    (ih : kept (desugarL k n (lay k n lt s).nb lt s.body).1 = keepL s.body) :
    kept (desugarS k brk n lt s).1 = keepS s := by
  have hl : kept (lay k n lt s).head = [] ∧
      (lay k n lt s).jmp.isCallOrTime = false ∧ kept (lay k n lt s).tail = [] ∧
      keepS s = keepL s.body := by
    cases s, h using Stmt.loopCases with
    | loop b | doWhile c b | while_ c b => exact ⟨rfl, rfl, rfl, rfl⟩
    | timesN count b | timesS x count b =>
      exact ⟨by simp only [lay, kept_append, kept_cons, kept_zeroTest, kept_nil]; rfl, rfl, rfl, rfl⟩
  obtain ⟨h1, h2, h3, h4⟩ := hl
  rw [desugarS_loop k brk n lt s h, h4, kept_append, h1, List.nil_append, kept_cons_skip _ _ rfl, kept_append,
    kept_cons_skip _ _ h2, kept_append, h3, List.nil_append, kept_cons_skip _ _ rfl, kept_nil, List.append_nil]
  exact (kept_bookend _ _ _).trans ih

theorem kept_all (k : CJ) :
    (∀ (s : Stmt) (brk n : Nat) (lt : Int), kept (desugarS k brk n lt s).1 = keepS s) ∧
    (∀ (ss : List Stmt) (brk n : Nat) (lt : Int), kept (desugarL k brk n lt ss).1 = keepL ss) ∧
    (∀ (ch : Chain) (brk ve n : Nat) (lt : Int), kept (desugarC k brk ve n lt ch).1 = keepC ch) := by
  refine Stmt.induct ?_ ?_ ?_ ?_ ?_ ?_ ?_ ?_ ?_
  · intro s h brk n lt
    rw [(desugarS_atom k brk n lt h).1, kept_single, keepS_atom brk h]
  · intro b ih brk n lt
    simp only [desugarS, kept_bookend, ih brk n lt, keepS]
  · intro ch ih brk n lt
    simp only [desugarS, kept_append, ih brk n (n + 1) lt, kept_single, keepS]
    exact List.append_nil _
  · intro s h ih brk n lt
    exact kept_loop k brk n lt s h (ih n _ lt)
  · intro brk n lt
    rfl
  · intro s ss ihs ihss brk n lt
    simp only [desugarL, kept_append, keepL, ihs brk n lt, ihss brk _ _]
  · intro brk ve n lt
    rfl
  · intro b ih brk ve n lt
    simp only [desugarC, kept_bookend, ih brk n lt, keepC]
  · intro isIf c thn rest iht ihr brk ve n lt
    simp only [desugarC, kept_append, kept_cons, kept_bookend, kept_gotoEnd, kept_nil, keepC, iht brk (n + 1) lt,
      ihr brk ve _ (endL lt thn), FStmt.isCallOrTime, Bool.false_eq_true, ↓reduceIte, List.nil_append,
      List.append_nil, bookend_snd]

theorem keptS (k : CJ) : ∀ (brk n : Nat) (lt : Int) (s : Stmt), kept (desugarS k brk n lt s).1 = keepS s :=
  fun brk n lt s => (kept_all k).1 s brk n lt

theorem keptL (k : CJ) (brk n : Nat) (lt : Int) (ss : List Stmt) : kept (desugarL k brk n lt ss).1 = keepL ss :=
  (kept_all k).2.1 ss brk n lt

theorem keptC (k : CJ) : ∀ (brk ve n : Nat) (lt : Int) (ch : Chain), kept (desugarC k brk ve n lt ch).1 = keepC ch :=
  fun brk ve n lt ch => (kept_all k).2.2 ch brk ve n lt

end TruthModel.Blocks
