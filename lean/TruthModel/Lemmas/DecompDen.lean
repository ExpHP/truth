/-
C07, semantic half, layer 2: the resolved code of the lowering of a tree, computed structurally
(`denL`): original jumps go where `pos` puts their label, the jumps that `lower` introduces for
loops, cond chains and `break` go to structurally computed code indices.  No fresh label names
appear, so reconstruction steps can be compared by plain equality of `denL`.
-/
import TruthModel.Lemmas.Decomp
import TruthModel.Lemmas.DecompVm
namespace TruthModel.Decomp
open List

def clenAtom : Atom → Nat
  | .label _ => 0
  | _ => 1

/-- a cond block that is followed by another block ends with a jump to the end of the chain -/
def jcount (rest : List Stmt) : Nat :=
  match rest with
  | [] => 0
  | _ => 1

def jtail (e : Nat) (rest : List Stmt) : List Leaf :=
  match rest with
  | [] => []
  | _ => [(none, .jump (.goto e none))]

@[simp] theorem jcount_nil : jcount [] = 0 := rfl
@[simp] theorem jcount_cons (s : Stmt) (ss : List Stmt) : jcount (s :: ss) = 1 := rfl
@[simp] theorem jtail_nil (e : Nat) : jtail e [] = [] := rfl
@[simp] theorem jtail_cons (e : Nat) (s : Stmt) (ss : List Stmt) : jtail e (s :: ss) = [(none, .jump (.goto e none))] := rfl
theorem length_jtail (e : Nat) (rest : List Stmt) : (jtail e rest).length = jcount rest := by cases rest <;> rfl

mutual
/-- the number of code (non-label) leaves of the lowered statement (`length_denS`), counted on the tree: the closing jump of a
loop, the conditional jump of an arm and the jump to the end of the chain behind it are code that `lower` adds -/
def clenS : Stmt → Nat
  | .atom _ a => clenAtom a
  | .node k b =>
    match k with
    | .loop _ => clenL b + 1
    | .doWhile _ _ => clenL b + 1
    | .chain => clenArms b
    | _ => clenL b
def clenL : List Stmt → Nat
  | [] => 0
  | s :: ss => clenS s + clenL ss
def clenArms : List Stmt → Nat
  | [] => 0
  | .node k b :: rest =>
    (match k with
     | .arm _ _ => 1 + clenL b + jcount rest
     | _ => clenL b) + clenArms rest
  | .atom _ a :: rest => clenAtom a + clenArms rest
end

def brkJ (brk : Option Nat) : Jump :=
  match brk with
  | some e => .goto e none
  | none => .brk

/-- `break` goes to the end of the innermost loop, a goto to the position of its label -/
def denJ (pos : Nat → Option Nat) (brk : Option Nat) : Jump → Jump
  | .brk => brkJ brk
  | .goto l t => rj pos (.goto l t)

def denAtom (pos : Nat → Option Nat) (brk : Option Nat) (d : Option String) : Atom → List Leaf
  | .label _ => []
  | .jump j => [(d, .jump (denJ pos brk j))]
  | .condJump kw c j => [(d, .condJump (normCond kw c).1 (normCond kw c).2 (denJ pos brk j))]
  | a => [(d, a)]

def flipKw : Kw → Kw
  | .if_ => .unless
  | .unless => .if_

mutual
/-- `o`: code index at which the statement starts -/
def denS (pos : Nat → Option Nat) (brk : Option Nat) : Stmt → Nat → List Leaf
  | .atom d a, _ => denAtom pos brk d a
  | .node k b, o =>
    match k with
    | .loop _ => denL pos (some (o + clenL b + 1)) b o ++ [(none, .jump (.goto o none))]
    | .doWhile _ c => denL pos (some (o + clenL b + 1)) b o ++ [(none, .condJump .if_ c (.goto o none))]
    | .chain => denArms pos brk (o + clenArms b) b o
    | _ => denL pos brk b o
def denL (pos : Nat → Option Nat) (brk : Option Nat) : List Stmt → Nat → List Leaf
  | [], _ => []
  | s :: ss, o => denS pos brk s o ++ denL pos brk ss (o + clenS s)
/-- `e`: code index of the end of the chain -/
def denArms (pos : Nat → Option Nat) (brk : Option Nat) (e : Nat) : List Stmt → Nat → List Leaf
  | [], _ => []
  | .node k b :: rest, o =>
    match k with
    | .arm kw c =>
      (none, .condJump (normCond (flipKw kw) c).1 (normCond (flipKw kw) c).2
          (.goto (o + 1 + clenL b + jcount rest) none)) ::
        denL pos brk b (o + 1) ++ jtail e rest ++
        denArms pos brk e rest (o + 1 + clenL b + jcount rest)
    | _ => denL pos brk b o ++ denArms pos brk e rest (o + clenL b)
  | .atom d a :: rest, o => denAtom pos none d a ++ denArms pos brk e rest (o + clenAtom a)
end

mutual
/-- every label definition of the tree sits where `pos` says, the backward jump of every loop where `f` says, chains
consist of arms and else blocks.  A loop's id is the index, in the flat block, of the backward jump it was made of
(`Model/Decomp.lean`), so `f` is taken to be "the code index of flat statement number `c`" (`passes_den`); its first user is
the break pass (`BrkOK`, `CurOK`): a label listed as the end of loop `c` stands at `f c + 1`. -/
def InvS (pos : Nat → Option Nat) (f : Nat → Nat) : Stmt → Nat → Prop
  | .atom _ a, o => (match a with | .label l => pos l = some o | _ => True)
  | .node k b, o =>
    match k with
    | .loop id => o + clenL b = f id ∧ InvL pos f b o
    | .doWhile id _ => o + clenL b = f id ∧ InvL pos f b o
    | .chain => InvArms pos f b o
    | _ => InvL pos f b o
def InvL (pos : Nat → Option Nat) (f : Nat → Nat) : List Stmt → Nat → Prop
  | [], _ => True
  | s :: ss, o => InvS pos f s o ∧ InvL pos f ss (o + clenS s)
def InvArms (pos : Nat → Option Nat) (f : Nat → Nat) : List Stmt → Nat → Prop
  | [], _ => True
  | .node k b :: rest, o =>
    match k with
    | .arm _ _ => InvL pos f b (o + 1) ∧ InvArms pos f rest (o + 1 + clenL b + jcount rest)
    | .els => InvL pos f b o ∧ InvArms pos f rest (o + clenL b)
    | _ => False
  | .atom _ _ :: _, _ => False
end

@[simp] theorem clenL_nil : clenL [] = 0 := rfl
@[simp] theorem clenL_cons (s : Stmt) (ss : List Stmt) : clenL (s :: ss) = clenS s + clenL ss := rfl
@[simp] theorem denL_nil (pos brk o) : denL pos brk [] o = [] := rfl
@[simp] theorem denL_cons (pos brk s ss o) : denL pos brk (s :: ss) o = denS pos brk s o ++ denL pos brk ss (o + clenS s) := rfl
@[simp] theorem InvL_nil (pos f o) : InvL pos f [] o = True := rfl
@[simp] theorem InvL_cons (pos f s ss o) : InvL pos f (s :: ss) o = (InvS pos f s o ∧ InvL pos f ss (o + clenS s)) := rfl

theorem clenL_append (a b : List Stmt) : clenL (a ++ b) = clenL a + clenL b := by
  induction a with
  | nil => simp
  | cons s ss ih => simp [ih, Nat.add_assoc]

theorem denL_append (pos brk) (a b : List Stmt) (o : Nat) :
    denL pos brk (a ++ b) o = denL pos brk a o ++ denL pos brk b (o + clenL a) := by
  induction a generalizing o with
  | nil => simp
  | cons s ss ih => simp [ih, Nat.add_assoc]

theorem InvL_append (pos f) (a b : List Stmt) (o : Nat) :
    InvL pos f (a ++ b) o ↔ InvL pos f a o ∧ InvL pos f b (o + clenL a) := by
  induction a generalizing o with
  | nil => simp
  | cons s ss ih => simp [ih, Nat.add_assoc, and_assoc]

@[simp] theorem clenS_atom (d a) : clenS (.atom d a) = clenAtom a := rfl
@[simp] theorem clenS_loop (id b) : clenS (.node (.loop id) b) = clenL b + 1 := rfl
@[simp] theorem clenS_doWhile (id c b) : clenS (.node (.doWhile id c) b) = clenL b + 1 := rfl
@[simp] theorem clenS_chain (b) : clenS (.node .chain b) = clenArms b := rfl
@[simp] theorem clenS_arm (kw c b) : clenS (.node (.arm kw c) b) = clenL b := rfl
@[simp] theorem clenS_els (b) : clenS (.node .els b) = clenL b := rfl

@[simp] theorem denS_atom (pos brk d a o) : denS pos brk (.atom d a) o = denAtom pos brk d a := rfl
@[simp] theorem denS_loop (pos brk id b o) : denS pos brk (.node (.loop id) b) o =
    denL pos (some (o + clenL b + 1)) b o ++ [(none, .jump (.goto o none))] := rfl
@[simp] theorem denS_doWhile (pos brk id c b o) : denS pos brk (.node (.doWhile id c) b) o =
    denL pos (some (o + clenL b + 1)) b o ++ [(none, .condJump .if_ c (.goto o none))] := rfl
@[simp] theorem denS_chain (pos brk b o) : denS pos brk (.node .chain b) o = denArms pos brk (o + clenArms b) b o := rfl
@[simp] theorem denS_arm (pos brk kw c b o) : denS pos brk (.node (.arm kw c) b) o = denL pos brk b o := rfl
@[simp] theorem denS_els (pos brk b o) : denS pos brk (.node .els b) o = denL pos brk b o := rfl

@[simp] theorem InvS_atom (pos f d a o) : InvS pos f (.atom d a) o = (match a with | .label l => pos l = some o | _ => True) := rfl
@[simp] theorem InvS_loop (pos f id b o) : InvS pos f (.node (.loop id) b) o = (o + clenL b = f id ∧ InvL pos f b o) := rfl
@[simp] theorem InvS_doWhile (pos f id c b o) : InvS pos f (.node (.doWhile id c) b) o = (o + clenL b = f id ∧ InvL pos f b o) := rfl
@[simp] theorem InvS_chain (pos f b o) : InvS pos f (.node .chain b) o = InvArms pos f b o := rfl
@[simp] theorem InvS_arm (pos f kw c b o) : InvS pos f (.node (.arm kw c) b) o = InvL pos f b o := rfl
@[simp] theorem InvS_els (pos f b o) : InvS pos f (.node .els b) o = InvL pos f b o := rfl

theorem Kind.arm_or (k : Kind) : (∃ kw c, k = .arm kw c) ∨ ∀ kw c, k ≠ .arm kw c := by
  cases k with
  | arm kw c => exact .inl ⟨kw, c, rfl⟩
  | _ => exact .inr (fun _ _ h => nomatch h)

@[simp] theorem clenArms_nil : clenArms [] = 0 := rfl
@[simp] theorem clenArms_atom (d a rest) : clenArms (.atom d a :: rest) = clenAtom a + clenArms rest := rfl
@[simp] theorem clenArms_arm (kw c b rest) :
    clenArms (.node (.arm kw c) b :: rest) = 1 + clenL b + jcount rest + clenArms rest := rfl
theorem clenArms_other {k : Kind} (hk : ∀ kw c, k ≠ .arm kw c) (b rest) :
    clenArms (.node k b :: rest) = clenL b + clenArms rest := by
  cases k with
  | arm kw c => exact absurd rfl (hk kw c)
  | _ => rfl

@[simp] theorem clenArms_els (b rest) : clenArms (.node .els b :: rest) = clenL b + clenArms rest :=
  clenArms_other (fun _ _ h => by cases h) b rest

@[simp] theorem denArms_nil (pos brk e o) : denArms pos brk e [] o = [] := rfl
@[simp] theorem denArms_atom (pos brk e d a rest o) :
    denArms pos brk e (.atom d a :: rest) o = denAtom pos none d a ++ denArms pos brk e rest (o + clenAtom a) := rfl
@[simp] theorem denArms_arm (pos brk e kw c b rest o) : denArms pos brk e (.node (.arm kw c) b :: rest) o =
    (none, .condJump (normCond (flipKw kw) c).1 (normCond (flipKw kw) c).2 (.goto (o + 1 + clenL b + jcount rest) none)) ::
      denL pos brk b (o + 1) ++ jtail e rest ++ denArms pos brk e rest (o + 1 + clenL b + jcount rest) := rfl
theorem denArms_other {k : Kind} (hk : ∀ kw c, k ≠ .arm kw c) (pos brk e b rest o) :
    denArms pos brk e (.node k b :: rest) o = denL pos brk b o ++ denArms pos brk e rest (o + clenL b) := by
  cases k with
  | arm kw c => exact absurd rfl (hk kw c)
  | _ => rfl

@[simp] theorem denArms_els (pos brk e b rest o) :
    denArms pos brk e (.node .els b :: rest) o = denL pos brk b o ++ denArms pos brk e rest (o + clenL b) :=
  denArms_other (fun _ _ h => by cases h) pos brk e b rest o

@[simp] theorem InvArms_nil (pos f o) : InvArms pos f [] o = True := rfl
@[simp] theorem InvArms_atom (pos f d a rest o) : InvArms pos f (.atom d a :: rest) o = False := rfl
@[simp] theorem InvArms_arm (pos f kw c b rest o) : InvArms pos f (.node (.arm kw c) b :: rest) o =
    (InvL pos f b (o + 1) ∧ InvArms pos f rest (o + 1 + clenL b + jcount rest)) := rfl
@[simp] theorem InvArms_els (pos f b rest o) : InvArms pos f (.node .els b :: rest) o =
    (InvL pos f b o ∧ InvArms pos f rest (o + clenL b)) := rfl

theorem InvArms.node_cases {pos f k b rest o} (h : InvArms pos f (.node k b :: rest) o) :
    (∃ kw c, k = .arm kw c ∧ InvL pos f b (o + 1) ∧ InvArms pos f rest (o + 1 + clenL b + jcount rest)) ∨
    (k = .els ∧ InvL pos f b o ∧ InvArms pos f rest (o + clenL b)) := by
  cases k with
  | arm kw c => rw [InvArms_arm] at h; exact .inl ⟨kw, c, rfl, h⟩
  | els => rw [InvArms_els] at h; exact .inr ⟨rfl, h⟩
  | _ => exact h.elim

theorem length_denAtom (pos brk d a) : (denAtom pos brk d a).length = clenAtom a := by
  cases a <;> rfl

mutual
theorem length_denS (pos) : ∀ (brk : Option Nat) (s : Stmt) (o : Nat), (denS pos brk s o).length = clenS s
  | brk, .atom d a, o => by simp [length_denAtom]
  | brk, .node k b, o => by
    cases k with
    | loop id => simp [length_denL pos _ b o]
    | doWhile id c => simp [length_denL pos _ b o]
    | chain => simp [length_denArms pos brk _ b o]
    | arm kw c => simp [length_denL pos brk b o]
    | els => simp [length_denL pos brk b o]
theorem length_denL (pos) : ∀ (brk : Option Nat) (ss : List Stmt) (o : Nat), (denL pos brk ss o).length = clenL ss
  | brk, [], o => rfl
  | brk, s :: ss, o => by simp [length_denS pos brk s o, length_denL pos brk ss _]
theorem length_denArms (pos) : ∀ (brk : Option Nat) (e : Nat) (ss : List Stmt) (o : Nat),
    (denArms pos brk e ss o).length = clenArms ss
  | brk, e, [], o => rfl
  | brk, e, .atom d a :: rest, o => by simp [length_denAtom, length_denArms pos brk e rest _]
  | brk, e, .node k b :: rest, o => by
    rcases k.arm_or with ⟨kw, c, rfl⟩ | hk
    · simp [length_denL pos brk b _, length_denArms pos brk e rest _, length_jtail]
      rw [Nat.add_comm _ 1, ← Nat.add_assoc, ← Nat.add_assoc]
    · simp [denArms_other hk, clenArms_other hk, length_denL pos brk b _, length_denArms pos brk e rest _]
end

theorem inv_drop {pos f} {ss : List Stmt} {o : Nat} (h : InvL pos f ss o) (i : Nat) :
    InvL pos f (ss.drop i) (o + clenL (ss.take i)) := by
  have h' : InvL pos f (ss.take i ++ ss.drop i) o := by rw [List.take_append_drop]; exact h
  rw [InvL_append] at h'
  exact h'.2

theorem inv_at {pos f} {ss : List Stmt} {o : Nat} (h : InvL pos f ss o) {i : Nat} {s : Stmt} (hs : ss[i]? = some s) :
    InvS pos f s (o + clenL (ss.take i)) := by
  obtain ⟨hi, rfl⟩ := List.getElem?_eq_some_iff.mp hs
  have hd := inv_drop h i
  rw [List.drop_eq_getElem_cons hi, InvL_cons] at hd
  exact hd.1

/-- `ys` may replace `xs` at code index `o`: same resolved code, labels and loops stay where they are -/
structure Res (pos : Nat → Option Nat) (f : Nat → Nat) (xs ys : List Stmt) (o : Nat) : Prop where
  den : ∀ brk, denL pos brk ys o = denL pos brk xs o
  inv : InvL pos f ys o
  clen : clenL ys = clenL xs

theorem Res.rfl {pos f xs o} (h : InvL pos f xs o) : Res pos f xs xs o := ⟨fun _ => by rfl, h, by rfl⟩

theorem Res.append {pos f xs ys xs' ys' o} (h1 : Res pos f xs ys o) (h2 : Res pos f xs' ys' (o + clenL xs)) :
    Res pos f (xs ++ xs') (ys ++ ys') o := by
  refine ⟨fun brk => ?_, ?_, ?_⟩
  · rw [denL_append, denL_append, h1.den, h1.clen, h2.den]
  · rw [InvL_append, h1.clen]; exact ⟨h1.inv, h2.inv⟩
  · rw [clenL_append, clenL_append, h1.clen, h2.clen]

theorem Res.trans {pos f xs ys zs o} (h1 : Res pos f xs ys o) (h2 : Res pos f ys zs o) : Res pos f xs zs o :=
  ⟨fun brk => (h2.den brk).trans (h1.den brk), h2.inv, h2.clen.trans h1.clen⟩

structure ResArms (pos : Nat → Option Nat) (f : Nat → Nat) (xs ys : List Stmt) (o : Nat) : Prop where
  den : ∀ brk e, denArms pos brk e ys o = denArms pos brk e xs o
  inv : InvArms pos f ys o
  clen : clenArms ys = clenArms xs

theorem Res.node {pos f k b b' o} (hi : InvS pos f (.node k b) o) (hb : InvL pos f b o → Res pos f b b' o)
    (hc : InvArms pos f b o → ResArms pos f b b' o) : Res pos f [.node k b] [.node k b'] o := by
  cases k with
  | loop id =>
    have r := hb hi.2
    exact ⟨fun brk => by simp only [denL_cons, denL_nil, denS_loop, r.clen, r.den],
      ⟨⟨r.clen ▸ hi.1, r.inv⟩, trivial⟩, by simp only [clenL_cons, clenS_loop, r.clen]⟩
  | doWhile id c =>
    have r := hb hi.2
    exact ⟨fun brk => by simp only [denL_cons, denL_nil, denS_doWhile, r.clen, r.den],
      ⟨⟨r.clen ▸ hi.1, r.inv⟩, trivial⟩, by simp only [clenL_cons, clenS_doWhile, r.clen]⟩
  | chain =>
    have r := hc hi
    exact ⟨fun brk => by simp only [denL_cons, denL_nil, denS_chain, r.clen, r.den],
      ⟨r.inv, trivial⟩, by simp only [clenL_cons, clenS_chain, r.clen]⟩
  | arm kw c =>
    have r := hb hi
    exact ⟨fun brk => by simp only [denL_cons, denL_nil, denS_arm, r.den],
      ⟨r.inv, trivial⟩, by simp only [clenL_cons, clenS_arm, r.clen]⟩
  | els =>
    have r := hb hi
    exact ⟨fun brk => by simp only [denL_cons, denL_nil, denS_els, r.den],
      ⟨r.inv, trivial⟩, by simp only [clenL_cons, clenS_els, r.clen]⟩

theorem ResArms.node {pos f k b b' rest rest' o} (hi : InvArms pos f (.node k b :: rest) o)
    (hb : ∀ o, InvL pos f b o → Res pos f b b' o) (hr : ∀ o, InvArms pos f rest o → ResArms pos f rest rest' o)
    (hj : ∀ o, InvArms pos f rest o → jcount rest' = jcount rest ∧ ∀ e, jtail e rest' = jtail e rest) :
    ResArms pos f (.node k b :: rest) (.node k b' :: rest') o := by
  rcases hi.node_cases with ⟨kw, c, rfl, h1, h2⟩ | ⟨rfl, h1, h2⟩
  · have r1 := hb _ h1
    have r2 := hr _ h2
    obtain ⟨j1, j2⟩ := hj _ h2
    exact ⟨fun brk e => by simp only [denArms_arm, r1.clen, j1, j2, r1.den, r2.den],
      by simp only [InvArms_arm, r1.clen, j1]; exact ⟨r1.inv, r2.inv⟩,
      by simp only [clenArms_arm, r1.clen, j1, r2.clen]⟩
  · have r1 := hb _ h1
    have r2 := hr _ h2
    exact ⟨fun brk e => by simp only [denArms_els, r1.clen, r1.den, r2.den],
      by simp only [InvArms_els, r1.clen]; exact ⟨r1.inv, r2.inv⟩,
      by simp only [clenArms_els, r1.clen, r2.clen]⟩

def isBrkLeaf : Leaf → Bool
  | (_, .jump .brk) => true
  | (_, .condJump _ _ .brk) => true
  | _ => false

def NoBrkA (l : List Leaf) : Prop := ∀ p ∈ l, isBrkLeaf p = false

theorem NoBrkA.append {a b : List Leaf} : NoBrkA (a ++ b) ↔ NoBrkA a ∧ NoBrkA b :=
  List.forall_mem_append

theorem denAtom_nobrk (pos brk brk' d a) (h : isBrkLeaf (d, a) = false) : denAtom pos brk d a = denAtom pos brk' d a := by
  cases a with
  | jump j => cases j with
    | brk => simp [isBrkLeaf] at h
    | goto l t => rfl
  | condJump kw c j => cases j with
    | brk => simp [isBrkLeaf] at h
    | goto l t => rfl
  | _ => rfl

mutual
theorem denS_nobrk (pos) : ∀ (brk brk' : Option Nat) (s : Stmt) (o : Nat), NoBrkA s.atoms → denS pos brk s o = denS pos brk' s o
  | brk, brk', .atom d a, o, h => by
    simp only [denS_atom]
    exact denAtom_nobrk pos brk brk' d a (h (d, a) (List.mem_singleton.mpr rfl))
  | brk, brk', .node k b, o, h => by
    cases k with
    | loop id => rfl
    | doWhile id c => rfl
    | chain => exact denArms_nobrk pos brk brk' _ b o h
    | arm kw c => exact denL_nobrk pos brk brk' b o h
    | els => exact denL_nobrk pos brk brk' b o h
theorem denL_nobrk (pos) : ∀ (brk brk' : Option Nat) (ss : List Stmt) (o : Nat), NoBrkA (atomsL ss) →
    denL pos brk ss o = denL pos brk' ss o
  | brk, brk', [], o, _ => rfl
  | brk, brk', s :: ss, o, h => by
    rw [atomsL_cons, NoBrkA.append] at h
    simp only [denL_cons]
    rw [denS_nobrk pos brk brk' s o h.1, denL_nobrk pos brk brk' ss _ h.2]
theorem denArms_nobrk (pos) : ∀ (brk brk' : Option Nat) (e : Nat) (ss : List Stmt) (o : Nat), NoBrkA (atomsL ss) →
    denArms pos brk e ss o = denArms pos brk' e ss o
  | brk, brk', e, [], o, _ => rfl
  | brk, brk', e, .atom d a :: rest, o, h => by
    rw [atomsL_cons, NoBrkA.append] at h
    rw [denArms_atom, denArms_atom, denArms_nobrk pos brk brk' e rest _ h.2]
  | brk, brk', e, .node k b :: rest, o, h => by
    rw [atomsL_cons, NoBrkA.append, atoms_node] at h
    rcases k.arm_or with ⟨kw, c, rfl⟩ | hk
    · rw [denArms_arm, denArms_arm, denL_nobrk pos brk brk' b _ h.1, denArms_nobrk pos brk brk' e rest _ h.2]
    · rw [denArms_other hk, denArms_other hk, denL_nobrk pos brk brk' b _ h.1, denArms_nobrk pos brk brk' e rest _ h.2]
end

theorem denJ_congr {pos pos' : Nat → Option Nat} (brk) (j : Jump) (h : ∀ l ∈ j.refs, pos l = pos' l) :
    denJ pos brk j = denJ pos' brk j := by
  cases j with
  | brk => rfl
  | goto l t => simp only [denJ, rj]; rw [h l (by simp [Jump.refs])]

theorem denAtom_congr {pos pos' : Nat → Option Nat} (brk d) (a : Atom) (h : ∀ l ∈ a.refs, pos l = pos' l) :
    denAtom pos brk d a = denAtom pos' brk d a := by
  cases a with
  | jump j => simp only [denAtom]; rw [denJ_congr brk j h]
  | condJump kw c j =>
    simp only [denAtom]
    rw [denJ_congr brk j (fun l hl => h l (List.mem_append_right _ hl))]
  | _ => rfl

mutual
theorem denS_congr {pos pos' : Nat → Option Nat} : ∀ (brk : Option Nat) (s : Stmt) (o : Nat),
    (∀ l ∈ s.refs, pos l = pos' l) → denS pos brk s o = denS pos' brk s o
  | brk, .atom d a, o, h => denAtom_congr brk d a h
  | brk, .node k b, o, h => by
    have hb : ∀ l ∈ refsL b, pos l = pos' l := fun l hl => h l (List.mem_append_right _ hl)
    cases k with
    | loop id => simp only [denS_loop]; rw [denL_congr _ b o hb]
    | doWhile id c => simp only [denS_doWhile]; rw [denL_congr _ b o hb]
    | chain => simp only [denS_chain]; rw [denArms_congr brk _ b o hb]
    | arm kw c => simp only [denS_arm]; rw [denL_congr _ b o hb]
    | els => simp only [denS_els]; rw [denL_congr _ b o hb]
theorem denL_congr {pos pos' : Nat → Option Nat} : ∀ (brk : Option Nat) (ss : List Stmt) (o : Nat),
    (∀ l ∈ refsL ss, pos l = pos' l) → denL pos brk ss o = denL pos' brk ss o
  | brk, [], o, _ => rfl
  | brk, s :: ss, o, h => by
    simp only [denL_cons]
    rw [denS_congr brk s o (fun l hl => h l (List.mem_append_left _ hl)),
      denL_congr brk ss _ (fun l hl => h l (List.mem_append_right _ hl))]
theorem denArms_congr {pos pos' : Nat → Option Nat} : ∀ (brk : Option Nat) (e : Nat) (ss : List Stmt) (o : Nat),
    (∀ l ∈ refsL ss, pos l = pos' l) → denArms pos brk e ss o = denArms pos' brk e ss o
  | brk, e, [], o, _ => rfl
  | brk, e, .atom d a :: rest, o, h => by
    rw [denArms_atom, denArms_atom, denAtom_congr none d a (fun l hl => h l (List.mem_append_left _ hl)),
      denArms_congr brk e rest _ (fun l hl => h l (List.mem_append_right _ hl))]
  | brk, e, .node k b :: rest, o, h => by
    have hb : ∀ l ∈ refsL b, pos l = pos' l := fun l hl => h l (List.mem_append_left _ (List.mem_append_right _ hl))
    have hr : ∀ l ∈ refsL rest, pos l = pos' l := fun l hl => h l (List.mem_append_right _ hl)
    rcases k.arm_or with ⟨kw, c, rfl⟩ | hk
    · rw [denArms_arm, denArms_arm, denL_congr brk b _ hb, denArms_congr brk e rest _ hr]
    · rw [denArms_other hk, denArms_other hk, denL_congr brk b _ hb, denArms_congr brk e rest _ hr]
end

end TruthModel.Decomp
