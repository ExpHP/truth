/-
C07, structural half: the three observations of a tree that the structural theorems speak about - its leaves (`atomsL`), its
label mentions (`refsL`) and its label definitions (`labelsL`) - and what a pass may do to them (`Step`).
-/
import TruthModel.Model.Decomp
import TruthModel.Lemmas.Outcome
namespace TruthModel.Decomp
open List

@[simp] theorem atomsL_nil : atomsL [] = [] := rfl
@[simp] theorem refsL_nil : refsL [] = [] := rfl
@[simp] theorem labelsL_nil : labelsL [] = [] := rfl
@[simp] theorem atomsL_cons (s : Stmt) (ss : List Stmt) : atomsL (s :: ss) = s.atoms ++ atomsL ss := rfl
@[simp] theorem refsL_cons (s : Stmt) (ss : List Stmt) : refsL (s :: ss) = s.refs ++ refsL ss := rfl
@[simp] theorem labelsL_cons (s : Stmt) (ss : List Stmt) : labelsL (s :: ss) = s.labels ++ labelsL ss := rfl
@[simp] theorem atoms_node (k : Kind) (b : List Stmt) : (Stmt.node k b).atoms = atomsL b := rfl
@[simp] theorem refs_node (k : Kind) (b : List Stmt) : (Stmt.node k b).refs = k.refs ++ refsL b := rfl
@[simp] theorem labels_node (k : Kind) (b : List Stmt) : (Stmt.node k b).labels = labelsL b := rfl
@[simp] theorem atoms_atom (d : Option String) (a : Atom) : (Stmt.atom d a).atoms = [(d, a)] := rfl
@[simp] theorem refs_atom (d : Option String) (a : Atom) : (Stmt.atom d a).refs = a.refs := rfl

@[simp] theorem atomsL_append (a b : List Stmt) : atomsL (a ++ b) = atomsL a ++ atomsL b := by
  induction a with
  | nil => simp
  | cons s ss ih => simp [ih]

@[simp] theorem refsL_append (a b : List Stmt) : refsL (a ++ b) = refsL a ++ refsL b := by
  induction a with
  | nil => simp
  | cons s ss ih => simp [ih]

@[simp] theorem labelsL_append (a b : List Stmt) : labelsL (a ++ b) = labelsL a ++ labelsL b := by
  induction a with
  | nil => simp
  | cons s ss ih => simp [ih]

theorem filterMap_cons_toList {α β} (f : α → Option β) (x : α) (xs : List α) :
    filterMap f (x :: xs) = (f x).toList ++ filterMap f xs := by
  cases h : f x <;> simp [h]

/-- Observations of the leaves that cannot see what loop and cond-chain reconstruction is allowed to
consume: label definitions, and untagged gotos / conditional gotos without an explicit time. -/
structure Good0 {β : Type} (f : Option String × Atom → Option β) : Prop where
  label : ∀ d l, f (d, .label l) = none
  jump : ∀ l, f (none, .jump (.goto l none)) = none
  condJump : ∀ c l, f (none, .condJump .if_ c (.goto l none)) = none

/-- ... and that in addition cannot see the destination of any goto without an explicit time (it may
become `break`). -/
structure Good {β : Type} (f : Option String × Atom → Option β) : Prop extends Good0 f where
  brkJump : ∀ d l, f (d, .jump (.goto l none)) = f (d, .jump .brk)
  brkCond : ∀ d kw c l, f (d, .condJump kw c (.goto l none)) = f (d, .condJump kw c .brk)

/-- `ys` replaces `xs`: what one rewriting step may do to the three observations.  `rc` are the
refcounts the pass was started with.  `dropped`: a definition of `l` goes only if `rc` counted at most one mention of `l` and a
mention goes with it, so a label that is still mentioned keeps its definitions (`labels_with_referrers_survive`). -/
structure Step {β} (f : Option String × Atom → Option β) (rc : Nat → Nat) (xs ys : List Stmt) : Prop where
  fm : (atomsL ys).filterMap f = (atomsL xs).filterMap f
  refs : ∀ l, (refsL ys).count l ≤ (refsL xs).count l
  labels : ∀ l, (labelsL ys).count l ≤ (labelsL xs).count l
  dropped : ∀ l, (labelsL ys).count l < (labelsL xs).count l →
    rc l ≤ 1 ∧ (refsL ys).count l < (refsL xs).count l

theorem Step.rfl {β} {f : Option String × Atom → Option β} {rc xs} : Step f rc xs xs :=
  ⟨by simp, fun _ => Nat.le_refl _, fun _ => Nat.le_refl _, fun l h => absurd h (Nat.lt_irrefl _)⟩

theorem Step.trans {β} {f : Option String × Atom → Option β} {rc xs ys zs}
    (h1 : Step f rc xs ys) (h2 : Step f rc ys zs) : Step f rc xs zs := by
  refine ⟨h2.fm.trans h1.fm, fun l => Nat.le_trans (h2.refs l) (h1.refs l),
    fun l => Nat.le_trans (h2.labels l) (h1.labels l), ?_⟩
  intro l hl
  by_cases hm : (labelsL ys).count l < (labelsL xs).count l
  · obtain ⟨a, b⟩ := h1.dropped l hm
    exact ⟨a, Nat.lt_of_le_of_lt (h2.refs l) b⟩
  · have : (labelsL zs).count l < (labelsL ys).count l := Nat.lt_of_lt_of_le hl (Nat.le_of_not_lt hm)
    obtain ⟨a, b⟩ := h2.dropped l this
    exact ⟨a, Nat.lt_of_lt_of_le b (h1.refs l)⟩

theorem Step.append {β} {f : Option String × Atom → Option β} {rc xs ys xs' ys'}
    (h1 : Step f rc xs ys) (h2 : Step f rc xs' ys') : Step f rc (xs ++ xs') (ys ++ ys') := by
  refine ⟨by simp [List.filterMap_append, h1.fm, h2.fm], ?_, ?_, ?_⟩
  · intro l; simp only [refsL_append, List.count_append]; exact Nat.add_le_add (h1.refs l) (h2.refs l)
  · intro l; simp only [labelsL_append, List.count_append]; exact Nat.add_le_add (h1.labels l) (h2.labels l)
  · intro l hl
    simp only [labelsL_append, refsL_append, List.count_append] at hl ⊢
    by_cases hm : (labelsL ys).count l < (labelsL xs).count l
    · obtain ⟨a, b⟩ := h1.dropped l hm; exact ⟨a, Nat.add_lt_add_of_lt_of_le b (h2.refs l)⟩
    · rw [Nat.le_antisymm (h1.labels l) (Nat.le_of_not_lt hm)] at hl
      have := Nat.lt_of_add_lt_add_left hl
      obtain ⟨a, b⟩ := h2.dropped l this; exact ⟨a, Nat.add_lt_add_of_le_of_lt (h1.refs l) b⟩

theorem Step.node {β} {f : Option String × Atom → Option β} {rc xs ys} (k : Kind)
    (h : Step f rc xs ys) : Step f rc [.node k xs] [.node k ys] := by
  refine ⟨by simpa using h.fm, ?_, by simpa using h.labels, ?_⟩
  · intro l; simp only [refsL_cons, refs_node, refsL_nil, List.append_nil, List.count_append]
    exact Nat.add_le_add_left (h.refs l) _
  · intro l hl
    simp only [labelsL_cons, labels_node, labelsL_nil, List.append_nil] at hl
    obtain ⟨a, b⟩ := h.dropped l hl
    refine ⟨a, ?_⟩
    simp only [refsL_cons, refs_node, refsL_nil, List.append_nil, List.count_append]
    exact Nat.add_lt_add_left b _

theorem Step.wrap {β} {f : Option String × Atom → Option β} {rc xs ys} (k : Kind) (hk : k.refs = [])
    (h : Step f rc xs ys) : Step f rc xs [.node k ys] := by
  refine ⟨by simpa using h.fm, ?_, by simpa using h.labels, ?_⟩
  · intro l; simpa [hk] using h.refs l
  · intro l hl
    simp only [labelsL_cons, labels_node, labelsL_nil, List.append_nil] at hl
    simpa [hk] using h.dropped l hl

/-- statements that a loop or a cond chain may consume: untagged, no explicit time -/
def Consumable (s : Stmt) : Prop :=
  (∃ d, s = .atom none (.jump (.goto d none))) ∨ (∃ c d, s = .atom none (.condJump .if_ c (.goto d none)))

theorem Consumable.filterMap {β} {f : Option String × Atom → Option β} (hf : Good0 f) {s : Stmt} (h : Consumable s) :
    s.atoms.filterMap f = [] := by
  rcases h with ⟨d, rfl⟩ | ⟨c, d, rfl⟩
  · simp [hf.jump]
  · simp [hf.condJump]

theorem Consumable.labels {s : Stmt} (h : Consumable s) : s.labels = [] := by
  rcases h with ⟨d, rfl⟩ | ⟨c, d, rfl⟩ <;> simp [Stmt.labels]

/-- a consumed jump `s` goes into the node that stands for it, wherever it stood among the statements of the node's body -/
theorem Step.fold {β} {f : Option String × Atom → Option β} (hf : Good0 f) {rc : Nat → Nat} {k : Kind} {s : Stmt}
    (hk : k.refs <+ s.refs) (hs : Consumable s) {pre post body : List Stmt} (hb : body = pre ++ post) :
    Step f rc (pre ++ s :: post) [.node k body] ∧ labelsL [.node k body] = labelsL (pre ++ s :: post) := by
  subst hb
  have hl : labelsL [.node k (pre ++ post)] = labelsL (pre ++ s :: post) := by simp [hs.labels]
  refine ⟨⟨by simp [List.filterMap_append, hs.filterMap hf], fun l => ?_, fun l => by rw [hl]; exact Nat.le_refl _,
    fun l h => by rw [hl] at h; exact absurd h (Nat.lt_irrefl _)⟩, hl⟩
  simp only [refsL_append, refsL_cons, refs_node, refsL_nil, List.append_nil, List.count_append]
  rw [Nat.add_left_comm]
  exact Nat.add_le_add_left (Nat.add_le_add_right (hk.count_le l) _) _

theorem good0_none : Good0 (fun _ : Option String × Atom => (none : Option Unit)) :=
  ⟨fun _ _ => rfl, fun _ => rfl, fun _ _ => rfl⟩

/-! ### `decompile_break` -/

theorem convJump_cases (m : List (Nat × Nat)) (cur : Option Nat) (j : Jump) :
    convJump m cur j = j ∨
    ∃ d c, j = .goto d none ∧ cur = some c ∧ lookupLast m d = some c ∧ convJump m cur j = .brk := by
  unfold convJump
  split
  · rename_i d
    split
    · rename_i c
      split
      · rename_i e he
        split
        · rename_i hce
          cases beq_iff_eq.mp hce
          exact .inr ⟨d, c, rfl, rfl, he, rfl⟩
        · exact .inl rfl
      · exact .inl rfl
    · exact .inl rfl
  · exact .inl rfl

theorem good_convAtom {β} {f : Option String × Atom → Option β} (hf : Good f) (m cur d a) :
    f (d, convAtom m cur a) = f (d, a) := by
  cases a <;> simp only [convAtom]
  case jump j =>
    rcases convJump_cases m cur j with h | ⟨l, _, h1, _, _, h2⟩
    · rw [h]
    · rw [h2, h1, hf.brkJump]
  case condJump kw c j =>
    rcases convJump_cases m cur j with h | ⟨l, _, h1, _, _, h2⟩
    · rw [h]
    · rw [h2, h1, hf.brkCond]

@[simp] theorem breakS_atom (m cur d a) : breakS m cur (.atom d a) = .atom d (convAtom m cur a) := rfl
@[simp] theorem breakS_loop (m cur id b) : breakS m cur (.node (.loop id) b) = .node (.loop id) (breakL m (some id) b) := rfl
@[simp] theorem breakS_doWhile (m cur id c b) :
    breakS m cur (.node (.doWhile id c) b) = .node (.doWhile id c) (breakL m (some id) b) := rfl
@[simp] theorem breakS_chain (m cur b) : breakS m cur (.node .chain b) = .node .chain (breakL m cur b) := rfl
@[simp] theorem breakS_arm (m cur kw c b) : breakS m cur (.node (.arm kw c) b) = .node (.arm kw c) (breakL m cur b) := rfl
@[simp] theorem breakS_els (m cur b) : breakS m cur (.node .els b) = .node .els (breakL m cur b) := rfl
theorem breakS_node (m cur k b) : ∃ cur', breakS m cur (.node k b) = .node k (breakL m cur' b) :=
  ⟨_, rfl⟩
@[simp] theorem breakL_nil (m cur) : breakL m cur [] = [] := rfl
@[simp] theorem breakL_cons (m cur s ss) : breakL m cur (s :: ss) = breakS m cur s :: breakL m cur ss := rfl

mutual
theorem breakS_filterMap {β} (f : Option String × Atom → Option β) (hf : Good f) (m cur) :
    ∀ s, (breakS m cur s).atoms.filterMap f = s.atoms.filterMap f
  | .atom d a => by rw [breakS_atom, atoms_atom, atoms_atom, filterMap_cons_toList, filterMap_cons_toList, good_convAtom hf]
  | .node _ b => breakL_filterMap f hf m _ b
theorem breakL_filterMap {β} (f : Option String × Atom → Option β) (hf : Good f) (m cur) :
    ∀ ss, (atomsL (breakL m cur ss)).filterMap f = (atomsL ss).filterMap f
  | [] => rfl
  | s :: ss => by
    rw [breakL_cons, atomsL_cons, atomsL_cons, List.filterMap_append, List.filterMap_append, breakS_filterMap f hf m cur s,
      breakL_filterMap f hf m cur ss]
end

theorem convAtom_label (m cur) (a : Atom) (l : Nat) : convAtom m cur a = .label l ↔ a = .label l := by
  cases a <;> simp [convAtom]

mutual
theorem breakS_labels (m cur) : ∀ s, (breakS m cur s).labels = s.labels
  | .atom d a => by
    cases a <;> rfl
  | .node _ b => breakL_labels m _ b
theorem breakL_labels (m cur) : ∀ ss, labelsL (breakL m cur ss) = labelsL ss
  | [] => rfl
  | s :: ss => by rw [breakL_cons, labelsL_cons, labelsL_cons, breakS_labels m cur s, breakL_labels m cur ss]
end

theorem convJump_refs (m cur j) : (convJump m cur j).refs <+ j.refs := by
  rcases convJump_cases m cur j with h | ⟨l, _, h1, _, _, h2⟩
  · rw [h]; exact Sublist.refl _
  · rw [h2]; exact List.nil_sublist _

theorem convAtom_refs (m cur a) : (convAtom m cur a).refs <+ a.refs := by
  cases a <;> simp only [convAtom, Atom.refs, Sublist.refl]
  · exact convJump_refs m cur _
  · exact Sublist.append (Sublist.refl _) (convJump_refs m cur _)

mutual
theorem breakS_refs (m cur) : ∀ s, (breakS m cur s).refs <+ s.refs
  | .atom _ a => convAtom_refs m cur a
  | .node _ b => Sublist.append (Sublist.refl _) (breakL_refs m _ b)
theorem breakL_refs (m cur) : ∀ ss, refsL (breakL m cur ss) <+ refsL ss
  | [] => Sublist.refl _
  | s :: ss => Sublist.append (breakS_refs m cur s) (breakL_refs m cur ss)
end

/-! ### `unused_labels::run` -/

/-- `retain` -/
theorem unusedL_cons (rc : Nat → Nat) (s : Stmt) (ss : List Stmt) :
    unusedL rc (s :: ss) = unusedS rc s :: unusedL rc ss ∨
    ∃ d l, s = .atom d (.label l) ∧ ¬ rc l > 0 ∧ unusedL rc (s :: ss) = unusedL rc ss := by
  cases s with
  | node k b => exact .inl rfl
  | atom d a =>
    cases a with
    | label l =>
      by_cases h : rc l > 0
      · exact .inl (if_pos h)
      · exact .inr ⟨d, l, rfl, h, if_neg h⟩
    | _ => exact .inl rfl

theorem unusedL_cons_node (rc : Nat → Nat) (k : Kind) (b ss : List Stmt) :
    unusedL rc (.node k b :: ss) = .node k (unusedL rc b) :: unusedL rc ss := rfl

mutual
theorem unusedS_filterMap {β} (f : Option String × Atom → Option β) (hf : Good0 f) (rc) :
    ∀ s, (unusedS rc s).atoms.filterMap f = s.atoms.filterMap f
  | .atom _ _ => rfl
  | .node _ b => unusedL_filterMap f hf rc b
theorem unusedL_filterMap {β} (f : Option String × Atom → Option β) (hf : Good0 f) (rc) :
    ∀ ss, (atomsL (unusedL rc ss)).filterMap f = (atomsL ss).filterMap f
  | [] => rfl
  | s :: ss => by
    rcases unusedL_cons rc s ss with e | ⟨d, l, rfl, -, e⟩
    · rw [e, atomsL_cons, atomsL_cons, List.filterMap_append, List.filterMap_append, unusedS_filterMap f hf rc s,
        unusedL_filterMap f hf rc ss]
    · rw [e, unusedL_filterMap f hf rc ss, atomsL_cons, atoms_atom, List.filterMap_append, filterMap_cons_toList, hf.label]; rfl
end

mutual
theorem unusedS_refs (rc) : ∀ s, (unusedS rc s).refs = s.refs
  | .atom _ _ => rfl
  | .node k b => congrArg (k.refs ++ ·) (unusedL_refs rc b)
theorem unusedL_refs (rc) : ∀ ss, refsL (unusedL rc ss) = refsL ss
  | [] => rfl
  | s :: ss => by
    rcases unusedL_cons rc s ss with e | ⟨d, l, rfl, -, e⟩
    · rw [e, refsL_cons, refsL_cons, unusedS_refs rc s, unusedL_refs rc ss]
    · rw [e, unusedL_refs rc ss]; rfl
end

mutual
theorem unusedS_labels (rc : Nat → Nat) (l : Nat) (h : rc l > 0) : ∀ s,
    (unusedS rc s).labels.count l = s.labels.count l
  | .atom _ _ => rfl
  | .node _ b => unusedL_labels rc l h b
theorem unusedL_labels (rc : Nat → Nat) (l : Nat) (h : rc l > 0) : ∀ ss,
    (labelsL (unusedL rc ss)).count l = (labelsL ss).count l
  | [] => rfl
  | s :: ss => by
    rcases unusedL_cons rc s ss with e | ⟨d, l', rfl, hrc, e⟩
    · rw [e, labelsL_cons, labelsL_cons, List.count_append, List.count_append, unusedS_labels rc l h s,
        unusedL_labels rc l h ss]
    · have hne : l' ≠ l := fun e' => hrc (e' ▸ h)
      rw [e, unusedL_labels rc l h ss]
      exact (List.count_cons_of_ne hne).symm
end

mutual
theorem unusedS_labels_sub (rc : Nat → Nat) : ∀ s, (unusedS rc s).labels <+ s.labels
  | .atom _ _ => Sublist.refl _
  | .node _ b => unusedL_labels_sub rc b
theorem unusedL_labels_sub (rc : Nat → Nat) : ∀ ss, labelsL (unusedL rc ss) <+ labelsL ss
  | [] => Sublist.refl _
  | s :: ss => by
    rcases unusedL_cons rc s ss with e | ⟨d, l, rfl, -, e⟩
    · rw [e]; exact Sublist.append (unusedS_labels_sub rc s) (unusedL_labels_sub rc ss)
    · rw [e]; exact (unusedL_labels_sub rc ss).trans (List.sublist_cons_self l _)
end

def isIntLeaf (p : Option String × Atom) : Bool :=
  match p.2 with
  | .interrupt _ => true
  | _ => false

def IntFree (b : List Stmt) : Prop := ∀ p ∈ atomsL b, isIntLeaf p = false

/-- no block nested in `ss` holds an interrupt label: what `interrupts_not_captured` concludes.  The loop scan keeps it
(`LInv.nodes`), so does the chain pass (`IfElse.topOnly`); the last two passes keep `IntFree` because `intView`, which sees
exactly the interrupt leaves, is `Good` (`intFree_of_fm`). -/
def TopOnly (ss : List Stmt) : Prop := ∀ k b, Stmt.node k b ∈ ss → IntFree b

theorem mem_atomsL {p : Option String × Atom} {b : List Stmt} : p ∈ atomsL b ↔ ∃ x ∈ b, p ∈ x.atoms := by
  induction b with
  | nil => simp
  | cons s ss ih => simp [ih]

theorem isInterrupt_iff_leaf (d : Option String) (a : Atom) : isInterrupt (.atom d a) = isIntLeaf (d, a) := by
  cases a <;> rfl

theorem mem_interruptIndicesFrom (ss : List Stmt) (k j : Nat) (s : Stmt) (h : ss[j]? = some s)
    (hs : isInterrupt s = true) : (k + j) ∈ interruptIndicesFrom ss k := by
  induction ss generalizing k j with
  | nil => cases h
  | cons x xs ih =>
    rw [interruptIndicesFrom]
    cases j with
    | zero => cases h; rw [if_pos hs]; exact List.mem_cons_self ..
    | succ j =>
      have := ih (k + 1) j h
      rw [Nat.add_assoc, Nat.add_comm 1] at this
      by_cases hx : isInterrupt x = true
      · rw [if_pos hx]; exact List.mem_cons_of_mem _ this
      · rw [if_neg hx]; exact this

theorem mem_interruptIndices {ss : List Stmt} {i : Nat} {s : Stmt} (h : ss[i]? = some s) (hs : isInterrupt s = true) :
    i ∈ interruptIndices ss := by
  have := mem_interruptIndicesFrom ss 0 i s h hs
  rwa [Nat.zero_add] at this

theorem not_int_of_any_false {ss : Block} {lo hi i : Nat} {d a}
    (hany : (interruptIndices ss).any (fun k => lo ≤ k && k < hi) = false) (hs : ss[i]? = some (.atom d a))
    (hlo : lo ≤ i) (hhi : i < hi) : isIntLeaf (d, a) = false := by
  cases hint : isIntLeaf (d, a) with
  | false => rfl
  | true =>
    have : (interruptIndices ss).any (fun k => decide (lo ≤ k) && decide (k < hi)) = true := by
      rw [List.any_eq_true]
      exact ⟨i, mem_interruptIndices hs (by rw [isInterrupt_iff_leaf]; exact hint), by simp [hlo, hhi]⟩
    rw [this] at hany; cases hany

def intView (p : Option String × Atom) : Option (Option String × Atom) := if isIntLeaf p then some p else none

theorem intView_good : Good intView :=
  ⟨⟨by intro d l; rfl, by intro l; rfl, by intro c l; rfl⟩, by intro d l; rfl, by intro d kw c l; rfl⟩

theorem intFree_iff_filterMap {b : List Stmt} : IntFree b ↔ (atomsL b).filterMap intView = [] := by
  unfold IntFree
  rw [List.filterMap_eq_nil_iff]
  constructor
  · intro h p hp; simp [intView, h p hp]
  · intro h p hp
    have := h p hp
    cases hq : isIntLeaf p with
    | false => rfl
    | true => simp [intView, hq] at this

theorem intFree_of_fm {b b' : List Stmt} (h : (atomsL b').filterMap intView = (atomsL b).filterMap intView)
    (hb : IntFree b) : IntFree b' := by
  rw [intFree_iff_filterMap] at hb ⊢; rw [h, hb]

theorem breakL_eq_map (m cur) (ss : List Stmt) : breakL m cur ss = ss.map (breakS m cur) := by
  induction ss with
  | nil => rfl
  | cons s ss ih => rw [breakL_cons, ih]; rfl

theorem breakL_topOnly {m cur} {ss : List Stmt} (h : TopOnly ss) : TopOnly (breakL m cur ss) := by
  intro k b hkb
  rw [breakL_eq_map] at hkb
  obtain ⟨s, hs, e⟩ := List.mem_map.mp hkb
  cases s with
  | atom d a => cases e
  | node k' b' =>
    cases e
    exact intFree_of_fm (breakL_filterMap intView intView_good m _ b') (h _ _ hs)

theorem unusedL_topOnly {rc} {ss : List Stmt} (h : TopOnly ss) : TopOnly (unusedL rc ss) := by
  induction ss with
  | nil => exact h
  | cons s ss ih =>
    have ih := ih (fun k b hb => h k b (List.mem_cons_of_mem _ hb))
    rcases unusedL_cons rc s ss with e | ⟨_, _, _, _, e⟩
    · rw [e]
      intro k b hkb
      rcases List.mem_cons.mp hkb with hkb | hkb
      · cases s with
        | atom d a => cases hkb
        | node k' b' =>
          cases hkb
          exact intFree_of_fm (unusedL_filterMap intView intView_good.toGood0 rc b') (h _ _ (List.mem_cons_self ..))
      · exact ih k b hkb
    · rw [e]; exact ih

/-- takes an `if .. then .panic ..` of the model apart; `split` is slow in front of a large term -/
theorem ok_of_ite_panic {α} {c : Prop} [Decidable c] {p : String} {x : Outcome α} {y : α}
    (h : (if c then .panic p else x) = .ok y) : ¬ c ∧ x = .ok y := by
  by_cases hc : c
  · rw [if_pos hc] at h; cases h
  · rw [if_neg hc] at h; exact ⟨hc, h⟩

theorem eq_of_not_bne {a b : Nat} (h : ¬ (a != b) = true) : a = b :=
  Decidable.of_not_not (fun hne => h (bne_iff_ne.mpr hne))

/- one `Binds` instance per type of scrutinee and order of the arms (`Lemmas/Outcome.lean`); the model writes `?` on a block
in both orders, hence `bindBlock` (err first) and `bindBlock'` (ok first) -/
theorem bindBlock {β} {x : Outcome (List Stmt)} {f : List Stmt → Outcome β} :
    Binds x f (match x with | .err e => .err e | .panic p => .panic p | .ok a => f a) :=
  ⟨by rintro a rfl; rfl, by rintro c rfl; rfl, by rintro s rfl; rfl⟩

theorem bindBlock' {β} {x : Outcome (List Stmt)} {f : List Stmt → Outcome β} :
    Binds x f (match x with | .ok a => f a | .err e => .err e | .panic p => .panic p) :=
  ⟨by rintro a rfl; rfl, by rintro c rfl; rfl, by rintro s rfl; rfl⟩

theorem bindScan {β} {x : Outcome ScanState} {f : ScanState → Outcome β} :
    Binds x f (match x with | .ok a => f a | .err e => .err e | .panic p => .panic p) :=
  ⟨by rintro a rfl; rfl, by rintro c rfl; rfl, by rintro s rfl; rfl⟩

theorem bindArms {β} {x : Outcome (List Stmt × BuildState)} {f : List Stmt → BuildState → Outcome β} :
    Binds x (fun r => f r.1 r.2) (match x with | .err e => .err e | .panic p => .panic p | .ok (a, k) => f a k) :=
  ⟨by rintro a rfl; rfl, by rintro c rfl; rfl, by rintro s rfl; rfl⟩

/-! ### `JmpInfo::from_stmt`, the label table -/

theorem jmpInfo_some {ss : Block} {rc : Nat → Nat} {s : Stmt} {j : JmpInfo} (h : jmpInfo ss rc s = some j) :
    (∃ d, s = .atom none (.jump (.goto d j.time)) ∧ j.kind = .uncond ∧ labelIndex ss d = some j.dest ∧ j.destRc = rc d) ∨
    (∃ c d, s = .atom none (.condJump .if_ c (.goto d j.time)) ∧ j.kind = .cond .if_ c ∧ labelIndex ss d = some j.dest ∧ j.destRc = rc d) := by
  unfold jmpInfo at h
  split at h
  · rename_i d t
    simp only [Option.map_eq_some_iff] at h
    obtain ⟨i, hi, rfl⟩ := h
    exact .inl ⟨d, rfl, rfl, hi, rfl⟩
  · rename_i c d t
    simp only [Option.map_eq_some_iff] at h
    obtain ⟨i, hi, rfl⟩ := h
    exact .inr ⟨c, d, rfl, rfl, hi, rfl⟩
  · cases h

theorem jmpAt_some {ss : Block} {rc : Nat → Nat} {i : Nat} {j : JmpInfo} (h : jmpAt ss rc i = some j) :
    ∃ s, ss[i]? = some s ∧ jmpInfo ss rc s = some j := by
  unfold jmpAt at h
  split at h
  · rename_i s hs; exact ⟨s, hs, h⟩
  · cases h

theorem jmpAt_cond {ss : Block} {rc : Nat → Nat} {i : Nat} {j : JmpInfo} {kw c} (h : jmpAt ss rc i = some j)
    (hk : j.kind = .cond kw c) (ht : j.time = none) :
    kw = .if_ ∧ ∃ d, ss[i]? = some (.atom none (.condJump .if_ c (.goto d none))) ∧ labelIndex ss d = some j.dest ∧
      j.destRc = rc d := by
  obtain ⟨s, hs, hj⟩ := jmpAt_some h
  rcases jmpInfo_some hj with ⟨d, _, hk', _⟩ | ⟨c', d, hs', hk', hl, hr⟩
  · rw [hk] at hk'; cases hk'
  · rw [hk] at hk'; cases hk'
    exact ⟨rfl, d, by rw [hs, hs', ht], hl, hr⟩

theorem jmpAt_uncond {ss : Block} {rc : Nat → Nat} {i : Nat} {j : JmpInfo} (h : jmpAt ss rc i = some j)
    (hk : j.kind.isCond = false) (ht : j.time = none) :
    ∃ d, ss[i]? = some (.atom none (.jump (.goto d none))) ∧ labelIndex ss d = some j.dest := by
  obtain ⟨s, hs, hj⟩ := jmpAt_some h
  rcases jmpInfo_some hj with ⟨d, hs', _, hl, _⟩ | ⟨c', d, _, hk', _⟩
  · exact ⟨d, by rw [hs, hs', ht], hl⟩
  · rw [hk'] at hk; cases hk

theorem isLabel_iff {l : Nat} {s : Stmt} : isLabel l s = true ↔ ∃ d, s = .atom d (.label l) := by
  unfold isLabel
  split
  · rename_i d l'
    simp only [beq_iff_eq]
    constructor
    · rintro rfl; exact ⟨d, rfl⟩
    · rintro ⟨d', h⟩; cases h; rfl
  · rename_i hne
    constructor
    · intro h; cases h
    · rintro ⟨d, rfl⟩; exact absurd rfl (hne d l)

theorem labelIndexFrom_spec (l : Nat) (ss : List Stmt) (k : Nat) (acc : Option Nat) (i : Nat)
    (h : labelIndexFrom l ss k acc = some i) :
    acc = some i ∨ ∃ t d, i = k + t ∧ ss[t]? = some (.atom d (.label l)) := by
  fun_induction labelIndexFrom l ss k acc with
  | case1 => exact .inl h
  | case2 s ss k acc ih =>
    rcases ih h with h1 | ⟨t, d, rfl, h2⟩
    · by_cases hl : isLabel l s = true
      · rw [if_pos hl] at h1
        cases h1
        obtain ⟨d, rfl⟩ := isLabel_iff.mp hl
        exact .inr ⟨0, d, rfl, rfl⟩
      · rw [if_neg hl] at h1
        exact .inl h1
    · exact .inr ⟨t + 1, d, by rw [Nat.add_assoc, Nat.add_comm 1], h2⟩

theorem labelIndex_spec {ss : Block} {l i : Nat} (h : labelIndex ss l = some i) :
    ∃ d, ss[i]? = some (.atom d (.label l)) := by
  rcases labelIndexFrom_spec l ss 0 none i h with h1 | ⟨t, d, rfl, h2⟩
  · cases h1
  · exact ⟨d, by rw [Nat.zero_add]; exact h2⟩

theorem labelIndex_inj {ss : Block} {d d' i : Nat} (h : labelIndex ss d = some i) (h' : labelIndex ss d' = some i) : d = d' := by
  obtain ⟨dl, hd⟩ := labelIndex_spec h
  obtain ⟨dl', hd'⟩ := labelIndex_spec h'
  rw [hd] at hd'; cases hd'; rfl

end TruthModel.Decomp
