import TruthModel.Lemmas.FmtLit
import TruthModel.Model.FmtExpr
/-
C08, the expression layer (`Model/FmtExpr.lean`): for every expression `e` with `NoGlue e`, the
recursive-descent model of the grammar's `Expr` rules accepts the tokens that the model of
`impl Format for ast::Expr` writes and returns `norm e` (`norm` = the documented loss: radix hints,
`true`/`false`/`INF`/`NAN` as names, a sign in front of a number as the operator).  `Good e` is what
the induction over `e` carries; `glue_sites_fail` has an instance of each excluded operator-glue shape, and it
fails (the other conjuncts of `NoGlue`: identifier names, opcodes below 65536, the shape of a switch, have none).

Not proved (searched on the implementation by the harness): that a float reads back as the value it was
printed from (its digits are the opaque text of `FloatBody.num`), and that the joined text of an
expression lexes to the written tokens (`LexOK`, compared with the real lexer on every generated expression).
-/
namespace TruthModel.C08
open TruthModel TruthModel.Fmt

open TruthModel.FmtExpr

/-- the fuel bounds are maxima; `omega` is given their components -/
theorem max_add_le_iff {a b k n : Nat} : max a b + k ≤ n ↔ a + k ≤ n ∧ b + k ≤ n := by
  rw [← Nat.add_max_add_right, Nat.max_le]

theorem le_of_add_le {a k k' f : Nat} (h : a + k ≤ f) (hk : k' ≤ k) : a + k' ≤ f :=
  Nat.le_trans (Nat.add_le_add_left hk a) h

@[simp] theorem cl_lp : classify tLp = .lp := by decide +kernel
@[simp] theorem cl_rp : classify tRp = .rp := by decide +kernel
@[simp] theorem cl_punct :
    classify tComma = .comma ∧ classify tQuest = .quest ∧ classify tColon = .colon ∧ classify tLb = .lb ∧
    classify tRb = .rb ∧ classify tDot = .dot ∧ classify tAt = .at ∧ classify tAssign = .assign ∧
    classify tDollar = .dollar ∧ classify tPercent = .op .rem ∧ classify tReg = .reg := by decide +kernel
@[simp] theorem cl_minus : classify tMinus = .op .sub := by decide +kernel
@[simp] theorem cl_xcr (inc : Bool) : classify (xcrTok inc) = if inc then .inc else .dec := by
  cases inc <;> decide +kernel
@[simp] theorem cl_binop (op : BinOp) : classify op.tok = .op op := by cases op <;> decide +kernel
@[simp] theorem cl_labelKw (k : LabelKw) : classify (.word k.text) = .labelKw k := by cases k <;> decide +kernel
@[simp] theorem pseudoKindOf_text (k : PseudoKind) : pseudoKindOf k.text = some k := by cases k <;> decide +kernel
@[simp] theorem cl_int (s : List Char) : classify (.int s) = .int s := rfl
@[simp] theorem cl_float (s : List Char) : classify (.float s) = .float s := rfl
@[simp] theorem cl_str (s : List Char) : classify (.str s) = .str s := rfl

theorem cl_ident {w : List Char} (h : identOK w = true) : classify (.word w) = .ident w := by
  simpa [identOK, classify] using h

theorem identOK_names : ∀ w ∈ [trueText, falseText, infText, nanText, PseudoKind.text .mask, PseudoKind.text .pop,
    PseudoKind.text .blob, PseudoKind.text .arg0, PseudoKind.text .nargs], identOK w = true := by decide +kernel

@[simp] theorem cl_pseudo (k : PseudoKind) : classify (.word k.text) = .ident k.text := by
  cases k <;> exact cl_ident (identOK_names _ (by simp))

theorem cl_unop_prefix : classify (UnOp.tok .neg) = .op .sub ∧ classify (UnOp.tok .not) = .bang ∧
    classify (UnOp.tok .bitNot) = .tilde := by decide +kernel

theorem cl_unop_func (u : UnOp) (h : u.isPrefix = false) :
    (classify u.tok = .func u) ∨ (u = .encI ∧ classify u.tok = .dollar) ∨ (u = .encF ∧ classify u.tok = .op .rem) := by
  cases u with
  | not | neg | bitNot => cases h
  | encI => exact Or.inr (Or.inl ⟨rfl, by decide +kernel⟩)
  | encF => exact Or.inr (Or.inr ⟨rfl, by decide +kernel⟩)
  | _ => exact Or.inl (by decide +kernel)

theorem cl_ins (ds : List Char) : classify (.word (insPrefix ++ ds)) = .ins ds := rfl

/-- a token after which a `Var` / identifier term is complete -/
def stopsTerm : Option PTok → Bool
  | some .lp | some .dot | some .inc | some .dec | some .lb => false
  | _ => true

/-- a token (or the end of input) that closes an `Expr` -/
def closes : Option PTok → Bool
  | none | some .rp | some .comma | some .rb | some .semi => true
  | _ => false

theorem stopsTerm_spec {o : Option PTok} (h : stopsTerm o = true) :
    o ≠ some .lp ∧ o ≠ some .dot ∧ o ≠ some .inc ∧ o ≠ some .dec ∧ o ≠ some .lb := by
  refine ⟨?_, ?_, ?_, ?_, ?_⟩ <;> (intro he; subst he; cases h)

theorem closes_spec {o : Option PTok} (h : closes o = true) :
    stopsTerm o = true ∧ binOpOf o = none ∧ o ≠ some .quest ∧ o ≠ some .colon ∧ startsExpr o = false := by
  have key : o = none ∨ o = some .rp ∨ o = some .comma ∨ o = some .rb ∨ o = some .semi := by
    unfold closes at h
    split at h <;> simp_all
  rcases key with rfl | rfl | rfl | rfl | rfl <;> decide +kernel

theorem stopsTerm_op (b : BinOp) : stopsTerm (some (.op b)) = true := rfl

theorem pLoop_stop (f lvl : Nat) (a : Expr) (toks : List PTok)
    (h : ∀ op, binOpOf toks.head? = some op → op.level ≠ lvl) : pLoop (f + 1) lvl a toks = some (a, toks) := by
  simp only [pLoop]
  split
  · rename_i op hop
    simp [h op hop]
  · rfl

theorem pLevel_step {f k : Nat} {toks r : List PTok} {a : Expr} (hk : ¬ 10 ≤ k)
    (h : pLevel f (k + 1) toks = some (a, r)) : pLevel (f + 1) k toks = pLoop f k a r := by
  simp only [pLevel, hk, if_false, h]

/-- a result of tier `k0` is the result of every looser tier `k` whose operators and those of the tiers
in between do not follow; each tier costs one unit of fuel -/
theorem pLevel_lift {toks rest : List PTok} {x : Expr} {k0 N : Nat} (hk0 : k0 ≤ 10) (hN : k0 < N)
    (h0 : ∀ f, N ≤ f + k0 → pLevel f k0 toks = some (x, rest)) (k : Nat) (hk : k ≤ k0)
    (hstop : ∀ op, binOpOf rest.head? = some op → op.level < k) : ∀ f, N ≤ f + k → pLevel f k toks = some (x, rest) := by
  intro f
  induction f generalizing k with
  | zero => intro hf; omega
  | succ f ih =>
    intro hf
    by_cases hkk : k = k0
    · subst hkk; exact h0 _ hf
    · have hlt : k < k0 := Nat.lt_of_le_of_ne hk hkk
      obtain ⟨f', rfl⟩ := Nat.exists_eq_add_one_of_ne_zero (show f ≠ 0 by omega)
      rw [pLevel_step (Nat.not_le.mpr (Nat.lt_of_lt_of_le hlt hk0))
        (ih (k + 1) hlt (fun op hop => Nat.lt_succ_of_lt (hstop op hop)) (by omega))]
      exact pLoop_stop f' k x rest (fun op hop => Nat.ne_of_lt (hstop op hop))

/-- tier 10 is `pUnary` -/
theorem pLevel_of_unary {toks rest : List PTok} {x : Expr} {g : Nat}
    (hU : ∀ f, g ≤ f → pUnary f (toks ++ rest) = some (x, rest)) (k : Nat) (hk : k ≤ 10)
    (hstop : ∀ op, binOpOf rest.head? = some op → op.level < k) :
    ∀ f, g + 11 ≤ f + k → pLevel f k (toks ++ rest) = some (x, rest) := by
  refine pLevel_lift (Nat.le_refl 10) (Nat.lt_of_lt_of_le (by decide : 10 < 11) (Nat.le_add_left 11 g)) (fun f hf => ?_) k hk hstop
  obtain ⟨f', rfl⟩ := exists_add_one_of_le (a := g) (Nat.le_of_add_le_add_right (b := 10) hf)
  simp only [pLevel, Nat.le_refl, if_true]
  exact hU f' (Nat.le_of_add_le_add_right (b := 11) hf)

theorem pExpr_of_level {toks rest : List PTok} {x : Expr} {f : Nat} (h : pLevel f 0 toks = some (x, rest))
    (hq : rest.head? ≠ some .quest) (hc : rest.head? ≠ some .colon) : pExpr (f + 1) toks = some (x, rest) := by
  simp [pExpr, h, hq, hc]

/-- a magnitude is one INT token: it does not begin with `-` and is neither `true` nor `false` -/
theorem Mag.toks {s : List Char} {v : Int32} (h : Mag s v) : numToks s = [.int s] := by
  have hn : litIntUnsigned trueText = none ∧ litIntUnsigned falseText = none := by decide +kernel
  have h2 : s ≠ trueText := fun he => by rw [← he, h.val] at hn; cases hn.1
  have h3 : s ≠ falseText := fun he => by rw [← he, h.val] at hn; cases hn.2
  unfold numToks
  split
  · exact absurd rfl h.head_ne
  · simp [h2, h3]

/-- `Display for i32` as tokens: `-` and the magnitude, or the number -/
theorem shape_printI32 (v : Int32) :
    (∃ r, numToks (printI32 v) = [tMinus, .int r] ∧ litIntUnsigned r = some (-v)) ∨
    (numToks (printI32 v) = [.int (printI32 v)] ∧ litIntUnsigned (printI32 v) = some v) := by
  unfold printI32
  split
  · exact Or.inl ⟨_, rfl, (mag_dec (-v)).val⟩
  · exact Or.inr ⟨(mag_dec v).toks, (mag_dec v).val⟩

/-- the arm `LitInt` as tokens, with what the parser makes of them -/
theorem printInt_shape (f : IntFormat) (v : Int32) :
    (numToks (printInt f v) = [.word falseText] ∧ normInt v f = .var { sigil := none, name := .normal falseText }) ∨
    (numToks (printInt f v) = [.word trueText] ∧ normInt v f = .var { sigil := none, name := .normal trueText }) ∨
    (∃ r, printInt f v = '-' :: r ∧ litIntUnsigned r = some (-v) ∧ normInt v f = .unop .neg (.litInt (-v) signedDec)) ∨
    (numToks (printInt f v) = [.int (printInt f v)] ∧ litIntUnsigned (printInt f v) = some v ∧
      normInt v f = .litInt v signedDec) := by
  rcases printInt_cases f v with ⟨hb, rfl, h⟩ | ⟨hb, rfl, h⟩ | ⟨n0, n1, m, hm, h⟩
  · exact Or.inl ⟨by rw [h]; decide +kernel, by simp [normInt, hb]⟩
  · exact Or.inr (Or.inl ⟨by rw [h]; decide +kernel, by simp [normInt, hb]⟩)
  · rw [h]
    by_cases hs : f.signed = true ∧ v.toInt < 0
    · exact Or.inr (Or.inr (Or.inl ⟨_, if_pos hs, (hm (-v)).val, by simp [normInt, n0, n1, hs]⟩))
    · rw [if_neg hs]
      exact Or.inr (Or.inr (Or.inr ⟨(hm v).toks, (hm v).val, by simp [normInt, n0, n1, hs]⟩))

mutual
/-- fuel with which `pUnary` reads the printed tokens of `e`; an operand in parentheses is read through
`pTerm`, `pExpr`, the ten tiers and `pLoop`: fewer than 20 nested calls -/
def cost : Expr → Nat
  | .ternary c l r => max (cost c) (max (cost l) (cost r)) + 20
  | .binop a _ b => max (cost a) (cost b) + 20
  | .unop _ x => cost x + 20
  | .call _ ps as => costPs ps (costAs as) + 4
  | .diffSwitch cs => costCs cs + 10
  | _ => 4
def costPs : Pseudos → Nat → Nat
  | .nil, t => t
  | .cons _ e ps, t => max (cost e + 20) (costPs ps t) + 1
def costAs : Exprs → Nat
  | .nil => 1
  | .cons e es => max (cost e + 20) (costAs es) + 1
def costCs : Cases → Nat
  | .nil => 1
  | .blank cs => costCs cs + 1
  | .some e cs => max (cost e + 20) (costCs cs) + 1
end

theorem cost_pos (e : Expr) : 4 ≤ cost e := by
  cases e with
  | ternary | binop | unop => exact Nat.le_trans (by decide) (Nat.le_add_left 20 _)
  | call => exact Nat.le_add_left 4 _
  | diffSwitch => exact Nat.le_trans (by decide) (Nat.le_add_left 10 _)
  | _ => exact Nat.le_refl 4

/-- every alternative of `ExprTerm` starts with a token of FIRST(`Expr`) -/
theorem pTerm_head {f : Nat} {toks : List PTok} {x : Expr × List PTok} (h : pTerm f toks = some x) :
    ∃ t r, toks = t :: r ∧ startsExpr (some t) = true := by
  cases f with
  | zero => cases h
  | succ f =>
    unfold pTerm at h
    split at h
    · cases h
    · rename_i t r
      refine ⟨t, r, rfl, ?_⟩
      split at h
      any_goals rfl
      · split at h
        · rename_i hb; rw [hb]; rfl
        · cases h
      · cases h

theorem pUnary_head {f : Nat} {toks : List PTok} {x : Expr × List PTok} (h : pUnary f toks = some x) :
    ∃ t r, toks = t :: r ∧ startsExpr (some t) = true := by
  cases f with
  | zero => cases h
  | succ f =>
    unfold pUnary at h
    split at h
    · exact ⟨_, _, rfl, rfl⟩
    · exact ⟨_, _, rfl, rfl⟩
    · exact ⟨_, _, rfl, rfl⟩
    · exact pTerm_head h

theorem pLevel_head {f k : Nat} {toks : List PTok} {x : Expr × List PTok} (h : pLevel f k toks = some x) :
    ∃ t r, toks = t :: r ∧ startsExpr (some t) = true := by
  induction f generalizing k x with
  | zero => cases h
  | succ f ih =>
    unfold pLevel at h
    split at h
    · exact pUnary_head h
    · split at h
      · rename_i a r ha; exact ih ha
      · cases h

/-- no term starts with a prefix operator, so `pUnary` passes on what `pTerm` reads -/
theorem pUnary_of_pTerm {f : Nat} {toks : List PTok} {x : Expr × List PTok} (h : pTerm f toks = some x) :
    pUnary (f + 1) toks = some x := by
  unfold pUnary
  split
  · cases f <;> simp [pTerm] at h
  · cases f <;> simp [pTerm] at h
  · cases f <;> simp [pTerm] at h
  · exact h

/-- the twelve units of fuel: `pExpr`, the tiers 0 to 9, and tier 10, which hands over to `pUnary` (`pLoop` runs on
the fuel of its tier) -/
theorem pExpr_of_unary {toks : List PTok} {x : Expr} {g : Nat}
    (hU : ∀ f rest, g ≤ f → stopsTerm rest.head? = true → pUnary f (toks ++ rest) = some (x, rest))
    (f : Nat) (rest : List PTok) (hf : g + 12 ≤ f) (hc : closes rest.head? = true) :
    pExpr f (toks ++ rest) = some (x, rest) := by
  obtain ⟨hst, hb, hq, hcol, _⟩ := closes_spec hc
  obtain ⟨f', rfl⟩ := exists_add_one_of_le hf
  exact pExpr_of_level (pLevel_of_unary (fun f hf => hU f rest hf hst) 0 (Nat.zero_le _)
    (fun op hop => by rw [hb] at hop; cases hop) f' (Nat.le_of_succ_le_succ hf)) hq hcol

/-- How the parser meets a printed operand: beside a binary operator, in a ternary or switch, at any tier (`unary`, hence `Good.level`);
behind a prefix operator (`term`: a `-` literal would bring a second one); under `SuppressParens` (`inner`: a wrapped node's inside). -/
structure Good (e : Expr) : Prop where
  unary : ∀ f rest, cost e ≤ f → stopsTerm rest.head? = true →
    pUnary f ((printE false e).map classify ++ rest) = some (norm e, rest)
  term : negLit e = false → ∀ f rest, cost e ≤ f → stopsTerm rest.head? = true →
    pTerm f ((printE false e).map classify ++ rest) = some (norm e, rest)
  inner : ∀ f rest, cost e + 12 ≤ f → closes rest.head? = true →
    pExpr f ((printE true e).map classify ++ rest) = some (norm e, rest)

theorem Good.head {e : Expr} (h : Good e) :
    ∃ t r, (printE false e).map classify = t :: r ∧ startsExpr (some t) = true :=
  pUnary_head ((List.append_nil _).symm ▸ h.unary (cost e) [] (Nat.le_refl _) rfl)

theorem Good.level {e : Expr} (h : Good e) (k : Nat) (hk : k ≤ 10) (f : Nat) (rest : List PTok)
    (hf : cost e + 11 ≤ f + k) (hst : stopsTerm rest.head? = true)
    (hop : ∀ op, binOpOf rest.head? = some op → op.level < k) :
    pLevel f k ((printE false e).map classify ++ rest) = some (norm e, rest) :=
  pLevel_of_unary (g := cost e) (fun f hf => h.unary f rest hf hst) k hk hop f hf

theorem Good.level_zero {e : Expr} (h : Good e) (f : Nat) (rest : List PTok) (hf : cost e + 11 ≤ f)
    (hst : stopsTerm rest.head? = true) (hbo : binOpOf rest.head? = none) :
    pLevel f 0 ((printE false e).map classify ++ rest) = some (norm e, rest) :=
  h.level 0 (Nat.zero_le _) f rest hf hst (fun op hop => by rw [hbo] at hop; cases hop)

theorem Good.expr {e : Expr} (h : Good e) (f : Nat) (rest : List PTok) (hf : cost e + 12 ≤ f)
    (hc : closes rest.head? = true) : pExpr f ((printE false e).map classify ++ rest) = some (norm e, rest) :=
  pExpr_of_unary h.unary f rest hf hc

/-- the same in front of any token that ends the term and is no operator, `?` or `:` (the `=` of `times(x = ..)`) -/
theorem Good.expr_before {e : Expr} (h : Good e) (f : Nat) (rest : List PTok) (hf : cost e + 12 ≤ f)
    (hst : stopsTerm rest.head? = true) (hbo : binOpOf rest.head? = none) (hq : rest.head? ≠ some .quest)
    (hc : rest.head? ≠ some .colon) : pExpr f ((printE false e).map classify ++ rest) = some (norm e, rest) := by
  obtain ⟨f', rfl⟩ := exists_add_one_of_le hf
  exact pExpr_of_level (h.level_zero f' rest (Nat.le_of_succ_le_succ hf) hst hbo) hq hc

theorem good_of_unary {e : Expr} (hsame : printE true e = printE false e)
    (hU : ∀ f rest, cost e ≤ f → stopsTerm rest.head? = true →
      pUnary f ((printE false e).map classify ++ rest) = some (norm e, rest))
    (hT : negLit e = false → ∀ f rest, cost e ≤ f → stopsTerm rest.head? = true →
      pTerm f ((printE false e).map classify ++ rest) = some (norm e, rest)) : Good e :=
  ⟨hU, hT, fun f rest hf hc => hsame ▸ pExpr_of_unary hU f rest hf hc⟩

theorem good_of_term {e : Expr} (hsame : printE true e = printE false e) (hc : 2 ≤ cost e)
    (hT : ∀ f rest, cost e ≤ f + 1 → stopsTerm rest.head? = true →
      pTerm f ((printE false e).map classify ++ rest) = some (norm e, rest)) : Good e := by
  refine good_of_unary hsame ?_ (fun _ f rest hf hst => hT f rest (Nat.le_succ_of_le hf) hst)
  intro f rest hf hst
  obtain ⟨f', rfl⟩ := exists_add_one_of_le (a := 1) (Nat.le_trans hc hf)
  exact pUnary_of_pTerm (hT f' rest hf hst)

theorem good_of_atom {e : Expr} (hsame : printE true e = printE false e)
    (hT : ∀ f rest, stopsTerm rest.head? = true →
      pTerm (f + 1) ((printE false e).map classify ++ rest) = some (norm e, rest)) : Good e := by
  have hc := cost_pos e
  refine good_of_term hsame (Nat.le_trans (by decide) hc) (fun f rest hf hst => ?_)
  obtain ⟨f', rfl⟩ := exists_add_one_of_le (a := 2) (Nat.le_of_succ_le_succ (Nat.le_trans hc hf))
  exact hT f' rest hst

theorem int32_neg_mul_neg_one (n : Int32) : (-n) * (-1) = n := by
  rw [Int32.mul_neg, Int32.mul_one, Int32.neg_neg]

theorem pVarName_name (sg : Option Sigil) (nm : VarName) (rest : List PTok)
    (hok : varOK { sigil := sg, name := nm } = true) :
    pVarName sg ((nameToks nm).map classify ++ rest) = some ({ sigil := sg, name := nm }, rest) := by
  cases nm with
  | normal id =>
    have : identOK id = true := by simpa [varOK] using hok
    simp [nameToks, cl_ident this, pVarName]
  | reg n =>
    rcases shape_printI32 n with ⟨r, hr, hv⟩ | ⟨hr, hv⟩
    · simp [nameToks, hr, pVarName, hv, int32_neg_mul_neg_one]
    · simp [nameToks, hr, pVarName, hv]

theorem pVar_varToks (v : Var) (rest : List PTok) (hok : varOK v = true) :
    pVar ((varToks v).map classify ++ rest) = some (v, rest) := by
  obtain ⟨sg, nm⟩ := v
  have hn := pVarName_name sg nm rest hok
  cases sg with
  | none =>
    cases nm with
    | normal id =>
      have : identOK id = true := by simpa [varOK] using hok
      simp [varToks, sigilToks, nameToks, cl_ident this, pVar, pVarName]
    | reg n =>
      have hn' := hn
      simp only [nameToks] at hn'
      simpa [varToks, sigilToks, nameToks, pVar] using hn'
  | some s =>
    cases s <;> simpa [varToks, sigilToks, pVar] using hn

theorem pTerm_var (f : Nat) (v : Var) (rest : List PTok) (hok : varOK v = true)
    (h1 : rest.head? ≠ some .lp) (h2 : rest.head? ≠ some .dot) :
    pTerm (f + 1) ((varToks v).map classify ++ rest) = pVarPost v rest := by
  have hv := pVar_varToks v rest hok
  obtain ⟨sg, nm⟩ := v
  cases nm with
  | normal id =>
    have : identOK id = true := by simpa [varOK] using hok
    cases sg with
    | none => simp [varToks, sigilToks, nameToks, cl_ident this, pTerm, h1, h2]
    | some s => cases s <;> (simp [varToks, sigilToks, nameToks, cl_ident this] at hv ⊢; simp [pTerm, hv])
  | reg n => rcases sg with _ | _ | _ <;> (simp [varToks, sigilToks, nameToks] at hv ⊢; simp [pTerm, hv])

theorem pTerm_var_stop (f : Nat) (v : Var) (rest : List PTok) (hok : varOK v = true)
    (hst : stopsTerm rest.head? = true) : pTerm (f + 1) ((varToks v).map classify ++ rest) = some (.var v, rest) := by
  obtain ⟨h1, h2, h3, h4, h5⟩ := stopsTerm_spec hst
  rw [pTerm_var f v rest hok h1 h2]
  simp [pVarPost, h3, h4, h5]

theorem good_var (v : Var) (hok : varOK v = true) : Good (.var v) :=
  good_of_atom rfl (fun f rest hst => pTerm_var_stop f v rest hok hst)

theorem good_xcrement (pre inc : Bool) (v : Var) (hok : varOK v = true) : Good (.xcrement pre inc v) := by
  cases pre with
  | true =>
    refine good_of_atom rfl ?_
    intro f' rest hst
    have hv := pVar_varToks v rest hok
    cases inc <;> simp [printE, norm, pTerm, hv]
  | false =>
    refine good_of_atom rfl ?_
    intro f' rest hst
    have := pTerm_var f' v ((if inc then PTok.inc else PTok.dec) :: rest) hok (by cases inc <;> simp) (by cases inc <;> simp)
    simp only [printE, norm, Bool.false_eq_true, if_false, List.map_append, List.map_cons, List.map_nil,
      cl_xcr, List.append_assoc, List.cons_append, List.nil_append]
    rw [this]
    cases inc <;> simp [pVarPost]

/-- a literal that is written as a name (`true`, `false`, `INF`, `NAN`) reads back as that variable:
`Good` looks only at the tokens, the normal form and the fuel bound -/
theorem good_name {e : Expr} {w : List Char} (hw : identOK w = true) (hp : printE false e = [.word w])
    (hs : printE true e = [.word w]) (hn : norm e = .var { sigil := none, name := .normal w })
    (hc : 4 ≤ cost e) : Good e := by
  have h := good_var { sigil := none, name := .normal w } hw
  refine ⟨?_, ?_, ?_⟩
  · intro f rest hf hst; rw [hp, hn]; exact h.unary f rest (Nat.le_trans hc hf) hst
  · intro _ f rest hf hst; rw [hp, hn]; exact h.term rfl f rest (Nat.le_trans hc hf) hst
  · intro f rest hf hcl; rw [hs, hn]; exact h.inner f rest (Nat.le_trans (Nat.add_le_add_right hc 12) hf) hcl

theorem good_minus {e x : Expr} {ts : List Tok} (hp : printE false e = tMinus :: ts)
    (hs : printE true e = tMinus :: ts) (hn : norm e = .unop .neg x) (hneg : negLit e = true) (hc : 2 ≤ cost e)
    (hT : ∀ g rest, stopsTerm rest.head? = true → pTerm (g + 1) (ts.map classify ++ rest) = some (x, rest)) :
    Good e := by
  refine good_of_unary (hs.trans hp.symm) ?_ (fun h => by rw [hneg] at h; cases h)
  intro f rest hf hst
  obtain ⟨f', rfl⟩ := Nat.exists_eq_add_of_le' (Nat.le_trans hc hf)
  rw [hp, hn]
  simp only [List.map_cons, cl_minus, List.cons_append, pUnary, hT f' rest hst]

theorem good_litInt (v : Int32) (f : IntFormat) : Good (.litInt v f) := by
  rcases printInt_shape f v with ⟨hp, hn⟩ | ⟨hp, hn⟩ | ⟨r, hr, hv, hn⟩ | ⟨hpr, hv, hn⟩
  · exact good_name (identOK_names _ (by simp)) hp hp hn (Nat.le_refl _)
  · exact good_name (identOK_names _ (by simp)) hp hp hn (Nat.le_refl _)
  · have ht : numToks (printInt f v) = [tMinus, .int r] := by rw [hr]; rfl
    refine good_minus (ts := [.int r]) ht ht hn (by simp [negLit, hr]) (show 2 ≤ 4 by decide) ?_
    intro g rest _
    simp [pTerm, hv]
  · have hpr : printE false (.litInt v f) = [.int (printInt f v)] := hpr
    refine good_of_atom rfl ?_
    intro g' rest hst
    rw [hpr]
    simp [pTerm, hv, norm, hn]

theorem good_litFloat (neg : Bool) (b : FloatBody) : Good (.litFloat neg b) := by
  cases b with
  | num t =>
    cases neg with
    | false => exact good_of_atom rfl (fun g' rest hst => rfl)
    | true => exact good_minus (ts := [.float t]) rfl rfl rfl rfl (show 2 ≤ 4 by decide) (fun g rest _ => rfl)
  | inf =>
    cases neg with
    | false => exact good_name (identOK_names _ (by simp)) rfl rfl rfl (Nat.le_refl _)
    | true =>
      exact good_minus (ts := [.word infText]) rfl rfl rfl rfl (show 2 ≤ 4 by decide)
        (fun g rest hst => pTerm_var_stop g { sigil := none, name := .normal infText } rest (identOK_names _ (by simp)) hst)
  | nan => exact good_name (identOK_names _ (by simp)) rfl rfl rfl (Nat.le_refl _)

theorem good_litString (s : List Char) : Good (.litString s) := by
  refine good_of_atom rfl ?_
  intro g' rest hst
  have := string_escape_roundtrip s
  unfold unescapeString at this
  simp [printE, norm, pTerm, this]

theorem good_labelProp (kw : LabelKw) (l : List Char) (hl : identOK l = true) : Good (.labelProp kw l) := by
  refine good_of_atom rfl ?_
  intro g' rest hst
  simp [printE, norm, pTerm, cl_ident hl]

theorem good_enumConst (en id : List Char) (h1 : identOK en = true) (h2 : identOK id = true) : Good (.enumConst en id) := by
  refine good_of_atom rfl ?_
  intro g' rest hst
  simp [printE, norm, pTerm, cl_ident h1, cl_ident h2]

/-- an expression that `fmt_optional_parens` wraps: everything follows from reading its inside -/
theorem good_of_inner {e : Expr} (hwrap : printE false e = tLp :: (printE true e ++ [tRp])) (hc : 3 ≤ cost e)
    (hin : ∀ f rest, cost e ≤ f + 2 → closes rest.head? = true →
      pExpr f ((printE true e).map classify ++ rest) = some (norm e, rest)) : Good e := by
  have hT : ∀ f rest, cost e ≤ f + 1 → pTerm f ((printE false e).map classify ++ rest) = some (norm e, rest) := by
    intro f rest hf
    obtain ⟨f', rfl⟩ := exists_add_one_of_le (a := 1) (Nat.le_of_succ_le_succ (Nat.le_trans hc hf))
    have h := hin f' (.rp :: rest) hf rfl
    simp [hwrap, pTerm, h]
  refine ⟨?_, fun _ f rest hf _ => hT f rest (Nat.le_succ_of_le hf),
    fun f rest hf hc => hin f rest (Nat.le_trans (Nat.le_add_right _ 12) (Nat.le_add_right_of_le hf)) hc⟩
  intro f rest hf _
  obtain ⟨f', rfl⟩ := exists_add_one_of_le (a := 2) (Nat.le_trans hc hf)
  exact pUnary_of_pTerm (hT f' rest hf)

theorem pLoop_step_op {f k : Nat} {a b : Expr} {op : BinOp} {r r2 : List PTok} (h : op.level = k)
    (h2 : pLevel f (k + 1) r = some (b, r2)) :
    pLoop (f + 1) k a (.op op :: r) = pLoop f k (.binop a op b) r2 := by
  simp [pLoop, binOpOf, h, h2]

theorem BinOp.level_le (op : BinOp) : op.level ≤ 9 := by cases op <;> decide +kernel

theorem good_binop {a b : Expr} (op : BinOp) (ha : Good a) (hb : Good b) : Good (.binop a op b) := by
  refine good_of_inner rfl (Nat.le_trans (by decide) (Nat.le_add_left 20 _)) ?_
  intro f rest hf hc
  obtain ⟨hst, hbo, hq, hcol, _⟩ := closes_spec hc
  have hno : ∀ {k : Nat} (op' : BinOp), binOpOf rest.head? = some op' → op'.level < k :=
    fun op' hop' => by rw [hbo] at hop'; cases hop'
  have hL : op.level + 1 ≤ 10 := Nat.succ_le_succ (BinOp.level_le op)
  simp only [cost, max_add_le_iff, Nat.reduceLeDiff] at hf
  obtain ⟨f', rfl⟩ := exists_add_one_of_le hf.1
  have h0 : pLevel f' 0 ((printE false a).map classify ++ (.op op :: ((printE false b).map classify ++ rest))) =
      some (.binop (norm a) op (norm b), rest) := by
    -- the tier of the operator reads `a op b`, the looser tiers pass it on
    refine pLevel_lift (k0 := op.level) (N := f') (Nat.le_of_succ_le hL) (by omega) (fun g hg => ?_) 0 (Nat.zero_le _)
      hno f' (Nat.le_refl _)
    obtain ⟨g', rfl⟩ : ∃ g', g = g' + 3 := ⟨g - 3, by omega⟩
    rw [pLevel_step (Nat.not_le.mpr hL)
        (ha.level (op.level + 1) hL (g' + 2) (.op op :: ((printE false b).map classify ++ rest)) (by omega) rfl
          (fun op' hop' => by cases hop'; exact Nat.lt_succ_self _)),
      pLoop_step_op rfl (hb.level (op.level + 1) hL (g' + 1) rest (by omega) hst hno)]
    exact pLoop_stop g' op.level _ rest (fun op' hop' => Nat.ne_of_lt (hno op' hop'))
  simpa [printE, wrap, norm] using pExpr_of_level h0 hq hcol

theorem pTernRhs_good {x : Expr} (hx : Good x) (g : Nat) (rest : List PTok) (hg : cost x + 12 ≤ g)
    (hst : stopsTerm rest.head? = true) (hbo : binOpOf rest.head? = none) (hq : rest.head? ≠ some .quest) :
    pTernRhs g ((printE false x).map classify ++ rest) = some (norm x, rest) := by
  obtain ⟨g', rfl⟩ := exists_add_one_of_le hg
  simp [pTernRhs, hx.level_zero g' rest (Nat.le_of_succ_le_succ hg) hst hbo, hq]

theorem good_ternary {c l r : Expr} (hc : Good c) (hl : Good l) (hr : Good r) : Good (.ternary c l r) := by
  refine good_of_inner rfl (Nat.le_trans (by decide) (Nat.le_add_left 20 _)) ?_
  intro f rest hf hcl
  obtain ⟨hst, hbo, hq, hcol, _⟩ := closes_spec hcl
  simp only [cost, max_add_le_iff, Nat.reduceLeDiff] at hf
  obtain ⟨f', rfl⟩ := exists_add_one_of_le hf.1
  simp only [Nat.reduceLeDiff] at hf
  have h1 := hc.level_zero f' (.quest :: ((printE false l).map classify ++ (.colon :: ((printE false r).map classify ++ rest))))
    (le_of_add_le hf.1 (by decide)) rfl rfl
  have h2 := pTernRhs_good hl f' (.colon :: ((printE false r).map classify ++ rest)) (le_of_add_le hf.2.1 (by decide)) rfl rfl (by simp)
  have h3 := pTernRhs_good hr f' rest (le_of_add_le hf.2.2 (by decide)) hst hbo hq
  simp [printE, wrap, norm, pExpr, h1, h2, h3]

theorem pUnary_prefix (op : UnOp) (hp : op.isPrefix = true) {g : Nat} {r r2 : List PTok} {x : Expr}
    (h : pTerm g r = some (x, r2)) : pUnary (g + 1) (classify op.tok :: r) = some (.unop op x, r2) := by
  cases op with
  | neg => simp [cl_unop_prefix, pUnary, h]
  | not => simp [cl_unop_prefix, pUnary, h]
  | bitNot => simp [cl_unop_prefix, pUnary, h]
  | _ => cases hp

theorem good_prefix {x : Expr} (op : UnOp) (hp : op.isPrefix = true) (hx : Good x) (hneg : negLit x = false) :
    Good (.unop op x) := by
  refine good_of_inner (by simp [printE, hp, wrap]) (Nat.le_trans (by decide) (Nat.le_add_left 20 _)) ?_
  intro f rest hf hcl
  simp only [cost, Nat.reduceLeDiff] at hf
  have hU : ∀ g rest, cost x + 1 ≤ g → stopsTerm rest.head? = true →
      pUnary g ((classify op.tok :: (printE false x).map classify) ++ rest) = some (.unop op (norm x), rest) := by
    intro g rest hg hst
    obtain ⟨g', rfl⟩ := exists_add_one_of_le hg
    exact pUnary_prefix op hp (hx.term hneg g' rest (Nat.le_of_succ_le_succ hg) hst)
  simpa [printE, hp, wrap, norm] using pExpr_of_unary hU f rest (le_of_add_le (k' := 13) hf (by decide)) hcl

theorem good_func {x : Expr} (u : UnOp) (hp : u.isPrefix = false) (hx : Good x) : Good (.unop u x) := by
  have hpr : printE false (.unop u x) = u.tok :: tLp :: (printE true x ++ [tRp]) := by simp [printE, hp]
  refine good_of_term (by simp [printE, hp]) (Nat.le_trans (by decide) (cost_pos _)) ?_
  intro f rest hf _
  simp only [cost, Nat.reduceLeDiff] at hf
  obtain ⟨f', rfl⟩ := exists_add_one_of_le hf
  have h := hx.inner f' (.rp :: rest) (le_of_add_le (Nat.le_of_succ_le_succ hf) (by decide)) rfl
  rcases cl_unop_func u hp with hc | ⟨rfl, hc⟩ | ⟨rfl, hc⟩ <;> simp [hpr, hc, pTerm, h, norm]

def ArgsOK (as : Exprs) : Prop :=
  ∀ f rest, costAs as ≤ f →
    pItems f ((printArgs as).map classify ++ .rp :: rest) = some ((.nil, normAs as), rest)

def ItemsOK (ps : Pseudos) (as : Exprs) : Prop :=
  ∀ f rest, costPs ps (costAs as) ≤ f →
    pItems f ((printItems ps as.isNil (printArgs as)).map classify ++ .rp :: rest) = some ((normPs ps, normAs as), rest)

theorem argsOK_nil : ArgsOK .nil := by
  intro f rest hf
  obtain ⟨f', rfl⟩ := exists_add_one_of_le (a := 0) hf
  simp [printArgs, pItems, normAs]

theorem argsOK_cons {e : Expr} {es : Exprs} (he : Good e) (hes : ArgsOK es) : ArgsOK (.cons e es) := by
  intro f rest hf
  simp only [costAs, max_add_le_iff] at hf
  obtain ⟨f', rfl⟩ := exists_add_one_of_le hf.2
  have hfe : cost e + 12 ≤ f' := le_of_add_le (Nat.le_of_succ_le_succ hf.1) (by decide)
  obtain ⟨t, r, htr, hs⟩ := he.head
  obtain ⟨n1, n2⟩ : t ≠ .rp ∧ t ≠ .at := by refine ⟨?_, ?_⟩ <;> (intro he; subst he; cases hs)
  cases es with
  | nil =>
    have hE := he.expr f' (.rp :: rest) hfe rfl
    have hhead : ((printE false e).map classify ++ .rp :: rest).head? = some t := by rw [htr]; rfl
    simp [printArgs, Exprs.isNil, normAs, pItems, hhead, hE, n1, n2]
  | cons e' es' =>
    have hE := he.expr f' (.comma :: ((printArgs (.cons e' es')).map classify ++ .rp :: rest)) hfe rfl
    have hR := hes f' rest (Nat.le_of_succ_le_succ hf.2)
    have hhead : ((printE false e).map classify ++ .comma :: ((printArgs (.cons e' es')).map classify ++ .rp :: rest)).head? = some t := by
      rw [htr]; rfl
    rw [printArgs]
    simp [Exprs.isNil, pItems, hhead, hE, n1, n2, hR, Pseudos.isNil, normAs]

theorem itemsOK_nil {as : Exprs} (ha : ArgsOK as) : ItemsOK .nil as := by
  intro f rest hf
  simpa [printItems, normPs] using ha f rest (by simpa [costPs] using hf)

theorem itemsOK_cons {k : PseudoKind} {e : Expr} {ps : Pseudos} {as : Exprs} (he : Good e)
    (hps : ItemsOK ps as) : ItemsOK (.cons k e ps) as := by
  intro f rest hf
  simp only [costPs, max_add_le_iff] at hf
  obtain ⟨f', rfl⟩ := exists_add_one_of_le hf.2
  have hfe : cost e + 12 ≤ f' := le_of_add_le (Nat.le_of_succ_le_succ hf.1) (by decide)
  have hR := hps f' rest (Nat.le_of_succ_le_succ hf.2)
  by_cases hlast : (ps.isNil && as.isNil) = true
  · have hps' : ps = .nil := by cases ps <;> simp_all [Pseudos.isNil]
    have has' : as = .nil := by cases as <;> simp_all [Exprs.isNil]
    subst hps'; subst has'
    have hE := he.expr f' (.rp :: rest) hfe rfl
    simp [printItems, printArgs, Pseudos.isNil, Exprs.isNil, pItems, hE, normPs, normAs]
  · have hE := he.expr f' (.comma :: ((printItems ps as.isNil (printArgs as)).map classify ++ .rp :: rest)) hfe rfl
    simp [printItems, hlast, pItems, hE, hR, normPs]

theorem natDigits10_canon (n : Nat) (hn : 1 ≤ n) :
    ∃ c r, natDigits 10 n = c :: r ∧ isDigit c = true ∧ c ≠ '0' ∧ r.all isDigit = true := by
  induction n using Nat.strongRecOn with
  | _ n ih =>
    by_cases hlt : n < 10
    · have key : ∀ d, d < 10 → 1 ≤ d → isDigit (digitChar d) = true ∧ digitChar d ≠ '0' := by decide +kernel
      exact ⟨digitChar n, [], natDigits_lt hlt, (key n hlt hn).1, (key n hlt hn).2, rfl⟩
    · have hge : 10 ≤ n := Nat.not_lt.mp hlt
      obtain ⟨c, r, hcr, h1, h2, h3⟩ := ih (n / 10) (Nat.div_lt_self (Nat.lt_of_lt_of_le (by decide) hge) (by decide))
        (Nat.div_pos hge (by decide))
      refine ⟨c, r ++ [digitChar (n % 10)], ?_, h1, h2, ?_⟩
      · rw [natDigits_ge (by decide) hge, hcr]; rfl
      · simp [h3, isDigit_digitChar (n % 10) (Nat.mod_lt _ (by decide))]

theorem insOpcode_natDigits (n : Nat) (hn : n < 65536) : insOpcode (natDigits 10 n) = some n := by
  have hp := parseDigits_natDigits (b := 10) (by decide) (by decide) n []
  simp only [List.append_nil, parseDigitsFrom] at hp
  have hc : isCanonicalInt (natDigits 10 n) = true := by
    by_cases h0 : n = 0
    · subst h0; decide +kernel
    · obtain ⟨c, r, hcr, h1, h2, h3⟩ := natDigits10_canon n (Nat.pos_of_ne_zero h0)
      simp [hcr, isCanonicalInt, h1, h2, h3]
  simp [insOpcode, hc, hp, hn]

theorem good_call {name : CallName} {ps : Pseudos} {as : Exprs} (hname : name.ok = true)
    (hitems : ItemsOK ps as) : Good (.call name ps as) := by
  refine good_of_term (by simp [printE]) (Nat.le_trans (by decide) (cost_pos _)) ?_
  intro f rest hf _
  simp only [cost, Nat.reduceLeDiff] at hf
  obtain ⟨f', rfl⟩ := exists_add_one_of_le hf
  have hI := hitems f' rest (Nat.le_of_add_right_le (Nat.le_of_succ_le_succ hf))
  cases name with
  | normal id =>
    have hid : identOK id = true := by simpa [CallName.ok] using hname
    simp [printE, CallName.tok, cl_ident hid, pTerm, hI, norm]
  | ins n =>
    have hn : n < 65536 := by simpa [CallName.ok] using hname
    simp [printE, CallName.tok, cl_ins, pTerm, insOpcode_natDigits n hn, hI, norm]

/-- the cases of a switch after the first, each behind its `:`, in front of a token that closes the expression -/
def CasesOK (cs : Cases) : Prop :=
  ∀ f rest, costCs cs ≤ f → closes rest.head? = true →
    pSwitch f ((printCasesT cs).map classify ++ rest) = some (normCs cs, rest)

theorem casesT_head (cs : Cases) (rest : List PTok) :
    ((printCasesT cs).map classify ++ rest).head? = if cs.isNil then rest.head? else some .colon := by
  cases cs <;> simp [printCasesT, Cases.isNil]

theorem casesT_head_stops (cs : Cases) (rest : List PTok) (hc : closes rest.head? = true) :
    stopsTerm ((printCasesT cs).map classify ++ rest).head? = true ∧ binOpOf ((printCasesT cs).map classify ++ rest).head? = none ∧
      startsExpr ((printCasesT cs).map classify ++ rest).head? = false := by
  obtain ⟨h1, h2, _, _, h5⟩ := closes_spec hc
  rw [casesT_head]
  split
  · exact ⟨h1, h2, h5⟩
  · exact ⟨rfl, rfl, rfl⟩

theorem casesOK_nil : CasesOK .nil := by
  intro f rest hf hc
  obtain ⟨_, _, _, hcol, _⟩ := closes_spec hc
  obtain ⟨f', rfl⟩ := exists_add_one_of_le (a := 0) hf
  simp [printCasesT, pSwitch, hcol, normCs]

theorem casesOK_blank {cs : Cases} (h : CasesOK cs) : CasesOK (.blank cs) := by
  intro f rest hf hc
  obtain ⟨f', rfl⟩ := exists_add_one_of_le (a := costCs cs) hf
  obtain ⟨_, _, hs⟩ := casesT_head_stops cs rest hc
  have hR := h f' rest (Nat.le_of_succ_le_succ hf) hc
  have hform : (printCasesT (.blank cs)).map classify ++ rest = .colon :: ((printCasesT cs).map classify ++ rest) := by
    simp [printCasesT]
  rw [hform]
  simp only [pSwitch, List.head?_cons, List.tail_cons, hs, hR, ↓reduceIte, Bool.false_eq_true, normCs]

theorem casesOK_some {e : Expr} {cs : Cases} (he : Good e) (h : CasesOK cs) : CasesOK (.some e cs) := by
  intro f rest hf hc
  simp only [costCs, max_add_le_iff] at hf
  obtain ⟨f', rfl⟩ := exists_add_one_of_le hf.2
  obtain ⟨hst, hbo, _⟩ := casesT_head_stops cs rest hc
  obtain ⟨t, r, htr, hs⟩ := he.head
  have hR := h f' rest (Nat.le_of_succ_le_succ hf.2) hc
  have hL := he.level_zero f' ((printCasesT cs).map classify ++ rest)
    (le_of_add_le (Nat.le_of_succ_le_succ hf.1) (by decide)) hst hbo
  have hhead : ((printE false e).map classify ++ ((printCasesT cs).map classify ++ rest)).head? = some t := by rw [htr]; rfl
  rw [printCasesT]
  simp [pSwitch, hhead, hs, hL, hR, normCs]

theorem good_switch {e : Expr} {cs : Cases} (he : Good e) (hne : cs.isNil = false) (hcs : CasesOK cs) :
    Good (.diffSwitch (.some e cs)) := by
  refine good_of_inner rfl (Nat.le_trans (by decide) (Nat.le_add_left 10 _)) ?_
  intro f rest hf hc
  simp only [cost, costCs, Nat.add_assoc, Nat.reduceAdd, Nat.reduceLeDiff, max_add_le_iff] at hf
  obtain ⟨f', rfl⟩ := exists_add_one_of_le hf.2
  obtain ⟨hst, hbo, _⟩ := casesT_head_stops cs rest hc
  have hcolon : ((printCasesT cs).map classify ++ rest).head? = some .colon := by rw [casesT_head]; simp [hne]
  have hL := he.level_zero f' ((printCasesT cs).map classify ++ rest)
    (le_of_add_le (Nat.le_of_succ_le_succ hf.1) (by decide)) hst hbo
  have hR := hcs f' rest (Nat.le_of_add_right_le (Nat.le_of_succ_le_succ hf.2)) hc
  simp [printE, printCases, wrap, pExpr, hL, hcolon, hR, norm, normCs]

theorem negLit_of_startsMinus {x : Expr} (h : startsMinus x = false) : negLit x = false := by
  cases x with
  | xcrement pre inc v => rfl
  | _ => exact h

/-- a negative number starts with `-`, a difficulty character -/
theorem startsDiffChar_of_negLit {x : Expr} (h : negLit x = true) : startsDiffChar x = true := by
  cases x with
  | litInt v f =>
    obtain ⟨t, hp⟩ := List.head?_eq_some_iff.mp (show (printInt f v).head? = some '-' by simpa [negLit] using h)
    simp [startsDiffChar, firstChar, printText, printP, hp, numToks, ts, textOf, EP.chars, tokChars, tMinus]
    decide +kernel
  | litFloat neg b =>
    cases b <;> cases neg <;> simp_all [negLit]
    all_goals (simp [startsDiffChar, firstChar, printText, printP, floatToks, ts, textOf, EP.chars, tokChars, tMinus]; decide +kernel)
  | _ => simp [negLit] at h

mutual
theorem good : ∀ (e : Expr), NoGlue e = true → Good e
  | .ternary c l r, h => by
    simp only [NoGlue, Bool.and_eq_true] at h
    exact good_ternary (good c h.1.1) (good l h.1.2) (good r h.2)
  | .binop a op b, h => by
    simp only [NoGlue, Bool.and_eq_true] at h
    exact good_binop op (good a h.1) (good b h.2)
  | .unop op x, h => by
    simp only [NoGlue, Bool.and_eq_true] at h
    have hx := good x h.1
    cases op with
    | neg => exact good_prefix .neg rfl hx (negLit_of_startsMinus (by simpa using h.2))
    | bitNot => exact good_prefix .bitNot rfl hx (by simpa using h.2)
    | not =>
      refine good_prefix .not rfl hx ?_
      cases hn : negLit x with
      | false => rfl
      | true => have := startsDiffChar_of_negLit hn; simp [this] at h
    | _ => exact good_func _ rfl hx
  | .xcrement pre inc v, h => good_xcrement pre inc v (by simpa [NoGlue] using h)
  | .var v, h => good_var v (by simpa [NoGlue] using h)
  | .call name ps as, h => by
    simp only [NoGlue, Bool.and_eq_true] at h
    exact good_call h.1.1 (goodPs ps h.1.2 as (goodAs as h.2))
  | .diffSwitch (.some e cs), h => by
    simp only [NoGlue, Bool.and_eq_true, Bool.not_eq_true'] at h
    exact good_switch (good e h.1.1) h.1.2 (goodCs cs h.2)
  | .diffSwitch .nil, h => by simp [NoGlue] at h
  | .diffSwitch (.blank _), h => by simp [NoGlue] at h
  | .litInt v f, _ => good_litInt v f
  | .litFloat neg b, _ => good_litFloat neg b
  | .litString s, _ => good_litString s
  | .labelProp kw l, h => good_labelProp kw l (by simpa [NoGlue] using h)
  | .enumConst en id, h => by
    simp only [NoGlue, Bool.and_eq_true] at h
    exact good_enumConst en id h.1 h.2
theorem goodAs : ∀ (as : Exprs), NoGlueAs as = true → ArgsOK as
  | .nil, _ => argsOK_nil
  | .cons e es, h => by
    simp only [NoGlueAs, Bool.and_eq_true] at h
    exact argsOK_cons (good e h.1) (goodAs es h.2)
theorem goodPs : ∀ (ps : Pseudos), NoGluePs ps = true → ∀ (as : Exprs), ArgsOK as → ItemsOK ps as
  | .nil, _, _, ha => itemsOK_nil ha
  | .cons k e ps, h, as, ha => by
    simp only [NoGluePs, Bool.and_eq_true] at h
    exact itemsOK_cons (good e h.1) (goodPs ps h.2 as ha)
theorem goodCs : ∀ (cs : Cases), NoGlueCs cs = true → CasesOK cs
  | .nil, _ => casesOK_nil
  | .blank cs, h => casesOK_blank (goodCs cs (by simpa [NoGlueCs] using h))
  | .some e cs, h => by
    simp only [NoGlueCs, Bool.and_eq_true] at h
    exact casesOK_some (good e h.1) (goodCs cs h.2)
end

/-- Inside any context that closes the expression: `)`, `,`, `]`, `;` or the end of the input
(the interface for the statements that embed expressions: `x = e;`, `if (e)`, `f(e, ..)`,
`interrupt[e]:`), with or without `SuppressParens`. -/
theorem expr_print_parse_in_context (e : Expr) (h : NoGlue e = true) (sup : Bool) (fuel : Nat)
    (hf : cost e + 12 ≤ fuel) (rest : List PTok) (hc : closes rest.head? = true) :
    pExpr fuel ((printE sup e).map classify ++ rest) = some (norm e, rest) := by
  cases sup
  · exact (good e h).expr fuel rest hf hc
  · exact (good e h).inner fuel rest hf hc

theorem parseToksFuel_printE (e : Expr) (h : NoGlue e = true) (sup : Bool) (fuel : Nat) (hf : cost e + 12 ≤ fuel) :
    parseToksFuel fuel (printE sup e) = some (norm e) := by
  have := expr_print_parse_in_context e h sup fuel hf [] rfl
  rw [List.append_nil] at this
  simp [parseToksFuel, this]

theorem expr_print_parse_fuel (e : Expr) (h : NoGlue e = true) (fuel : Nat) (hf : cost e + 12 ≤ fuel) :
    parseToksFuel fuel (printExpr e) = some (norm e) := parseToksFuel_printE e h false fuel hf

/-- where the parentheses are suppressed (right-hand side of an assignment, `if (..)`, `sin(..)`) -/
theorem expr_print_parse_sup_fuel (e : Expr) (h : NoGlue e = true) (fuel : Nat) (hf : cost e + 12 ≤ fuel) :
    parseToksFuel fuel (printE true e) = some (norm e) := parseToksFuel_printE e h true fuel hf

theorem numToks_len (s : List Char) : 1 ≤ (numToks s).length := by
  unfold numToks
  split
  · simp
  · split <;> simp

theorem varToks_len (v : Var) : 1 ≤ (varToks v).length := by
  obtain ⟨sg, nm⟩ := v
  cases nm <;> simp [varToks, nameToks, List.length_append] <;> omega

theorem floatToks_len (neg : Bool) (b : FloatBody) : 1 ≤ (floatToks neg b).length := by
  cases b <;> cases neg <;> simp [floatToks]

theorem wrap_len (l : List Tok) : (wrap true l).length ≤ (wrap false l).length := by
  simp only [wrap, if_true, Bool.false_eq_true, if_false, List.length_cons, List.length_append, List.length_nil]
  exact Nat.le_succ_of_le (Nat.le_succ _)

theorem len_true_le_false (e : Expr) : (printE true e).length ≤ (printE false e).length := by
  cases e with
  | ternary c l r => exact wrap_len _
  | binop a op b => exact wrap_len _
  | diffSwitch cs => exact wrap_len _
  | unop op x =>
    simp only [printE]
    split
    · exact wrap_len _
    · exact Nat.le_refl _
  | _ => exact Nat.le_refl _

theorem casesT_len (cs : Cases) (h : cs.isNil = false) : 1 ≤ (printCasesT cs).length := by
  cases cs <;> simp_all [printCasesT, Cases.isNil]

theorem le_len {e : Expr} {n : Nat} (h : n ≤ 40 * (printE true e).length) : n ≤ 40 * (printE false e).length :=
  Nat.le_trans h (Nat.mul_le_mul_left 40 (len_true_le_false e))

theorem four_le {n : Nat} (h : 1 ≤ n) : 4 ≤ 40 * n :=
  Nat.le_trans (by decide : 4 ≤ 40 * 1) (Nat.mul_le_mul_left 40 h)

mutual
/-- Why 40 a token in `fuelFor`: the dearest token is the `:` of a switch `e :`, 31 units (21 in `costCs`, 10 for the
switch) for one token more than `e`. -/
theorem cost_le : ∀ (e : Expr), NoGlue e = true → cost e ≤ 40 * (printE true e).length
  | .ternary c l r, h => by
    simp only [NoGlue, Bool.and_eq_true] at h
    have h1 := le_len (cost_le c h.1.1); have h2 := le_len (cost_le l h.1.2); have h3 := le_len (cost_le r h.2)
    simp only [cost, printE, wrap, if_true, List.length_append, List.length_cons, max_add_le_iff]
    omega
  | .binop a op b, h => by
    simp only [NoGlue, Bool.and_eq_true] at h
    have h1 := le_len (cost_le a h.1); have h2 := le_len (cost_le b h.2)
    simp only [cost, printE, wrap, if_true, List.length_append, List.length_cons, max_add_le_iff]
    omega
  | .unop op x, h => by
    simp only [NoGlue, Bool.and_eq_true] at h
    have h1 := cost_le x h.1
    have g1 := len_true_le_false x
    simp only [cost, printE]
    split <;> simp only [wrap, if_true, List.length_append, List.length_cons, List.length_nil] <;> omega
  | .xcrement pre inc v, _ => four_le (by simp only [printE]; split <;> simp)
  | .var v, _ => four_le (varToks_len v)
  | .call name ps as, h => by
    simp only [NoGlue, Bool.and_eq_true] at h
    have h1 := costPs_le ps h.1.2 as.isNil (printArgs as) (costAs as) (costAs_le as h.2)
    simp only [cost, printE, List.length_append, List.length_cons, List.length_nil]
    omega
  | .diffSwitch (.some e cs), h => by
    simp only [NoGlue, Bool.and_eq_true, Bool.not_eq_true'] at h
    have h1 := le_len (cost_le e h.1.1)
    have h2 := costCs_le cs h.2
    have h3 := casesT_len cs h.1.2
    have h4 := cost_pos e
    simp only [cost, costCs, printE, printCases, wrap, if_true, List.length_append]
    omega
  | .diffSwitch .nil, h => by simp [NoGlue] at h
  | .diffSwitch (.blank _), h => by simp [NoGlue] at h
  | .litInt v f, _ => four_le (numToks_len (printInt f v))
  | .litFloat neg b, _ => four_le (floatToks_len neg b)
  | .litString s, _ => four_le (Nat.le_refl 1)
  | .labelProp kw l, _ => four_le (by simp [printE])
  | .enumConst en id, _ => four_le (by simp [printE])
theorem costAs_le : ∀ (as : Exprs), NoGlueAs as = true → costAs as ≤ 40 * (printArgs as).length + 21
  | .nil, _ => by simp [costAs]
  | .cons e es, h => by
    simp only [NoGlueAs, Bool.and_eq_true] at h
    have h1 := le_len (cost_le e h.1); have h4 := cost_pos e
    have h2 := costAs_le es h.2
    simp only [costAs, printArgs, List.length_append, max_add_le_iff]
    omega
theorem costPs_le : ∀ (ps : Pseudos), NoGluePs ps = true → ∀ (b : Bool) (t : List Tok) (c : Nat),
    c ≤ 40 * t.length + 21 → costPs ps c ≤ 40 * (printItems ps b t).length + 21
  | .nil, _, _, _, _, hc => by simpa [costPs, printItems] using hc
  | .cons k e ps, h, b, t, c, hc => by
    simp only [NoGluePs, Bool.and_eq_true] at h
    have h1 := le_len (cost_le e h.1)
    have h2 := costPs_le ps h.2 b t c hc
    simp only [costPs, printItems, List.length_append, List.length_cons, max_add_le_iff]
    omega
theorem costCs_le : ∀ (cs : Cases), NoGlueCs cs = true → costCs cs ≤ 40 * (printCasesT cs).length + 1
  | .nil, _ => by simp [costCs]
  | .blank cs, h => by
    have h2 := costCs_le cs (by simpa [NoGlueCs] using h)
    simp only [costCs, printCasesT, List.length_cons]
    omega
  | .some e cs, h => by
    simp only [NoGlueCs, Bool.and_eq_true] at h
    have h1 := le_len (cost_le e h.1)
    have h2 := costCs_le cs h.2
    simp only [costCs, printCasesT, List.length_append, List.length_cons, max_add_le_iff]
    omega
end

theorem fuel_suffices (e : Expr) (h : NoGlue e = true) : cost e + 12 ≤ fuelFor (printExpr e) :=
  Nat.add_le_add (le_len (cost_le e h)) (by decide)

theorem fuel_suffices_sup (e : Expr) (h : NoGlue e = true) : cost e + 12 ≤ fuelFor (printE true e) :=
  Nat.add_le_add (cost_le e h) (by decide)

/-- **C08, expressions: printed tokens parse back to the same tree.**  For every expression
without a glue site, the parser accepts the tokens the formatter writes and builds the same
expression up to `norm`: same operators with the same grouping (every nested operator comes back
under the same parent because the printer parenthesises it), same calls, arguments, switch cases
with the same holes, same variables, same literals. -/
theorem expr_print_parse (e : Expr) (h : NoGlue e = true) : parseExpr (printExpr e) = some (norm e) :=
  expr_print_parse_fuel e h _ (fuel_suffices e h)

/-- the same where `SuppressParens` is in effect (no outer parentheses are written) -/
theorem expr_print_parse_sup (e : Expr) (h : NoGlue e = true) : parseExpr (printE true e) = some (norm e) :=
  expr_print_parse_sup_fuel e h _ (fuel_suffices_sup e h)

theorem toksOf_append (a b : List EP) : toksOf (a ++ b) = toksOf a ++ toksOf b := by
  induction a with
  | nil => rfl
  | cons x xs ih => cases x <;> simp [toksOf, ih]

theorem toksOf_ts (l : List Tok) : toksOf (ts l) = l := by
  induction l with
  | nil => rfl
  | cons x xs ih => simpa [ts, toksOf] using ih

theorem toksOf_wrapP (sup : Bool) (ps : List EP) : toksOf (wrapP sup ps) = wrap sup (toksOf ps) := by
  cases sup <;> simp [wrapP, wrap, toksOf, toksOf_append]

mutual
theorem toksOf_printP : ∀ (e : Expr) (sup : Bool), toksOf (printP sup e) = printE sup e
  | .ternary c l r, sup => by
    simp only [printP, printE, toksOf_wrapP, toksOf_append, toksOf, toksOf_printP c, toksOf_printP l, toksOf_printP r]
  | .binop a op b, sup => by
    simp only [printP, printE, toksOf_wrapP, toksOf_append, toksOf, toksOf_printP a, toksOf_printP b]
  | .unop op x, sup => by
    simp only [printP, printE]
    split <;> simp [toksOf_wrapP, toksOf_append, toksOf, toksOf_printP x]
  | .xcrement pre inc v, sup => by simp only [printP, printE, toksOf_ts]
  | .var v, sup => by simp only [printP, printE, toksOf_ts]
  | .call name ps as, sup => by
    simp only [printP, printE, toksOf, toksOf_append, toksOf_printItemsP ps as.isNil _ _ (toksOf_printArgsP as)]
  | .diffSwitch cs, sup => by
    simp only [printP, printE, toksOf_wrapP, toksOf_append, toksOf_printCasesP cs]
    split <;> split <;> simp [toksOf]
  | .litInt v f, sup => by simp only [printP, printE, toksOf_ts]
  | .litFloat neg b, sup => by simp only [printP, printE, toksOf_ts]
  | .litString s, sup => by simp only [printP, printE, toksOf]
  | .labelProp kw l, sup => by simp only [printP, printE, toksOf_ts]
  | .enumConst en id, sup => by simp only [printP, printE, toksOf_ts]
theorem toksOf_printItemsP : ∀ (ps : Pseudos) (b : Bool) (tp : List EP) (t : List Tok), toksOf tp = t →
    toksOf (printItemsP ps b tp) = printItems ps b t
  | .nil, _, _, _, h => by simpa [printItemsP, printItems] using h
  | .cons k e ps, b, tp, t, h => by
    simp only [printItemsP, printItems, toksOf, toksOf_append, toksOf_printP e, toksOf_printItemsP ps b tp t h]
    split <;> simp [toksOf]
theorem toksOf_printArgsP : ∀ (as : Exprs), toksOf (printArgsP as) = printArgs as
  | .nil => rfl
  | .cons e es => by
    simp only [printArgsP, printArgs, toksOf_append, toksOf_printP e, toksOf_printArgsP es]
    split <;> simp [toksOf]
theorem toksOf_printCasesP : ∀ (cs : Cases), toksOf (printCasesP cs) = printCases cs
  | .nil => rfl
  | .blank cs => by simp only [printCasesP, printCases, toksOf_printCasesTP cs]
  | .some e cs => by simp only [printCasesP, printCases, toksOf_append, toksOf_printP e, toksOf_printCasesTP cs]
theorem toksOf_printCasesTP : ∀ (cs : Cases), toksOf (printCasesTP cs) = printCasesT cs
  | .nil => rfl
  | .blank cs => by simp only [printCasesTP, printCasesT, toksOf, toksOf_printCasesTP cs]
  | .some e cs => by simp only [printCasesTP, printCasesT, toksOf, toksOf_append, toksOf_printP e, toksOf_printCasesTP cs]
end

/-- The joined text lexes to the tokens that were written.  This is what fails at a glue site;
the correspondence check evaluates it on every generated expression. -/
def LexOK (e : Expr) : Prop := lex (printText e) = (printExpr e, .eof)

instance (e : Expr) : Decidable (LexOK e) := by unfold LexOK; exact inferInstance

theorem parseText_eq (s : List Char) :
    parseText s = match lexF s with
      | (toks, .eof) => parseExpr toks
      | _ => none := by
  unfold parseText; rw [lex_eq]; rfl

/-- **C08, expressions, on text**: when the written tokens survive the lexer, the printed text
parses back to the same tree. -/
theorem expr_print_parse_text (e : Expr) (h : NoGlue e = true) (hl : LexOK e) :
    parseText (printText e) = some (norm e) := by
  unfold parseText
  rw [hl]
  exact expr_print_parse e h

/- `HintFree`: every integer literal carries the format the parser assigns (`SIGNED`): the radix
of a decompiled literal is a hint that the text does not carry -/
mutual
def HintFree : Expr → Bool
  | .ternary c l r => HintFree c && HintFree l && HintFree r
  | .binop a _ b => HintFree a && HintFree b
  | .unop _ x => HintFree x
  | .call _ ps as => HintFreePs ps && HintFreeAs as
  | .diffSwitch cs => HintFreeCs cs
  | .litInt _ f => f == signedDec
  | _ => true
def HintFreePs : Pseudos → Bool
  | .nil => true
  | .cons _ e ps => HintFree e && HintFreePs ps
def HintFreeAs : Exprs → Bool
  | .nil => true
  | .cons e es => HintFree e && HintFreeAs es
def HintFreeCs : Cases → Bool
  | .nil => true
  | .blank cs => HintFreeCs cs
  | .some e cs => HintFree e && HintFreeCs cs
end

theorem normInt_signedDec (v : Int32) (h : (printInt signedDec v).head? ≠ some '-') :
    normInt v signedDec = .litInt v signedDec := by
  have hn : ¬ v.toInt < 0 := by
    intro hv
    exact h ((printInt_head_minus_iff signedDec v).mpr ⟨rfl, hv⟩)
  simp [normInt, signedDec, hn]

mutual
theorem print_norm : ∀ (e : Expr) (sup : Bool), NoNegLit e = true → HintFree e = true →
    printE sup (norm e) = printE sup e
  | .ternary c l r, sup, h, g => by
    simp only [NoNegLit, HintFree, Bool.and_eq_true] at h g
    simp only [norm, printE, print_norm c false h.1.1 g.1.1, print_norm l false h.1.2 g.1.2, print_norm r false h.2 g.2]
  | .binop a op b, sup, h, g => by
    simp only [NoNegLit, HintFree, Bool.and_eq_true] at h g
    simp only [norm, printE, print_norm a false h.1 g.1, print_norm b false h.2 g.2]
  | .unop op x, sup, h, g => by
    simp only [NoNegLit, HintFree] at h g
    simp only [norm, printE, print_norm x false h g, print_norm x true h g]
  | .xcrement pre inc v, sup, _, _ => rfl
  | .var v, sup, _, _ => rfl
  | .call name ps as, sup, h, g => by
    simp only [NoNegLit, HintFree, Bool.and_eq_true] at h g
    have h1 := print_normAs as h.2 g.2
    have h2 := print_normPs ps h.1 g.1 (normAs as).isNil (printArgs (normAs as))
    have h3 : (normAs as).isNil = as.isNil := by cases as <;> rfl
    simp only [norm, printE, h2]
    rw [h1, h3]
  | .diffSwitch cs, sup, h, g => by
    simp only [NoNegLit, HintFree] at h g
    simp only [norm, printE, print_normCs cs h g]
  | .litInt v f, sup, h, g => by
    have hf : f = signedDec := by simpa [HintFree] using g
    subst hf
    have hh : (printInt signedDec v).head? ≠ some '-' := by simpa [NoNegLit, negLit] using h
    simp only [norm, normInt_signedDec v hh]
  | .litFloat neg b, sup, h, _ => by
    cases b with
    | nan => rfl
    | _ => cases neg with
      | false => rfl
      | true => cases h
  | .litString s, sup, _, _ => rfl
  | .labelProp kw l, sup, _, _ => rfl
  | .enumConst en id, sup, _, _ => rfl
theorem print_normPs : ∀ (ps : Pseudos), NoNegLitPs ps = true → HintFreePs ps = true → ∀ (b : Bool) (t : List Tok),
    printItems (normPs ps) b t = printItems ps b t
  | .nil, _, _, _, _ => rfl
  | .cons k e ps, h, g, b, t => by
    simp only [NoNegLitPs, HintFreePs, Bool.and_eq_true] at h g
    have h3 : (normPs ps).isNil = ps.isNil := by cases ps <;> rfl
    simp only [normPs, printItems, print_norm e false h.1 g.1, print_normPs ps h.2 g.2 b t, h3]
theorem print_normAs : ∀ (as : Exprs), NoNegLitAs as = true → HintFreeAs as = true →
    printArgs (normAs as) = printArgs as
  | .nil, _, _ => rfl
  | .cons e es, h, g => by
    simp only [NoNegLitAs, HintFreeAs, Bool.and_eq_true] at h g
    have h3 : (normAs es).isNil = es.isNil := by cases es <;> rfl
    simp only [normAs, printArgs, print_norm e false h.1 g.1, print_normAs es h.2 g.2, h3]
theorem print_normCs : ∀ (cs : Cases), NoNegLitCs cs = true → HintFreeCs cs = true →
    printCases (normCs cs) = printCases cs
  | .nil, _, _ => rfl
  | .blank cs, h, g => by
    simp only [NoNegLitCs, HintFreeCs] at h g
    simp only [normCs, printCases, print_normCsT cs h g]
  | .some e cs, h, g => by
    simp only [NoNegLitCs, HintFreeCs, Bool.and_eq_true] at h g
    simp only [normCs, printCases, print_norm e false h.1 g.1, print_normCsT cs h.2 g.2]
theorem print_normCsT : ∀ (cs : Cases), NoNegLitCs cs = true → HintFreeCs cs = true →
    printCasesT (normCs cs) = printCasesT cs
  | .nil, _, _ => rfl
  | .blank cs, h, g => by
    simp only [NoNegLitCs, HintFreeCs] at h g
    simp only [normCs, printCasesT, print_normCsT cs h g]
  | .some e cs, h, g => by
    simp only [NoNegLitCs, HintFreeCs, Bool.and_eq_true] at h g
    simp only [normCs, printCasesT, print_norm e false h.1 g.1, print_normCsT cs h.2 g.2]
end

/-- **C08, expressions: printing the re-parsed expression gives the same tokens again**, for
expressions whose literals print without a sign and carry no radix hint (what the parser builds
from text without `-` glued literals). -/
theorem expr_print_idempotent (e : Expr) (h : NoNegLit e = true) (g : HintFree e = true) :
    printExpr (norm e) = printExpr e := print_norm e false h g

theorem print_parse_print {α β : Type} {print : α → β} {parse : β → Option α} {n : α → α} {x : α}
    (hp : parse (print x) = some (n x)) (hi : print (n x) = print x) :
    ∃ x', parse (print x) = some x' ∧ print x' = print x ∧ parse (print x') = some x' :=
  ⟨n x, hp, hi, hi.symm ▸ hp⟩

theorem expr_print_parse_print (e : Expr) (hg : NoGlue e = true) (h : NoNegLit e = true) (g : HintFree e = true) :
    ∃ e', parseExpr (printExpr e) = some e' ∧ printExpr e' = printExpr e ∧ parseExpr (printExpr e') = some e' :=
  print_parse_print (expr_print_parse e hg) (expr_print_idempotent e h g)

section examples
def vx : Expr := .var { sigil := none, name := .normal ['x'] }
def vI0 : Expr := .var { sigil := some .int, name := .reg (-10001) }
def ex1 : Expr := .binop vx .add (.binop (.binop (.litInt 3 signedDec) .mul (.litInt (-4) signedDec)) .shl vI0)
def ex2 : Expr :=
  .ternary (.unop .not vx)
    (.diffSwitch (.some vx (.blank (.some (.litInt 7 ⟨false, .hex⟩) (.blank .nil)))))
    (.call (.ins 23) (.cons .mask (.litInt 5 ⟨false, .bin⟩) .nil)
      (.cons (.unop .sin (.binop vx .sub vx)) (.cons (.xcrement false true ⟨some .float, .reg 5⟩) .nil)))

/-- `(x * f(3, (!x)))`, inside the fragment of `expr_print_idempotent` -/
def ex3 : Expr := .binop vx .mul (.call (.normal ['f']) .nil (.cons (.litInt 3 signedDec) (.cons (.unop .not vx) .nil)))
theorem ex_noGlue : NoGlue ex1 = true ∧ NoGlue ex2 = true ∧ NoGlue ex3 = true := by decide +kernel
example : NoGlue ex1 = true ∧ printText ex1 = "(x + ((3 * -4) << $REG[-10001]))".toList := by
  rw [String.toList_ofList]; exact ⟨ex_noGlue.1, by decide +kernel⟩
example : NoGlue ex2 = true ∧
    printText ex2 = "((!x) ? (x :  : 0x7 :  ) : ins_23(@mask=0b101, sin(x - x), %REG[5]++))".toList := by
  rw [String.toList_ofList]; exact ⟨ex_noGlue.2.1, by decide +kernel⟩
theorem ex1_lexOK : LexOK ex1 := by unfold LexOK; rw [lex_eq]; decide +kernel
example : LexOK ex1 := ex1_lexOK
example : parseText (printText ex1) = some (norm ex1) := expr_print_parse_text ex1 ex_noGlue.1 ex1_lexOK
example : parseExpr (printExpr ex2) = some (norm ex2) ∧ norm ex2 ≠ ex2 :=
  ⟨expr_print_parse ex2 ex_noGlue.2.1, by decide +kernel⟩
example : NoGlue ex3 = true ∧ NoNegLit ex3 = true ∧ HintFree ex3 = true ∧ norm ex3 = ex3 ∧
    printExpr (norm ex3) = printExpr ex3 := ⟨ex_noGlue.2.2, by decide +kernel⟩

/-- grouping is kept: the two ways of nesting the same operators print and parse differently -/
example : parseText "((a - b) - c)".toList ≠ parseText "(a - (b - c))".toList ∧
    parseText "a - b - c".toList = parseText "((a - b) - c)".toList ∧
    parseText "a + b * c".toList = parseText "(a + (b * c))".toList ∧
    parseText "a ? b : c ? d : e".toList = parseText "(a ? b : (c ? d : e))".toList ∧
    parseText "a ? b : c : d".toList = none ∧ parseText "a : b ? c : d".toList = none ∧
    parseText "- -x".toList = none ∧ parseText "-(-x)".toList ≠ none := by
  repeat rw [String.toList_ofList]
  simp only [parseText_eq]
  decide +kernel
end examples

/-- **The glue sites, on the expression level** (known findings "operator-glued-to-operand"):
each conjunct is an expression outside `NoGlue` whose printed text does not parse back.
`-(-3)` and `-(--x)` print `(--3)` / `(---x)`; `~(-3)` prints `(~-3)` (two prefix operators);
`!Enemy` / `!4` / `!(-3)` print a `DifficultyStr` token.  For `-(--x)` the tokens that were
written would parse (`parseExpr (printExpr ..)` succeeds), it is the lexer that fuses them: `LexOK` fails. -/
theorem glue_sites_fail :
    let neg3 : Expr := .litInt (-3) signedDec
    let predec : Expr := .xcrement true false { sigil := none, name := .normal ['x'] }
    (NoGlue (.unop .neg neg3) = false ∧ printText (.unop .neg neg3) = "(--3)".toList ∧
      parseText (printText (.unop .neg neg3)) = none) ∧
    (NoGlue (.unop .neg predec) = false ∧ printText (.unop .neg predec) = "(---x)".toList ∧
      parseText (printText (.unop .neg predec)) = none ∧
      parseExpr (printExpr (.unop .neg predec)) = some (.unop .neg predec) ∧ ¬ LexOK (.unop .neg predec)) ∧
    (NoGlue (.unop .bitNot neg3) = false ∧ parseText (printText (.unop .bitNot neg3)) = none) ∧
    (NoGlue (.unop .not neg3) = false ∧ parseText (printText (.unop .not neg3)) = none) ∧
    (NoGlue (.unop .not (.litInt 4 signedDec)) = false ∧ parseText (printText (.unop .not (.litInt 4 signedDec))) = none) ∧
    (NoGlue (.unop .not (.var { sigil := none, name := .normal "Enemy".toList })) = false ∧
      parseText (printText (.unop .not (.var { sigil := none, name := .normal "Enemy".toList }))) = none) := by
  repeat rw [String.toList_ofList]
  simp only [parseText_eq, LexOK, lex_eq]
  decide +kernel

/-- a negative literal reads back as the operator applied to the magnitude, and printing that
adds parentheses (known finding "negative-literal-gains-parens"): idempotence needs `NoNegLit` -/
theorem negative_literal_gains_parens :
    parseText (printText (.litInt (-3) signedDec)) = some (.unop .neg (.litInt 3 signedDec)) ∧
    printText (.litInt (-3) signedDec) = "-3".toList ∧
    printText (.unop .neg (.litInt 3 signedDec)) = "(-3)".toList ∧
    NoNegLit (.litInt (-3) signedDec) = false := by
  repeat rw [String.toList_ofList]
  simp only [parseText_eq]
  decide +kernel

end TruthModel.C08
