import TruthModel.Lemmas.LowerJumps
import TruthModel.Lemmas.Outcome
/-
The SHAPE of the code `Model/LowerJumps.lean` emits, for every expression, condition, intrinsic table and fuel
(no evaluation involved, so also for code that is never executed): the temp counter and the label counter never
decrease; the labels a fragment defines are pairwise different, lie between the label counter before and after, and
carry the time `t` of their statement; a jump with an explicit time goes to the target of the statement and carries the
time given there (`goto L @ time`), jumps to the compiler's own skip / false / end labels carry none.
In `Lemmas/BodySim.lean` these facts make the fragment of a statement "hygienic" inside the whole stream and keep the
script time constant inside the fragment.
-/
namespace TruthModel.Lower
open TruthModel TruthModel.Regs

def labelTimes : List JStmt → List Int
  | [] => []
  | .label t _ :: rest => t :: labelTimes rest
  | _ :: rest => labelTimes rest

def timedJumps : List JStmt → List (Nat × Int)
  | [] => []
  | .jmp _ l (some x) :: rest => (l, x) :: timedJumps rest
  | .condJmp _ _ _ _ _ l (some x) :: rest => (l, x) :: timedJumps rest
  | .cmpJmp _ _ l (some x) :: rest => (l, x) :: timedJumps rest
  | .countJmp _ _ _ l (some x) :: rest => (l, x) :: timedJumps rest
  | _ :: rest => timedJumps rest

theorem labelTimes_append : ∀ (a b : List JStmt), labelTimes (a ++ b) = labelTimes a ++ labelTimes b := by
  intro a b
  induction a with
  | nil => rfl
  | cons s a ih =>
    cases s with
    | label t l => exact congrArg (t :: ·) ih
    | _ => exact ih

theorem timedJumps_append : ∀ (a b : List JStmt), timedJumps (a ++ b) = timedJumps a ++ timedJumps b := by
  intro a b
  induction a with
  | nil => rfl
  | cons s a ih =>
    cases s with
    | jmp | condJmp | cmpJmp | countJmp =>
      rename_i l tm
      cases tm with
      | none => exact ih
      | some x => exact congrArg ((l, x) :: ·) ih
    | _ => exact ih

/-- a fragment emitted at time `t` for a statement that jumps to `tgt`, between the label counters `lg` and `lg'` -/
structure Shape (t : Int) (tgt : Goto) (lg lg' : Nat) (code : List JStmt) : Prop where
  range : ∀ l ∈ labelsOf code, lg ≤ l ∧ l < lg'
  nodup : (labelsOf code).Nodup
  times : ∀ x ∈ labelTimes code, x = t
  jumps : ∀ p ∈ timedJumps code, p.1 = tgt.l ∧ tgt.time = some p.2

/-- a target without time: the fragment has no jump with an explicit time at all -/
def noTgt : Goto := ⟨0, none⟩

section shape
variable {t : Int} {tgt : Goto} {g g' g1 g2 lg lg' lg1 lg2 : Nat} {code a b : List JStmt}

theorem Shape.retarget {l0 : Nat} (h : Shape t ⟨l0, none⟩ lg lg' code) : Shape t tgt lg lg' code :=
  ⟨h.range, h.nodup, h.times, fun p hp => nomatch (h.jumps p hp).2⟩

theorem Shape.noTimed {t : Int} {l0 : Nat} {lg lg' : Nat} {code : List JStmt}
    (h : Shape t ⟨l0, none⟩ lg lg' code) : timedJumps code = [] := by
  cases hc : timedJumps code with
  | nil => rfl
  | cons p ps => exact nomatch (h.jumps p (hc ▸ List.mem_cons_self ..)).2

theorem Shape.mono {t : Int} {tgt : Goto} {a b a' b' : Nat} {code : List JStmt} (h : Shape t tgt a b code)
    (ha : a' ≤ a) (hb : b ≤ b') : Shape t tgt a' b' code :=
  ⟨fun l hl => ⟨Nat.le_trans ha (h.range l hl).1, Nat.lt_of_lt_of_le (h.range l hl).2 hb⟩, h.nodup, h.times, h.jumps⟩

theorem Shape.ofNoLabels (t : Int) (tgt : Goto) (lg : Nat) {c : List JStmt} (hl : labelsOf c = []) (ht : labelTimes c = [])
    (hj : ∀ p ∈ timedJumps c, p.1 = tgt.l ∧ tgt.time = some p.2) : Shape t tgt lg lg c :=
  ⟨fun _ h => absurd (hl ▸ h) List.not_mem_nil, hl ▸ List.nodup_nil, fun _ h => absurd (ht ▸ h) List.not_mem_nil, hj⟩

theorem Shape.nil (t : Int) (tgt : Goto) (lg : Nat) : Shape t tgt lg lg [] :=
  .ofNoLabels t tgt lg rfl rfl (fun _ h => nomatch h)

theorem Shape.cons_base {t : Int} {tgt : Goto} {lg lg' : Nat} {b : List JStmt} (s : LStmt) (hb : Shape t tgt lg lg' b) :
    Shape t tgt lg lg' (.base s :: b) :=
  ⟨hb.range, hb.nodup, hb.times, hb.jumps⟩

theorem Shape.lift (t : Int) (tgt : Goto) (lg : Nat) (c : List LStmt) : Shape t tgt lg lg (liftCode c) := by
  induction c with
  | nil => exact .nil t tgt lg
  | cons s c ih => exact ih.cons_base s

theorem Shape.label (t : Int) (tgt : Goto) (l : Nat) : Shape t tgt l (l + 1) [.label t l] :=
  ⟨fun l' h => by cases List.mem_singleton.mp h; exact ⟨Nat.le_refl _, Nat.lt_succ_self _⟩, List.pairwise_singleton _ _,
    fun x h => List.mem_singleton.mp h, fun _ h => nomatch h⟩

theorem Shape.append {t : Int} {tgt : Goto} {a1 a2 b1 b2 lo hi : Nat} {a b : List JStmt}
    (ha : Shape t tgt a1 a2 a) (hb : Shape t tgt b1 b2 b) (hd : a2 ≤ b1 ∨ b2 ≤ a1)
    (h1 : lo ≤ a1) (h2 : lo ≤ b1) (h3 : a2 ≤ hi) (h4 : b2 ≤ hi) : Shape t tgt lo hi (a ++ b) where
  range := by
    intro l hl
    rw [labelsOf_append, List.mem_append] at hl
    exact hl.elim (fun h => ⟨Nat.le_trans h1 (ha.range l h).1, Nat.lt_of_lt_of_le (ha.range l h).2 h3⟩)
      (fun h => ⟨Nat.le_trans h2 (hb.range l h).1, Nat.lt_of_lt_of_le (hb.range l h).2 h4⟩)
  nodup := by
    rw [labelsOf_append, List.nodup_append]
    exact ⟨ha.nodup, hb.nodup, fun x hx y hy => hd.elim
      (fun h => Nat.ne_of_lt (Nat.lt_of_lt_of_le (ha.range x hx).2 (Nat.le_trans h (hb.range y hy).1)))
      (fun h => Nat.ne_of_gt (Nat.lt_of_lt_of_le (hb.range y hy).2 (Nat.le_trans h (ha.range x hx).1)))⟩
  times := by
    intro x hx
    rw [labelTimes_append, List.mem_append] at hx
    exact hx.elim (ha.times x) (hb.times x)
  jumps := by
    intro p hp
    rw [timedJumps_append, List.mem_append] at hp
    exact hp.elim (ha.jumps p) (hb.jumps p)

theorem Shape.seq (ha : Shape t tgt lg lg1 a) (hb : Shape t tgt lg1 lg2 b) (h1 : lg ≤ lg1) (h2 : lg1 ≤ lg2) :
    Shape t tgt lg lg2 (a ++ b) :=
  Shape.append ha hb (Or.inl (Nat.le_refl _)) (Nat.le_refl _) h1 h2 (Nat.le_refl _)

theorem Shape.withFrees (h : Shape t tgt lg lg code) (o1 o2 : Option Def) :
    Shape t tgt lg lg (code ++ (freeOfJ o1 ++ freeOfJ o2)) :=
  Shape.seq h (Shape.seq (Shape.lift t tgt lg _) (Shape.lift t tgt lg _) (Nat.le_refl _) (Nat.le_refl _)) (Nat.le_refl _)
    (Nat.le_refl _)

/-- a label of the fragment's own, taken from the counter before the code was lowered, may stand anywhere in the code -/
theorem Shape.insert (h : Shape t tgt (lg + 1) lg' (a ++ b)) (hlt : lg < lg') :
    Shape t tgt lg lg' (a ++ .label t lg :: b) := by
  have hl : labelsOf (a ++ .label t lg :: b) = labelsOf a ++ lg :: labelsOf b := labelsOf_append a _
  have hperm : (labelsOf a ++ lg :: labelsOf b).Perm (lg :: labelsOf (a ++ b)) := by
    rw [labelsOf_append]; exact List.perm_middle
  refine ⟨fun l hm => ?_, ?_, fun x hx => ?_, fun p hp => h.jumps p ?_⟩
  · rcases List.mem_cons.mp (hperm.mem_iff.mp (hl ▸ hm)) with rfl | hm
    · exact ⟨Nat.le_refl _, hlt⟩
    · exact ⟨Nat.le_of_succ_le (h.range l hm).1, (h.range l hm).2⟩
  · rw [hl, hperm.nodup_iff]
    exact List.nodup_cons.mpr ⟨fun hm => Nat.lt_irrefl _ (h.range lg hm).1, h.nodup⟩
  · rw [labelTimes_append] at hx
    rcases List.mem_append.mp hx with hx | hx
    · exact h.times x (by rw [labelTimes_append]; exact List.mem_append_left _ hx)
    · rcases List.mem_cons.mp hx with rfl | hx
      · rfl
      · exact h.times x (by rw [labelTimes_append]; exact List.mem_append_right _ hx)
  · rw [timedJumps_append] at hp ⊢; exact hp

theorem Shape.snoc (h : Shape t tgt (lg + 1) lg' code) (hlt : lg < lg') : Shape t tgt lg lg' (code ++ [.label t lg]) :=
  Shape.insert (b := []) (by rwa [List.append_nil]) hlt

/-- lowering from the counters `(g, lg)` to `(g', lg')` emitted `code` -/
def Emits (t : Int) (tgt : Goto) (g lg g' lg' : Nat) (code : List JStmt) : Prop :=
  g ≤ g' ∧ lg ≤ lg' ∧ Shape t tgt lg lg' code

theorem Emits.le_gen (h : Emits t tgt g lg g' lg' code) : g ≤ g' := h.1
theorem Emits.le_lgen (h : Emits t tgt g lg g' lg' code) : lg ≤ lg' := h.2.1
theorem Emits.shape (h : Emits t tgt g lg g' lg' code) : Shape t tgt lg lg' code := h.2.2

theorem Emits.pure (g : Nat) (h : Shape t tgt lg lg code) :
    Emits t tgt g lg g lg code :=
  ⟨Nat.le_refl _, Nat.le_refl _, h⟩

theorem Emits.seq (h1 : Emits t tgt g lg g1 lg1 a) (h2 : Emits t tgt g1 lg1 g2 lg2 b) : Emits t tgt g lg g2 lg2 (a ++ b) :=
  ⟨Nat.le_trans h1.le_gen h2.le_gen, Nat.le_trans h1.le_lgen h2.le_lgen, Shape.seq h1.shape h2.shape h1.le_lgen h2.le_lgen⟩

theorem Emits.cons (s : LStmt) (h : Emits t tgt g lg g' lg' code) : Emits t tgt g lg g' lg' (.base s :: code) :=
  ⟨h.le_gen, h.le_lgen, Shape.cons_base s h.shape⟩

/-- a temporary was taken from the counter before the code was lowered -/
theorem Emits.alloc (s : LStmt) (h : Emits t tgt (g + 1) lg g' lg' code) : Emits t tgt g lg g' lg' (.base s :: code) :=
  ⟨Nat.le_of_succ_le h.le_gen, h.le_lgen, Shape.cons_base s h.shape⟩

theorem Emits.retarget {l0 : Nat} (h : Emits t ⟨l0, none⟩ g lg g' lg' code) : Emits t tgt g lg g' lg' code :=
  ⟨h.le_gen, h.le_lgen, h.shape.retarget⟩

theorem Emits.temp (d : Def) (ty : RTy) (c2 : List LStmt) (h : Emits t tgt (g + 1) lg g' lg' code) :
    Emits t tgt g lg g' lg' (.base (.alloc d ty) :: code ++ liftCode c2 ++ [.base (.free d)]) :=
  ((h.alloc _).seq (.pure _ (Shape.lift t tgt lg' c2))).seq (.pure _ (Shape.lift t tgt lg' [.free d]))

end shape

theorem jumps_to_tgt {c : List JStmt} {tgt : Goto}
    (h : timedJumps c = match tgt.time with | some x => [(tgt.l, x)] | none => []) :
    ∀ p ∈ timedJumps c, p.1 = tgt.l ∧ tgt.time = some p.2 := by
  rw [h]
  cases tgt.time with
  | none => exact fun _ h => nomatch h
  | some x => intro p hp; cases List.mem_singleton.mp hp; exact ⟨rfl, rfl⟩

theorem lowerJmp_ok {I : JIntrinsics} {mask : Nat} {tgt : Goto} {j : List JStmt} (h : lowerJmp I mask tgt = .ok j) :
    j = [.jmp mask tgt.l tgt.time] := by
  unfold lowerJmp at h
  rcases hj : I.jmp with _ | _ <;> simp only [hj, Outcome.ok.injEq, reduceCtorEq] at h
  exact h.symm

theorem shape_lowerJmp {I : JIntrinsics} {mask : Nat} {tgt : Goto} {j : List JStmt} (t : Int) (lg : Nat)
    (h : lowerJmp I mask tgt = .ok j) : Shape t tgt lg lg j := by
  cases lowerJmp_ok h
  exact Shape.ofNoLabels t tgt lg rfl rfl (jumps_to_tgt (by cases tgt.time <;> rfl))

theorem shape_condJmpAtom {I : JIntrinsics} {mask : Nat} {kw : Kw} {op : BinOp} {tyA tyB : RTy} {a b : Arg} {tgt : Goto}
    {c : List JStmt} (t : Int) (lg : Nat) (h : condJmpAtom I mask kw op tyA tyB a b tgt = .ok c) : Shape t tgt lg lg c := by
  -- whatever the operator becomes, the code is one conditional jump or the pair compare + jump
  revert h
  fun_cases condJmpAtom I mask kw op tyA tyB a b tgt
  case case4 => intro h; cases h; exact Shape.ofNoLabels t tgt lg rfl rfl (jumps_to_tgt (by cases tgt.time <;> rfl))
  case case5 => intro h; cases h; exact Shape.ofNoLabels t tgt lg rfl rfl (jumps_to_tgt (by cases tgt.time <;> rfl))
  all_goals nofun

theorem emits_liftAtom {r : Outcome (List LStmt)} {g lg : Nat} {code : List JStmt} {g' lg' : Nat} (t : Int) (tgt : Goto)
    (h : liftAtom r g lg = .ok (code, g', lg')) : Emits t tgt g lg g' lg' code := by
  cases r with
  | ok c => cases h; exact .pure _ (Shape.lift t tgt lg c)
  | err x => cases h
  | panic x => cases h

theorem shape_lowerCountJmp {I : JIntrinsics} {lg : Nat} {t : Int} {mask : Nat} {kw : Kw} {v : VarRef} {k : CountKind}
    {tgt : Goto} {code : List JStmt} {lg' : Nat} (h : lowerCountJmp I lg t mask kw v k tgt = .ok (code, lg')) :
    lg ≤ lg' ∧ Shape t tgt lg lg' code := by
  revert h
  fun_cases lowerCountJmp I lg t mask kw v k tgt
  case case3 =>
    intro h; cases h
    exact ⟨Nat.le_refl _, Shape.ofNoLabels t tgt lg rfl rfl (jumps_to_tgt (by cases tgt.time <;> rfl))⟩
  case case4 =>
    rename_i hj
    intro h; cases h
    have hcj : Shape t tgt lg lg [JStmt.countJmp mask k v.lowered lg none] :=
      Shape.ofNoLabels t tgt lg rfl rfl (fun _ h => nomatch h)
    exact ⟨Nat.le_succ _, Shape.seq (Shape.seq hcj (shape_lowerJmp t lg hj) (Nat.le_refl _) (Nat.le_refl _)) (Shape.label t tgt lg)
      (Nat.le_refl _) (Nat.le_succ _)⟩
  all_goals nofun

/-! The successful runs of the lowering functions with more than one sub-call, as rules: the sub-calls that succeeded and
the code put together from theirs (`Lemmas/LowerExprSound.lean` goes through the same rules with evaluation). -/
section rules

theorem bindCode {β} {x : Outcome (List JStmt × Gen × Nat)} {f : List JStmt → Gen → Nat → Outcome β} :
    Binds x (fun r => f r.1 r.2.1 r.2.2) (match x with | .ok (c, g, lg) => f c g lg | .err e => .err e | .panic p => .panic p) :=
  ⟨by rintro a rfl; rfl, by rintro c rfl; rfl, by rintro s rfl; rfl⟩

theorem bindJ {β} {x : Outcome (List JStmt)} {f : List JStmt → Outcome β} :
    Binds x f (match x with | .ok j => f j | .err e => .err e | .panic p => .panic p) :=
  ⟨by rintro a rfl; rfl, by rintro c rfl; rfl, by rintro s rfl; rfl⟩

theorem bindL {β} {x : Outcome (List LStmt)} {f : List LStmt → Outcome β} :
    Binds x f (match x with | .ok c => f c | .err e => .err e | .panic p => .panic p) :=
  ⟨by rintro a rfl; rfl, by rintro c rfl; rfl, by rintro s rfl; rfl⟩

theorem bindOperand {β} {x : Outcome OperandJ} {f : OperandJ → Outcome β} :
    Binds x f (match x with | .ok A => f A | .err e => .err e | .panic p => .panic p) :=
  ⟨by rintro a rfl; rfl, by rintro c rfl; rfl, by rintro s rfl; rfl⟩

variable {I : JIntrinsics} {db ab fuel g lg g' lg' : Nat} {t : Int} {mask : Nat} {code : List JStmt} {v : VarRef} {kw : Kw} {tgt : Goto}

theorem lowerOperandJ_ok {ty : RTy} {guard : Bool} {e : SExpr} {O : OperandJ}
    (h : lowerOperandJ I db ab (fuel + 1) g lg t mask v ty guard e = .ok O) :
    (∃ a, e.simple? = some a ∧ O = ⟨[], a, e.simpleTy, g, lg, none⟩) ∨
    (e.simple? = none ∧ (e.temp.tmpTy = ty ∧ e.temp.tmpTy = e.temp.readTy ∧ guard = true) ∧ ∃ c g1 lg1,
      lowerSetJ I db ab fuel g lg t mask v e.temp.tmpExpr = .ok (c, g1, lg1) ∧
      O = ⟨c, v.toArg e.temp.readTy, e.temp.readTy, g1, lg1, none⟩) ∨
    (e.simple? = none ∧ ¬ (e.temp.tmpTy = ty ∧ e.temp.tmpTy = e.temp.readTy ∧ guard = true) ∧ ∃ c g1 lg1,
      lowerSetJ I db ab fuel (g + 1) lg t mask (tmpVar g e.temp.tmpTy) e.temp.tmpExpr = .ok (c, g1, lg1) ∧
      O = ⟨.base (.alloc g e.temp.tmpTy) :: c, .loc g e.temp.readTy, e.temp.readTy, g1, lg1, some g⟩) := by
  rw [lowerOperandJ] at h
  cases hs : e.simple? with
  | some a => rw [hs] at h; cases h; exact .inl ⟨a, rfl, rfl⟩
  | none =>
    rw [hs] at h
    by_cases hg : e.temp.tmpTy = ty ∧ e.temp.tmpTy = e.temp.readTy ∧ guard = true
    · rw [if_pos hg] at h
      obtain ⟨⟨c, g1, lg1⟩, h1, h⟩ := bindCode.inv h
      cases h
      exact .inr (.inl ⟨rfl, hg, c, g1, lg1, h1, rfl⟩)
    · rw [if_neg hg] at h
      obtain ⟨⟨c, g1, lg1⟩, h1, h⟩ := bindCode.inv h
      cases h
      exact .inr (.inr ⟨rfl, hg, c, g1, lg1, h1, rfl⟩)

theorem lowerBinopJ_ok {op : BinOp} {a b : SExpr}
    (h : lowerBinopJ I db ab (fuel + 1) g lg t mask v op a b = .ok (code, g', lg')) :
    ∃ A B c, lowerOperandJ I db ab fuel g lg t mask v (binopTy op a.ty) (!b.uses v.name) a = .ok A ∧
      lowerOperandJ I db ab fuel A.gen A.lgen t mask v (binopTy op a.ty) (!operandUses a v.name A.free) b = .ok B ∧
      lowerBinopAtom I.base mask v op A.ty A.atom B.atom = .ok c ∧ g' = B.gen ∧ lg' = B.lgen ∧
      code = A.code ++ (B.code ++ (liftCode c ++ (freeOfJ B.free ++ freeOfJ A.free))) := by
  rw [lowerBinopJ] at h
  obtain ⟨A, hA, h⟩ := bindOperand.inv h
  obtain ⟨B, hB, h⟩ := bindOperand.inv h
  obtain ⟨c, hc, h⟩ := bindL.inv h
  cases h
  exact ⟨A, B, c, hA, hB, hc, rfl, rfl, rfl⟩

theorem lowerUnopJ_ok {op : UnOp} {b : SExpr}
    (h : lowerUnopJ I db ab (fuel + 1) g lg t mask v op b = .ok (code, g', lg')) :
    ∃ B c, lowerOperandJ I db ab fuel g lg t mask v (unopTy op b.ty) true b = .ok B ∧
      lowerUnopAtom I.base mask v op B.ty B.atom = .ok c ∧ g' = B.gen ∧ lg' = B.lgen ∧
      code = B.code ++ (liftCode c ++ freeOfJ B.free) := by
  rw [lowerUnopJ] at h
  obtain ⟨B, hB, h⟩ := bindOperand.inv h
  obtain ⟨c, hc, h⟩ := bindL.inv h
  cases h
  exact ⟨B, c, hB, hc, rfl, rfl, rfl⟩

theorem lowerTernaryJ_ok {c l r : SExpr}
    (h : lowerTernaryJ I db ab (fuel + 1) g lg t mask v c l r = .ok (code, g', lg')) :
    ∃ c1 g1 lg1 c2 g2 lg2 j c3,
      lowerCondJ I db ab fuel g (lg + 2) t mask .kunless c ⟨lg, none⟩ = .ok (c1, g1, lg1) ∧
      lowerSetJ I db ab fuel g1 lg1 t mask v l = .ok (c2, g2, lg2) ∧
      lowerJmp I mask ⟨lg + 1, none⟩ = .ok j ∧
      lowerSetJ I db ab fuel g2 lg2 t mask v r = .ok (c3, g', lg') ∧
      code = c1 ++ (c2 ++ (j ++ (.label t lg :: (c3 ++ [.label t (lg + 1)])))) := by
  rw [lowerTernaryJ] at h
  obtain ⟨⟨c1, g1, lg1⟩, h1, h⟩ := bindCode.inv h
  obtain ⟨⟨c2, g2, lg2⟩, h2, h⟩ := bindCode.inv h
  obtain ⟨j, hj, h⟩ := bindJ.inv h
  obtain ⟨⟨c3, g3, lg3⟩, h3, h⟩ := bindCode.inv h
  cases h
  exact ⟨_, _, _, _, _, _, _, _, h1, h2, hj, h3, rfl⟩

theorem lowerCmpJ_ok {a b : SExpr} {op : BinOp}
    (h : lowerCmpJ I db ab (fuel + 1) g lg t mask kw a op b tgt = .ok (code, g', lg')) :
    ∃ A B c, lowerTempJ I db ab fuel g lg t mask a = .ok A ∧ lowerTempJ I db ab fuel A.gen A.lgen t mask b = .ok B ∧
      condJmpAtom I mask kw op A.ty B.ty A.atom B.atom tgt = .ok c ∧ g' = B.gen ∧ lg' = B.lgen ∧
      code = A.code ++ (B.code ++ (c ++ (freeOfJ B.free ++ freeOfJ A.free))) := by
  rw [lowerCmpJ] at h
  obtain ⟨A, hA, h⟩ := bindOperand.inv h
  obtain ⟨B, hB, h⟩ := bindOperand.inv h
  obtain ⟨c, hc, h⟩ := bindJ.inv h
  cases h
  exact ⟨A, B, c, hA, hB, hc, rfl, rfl, rfl⟩

theorem lowerLogicJ_ok {a b : SExpr} {op : BinOp}
    (h : lowerLogicJ I db ab (fuel + 1) g lg t mask kw a op b tgt = .ok (code, g', lg')) :
    (((kw = .kif ∧ op = .lor) ∨ (kw = .kunless ∧ op = .land)) ∧ ∃ c1 g1 lg1 c2,
      lowerCondJ I db ab fuel g lg t mask kw a tgt = .ok (c1, g1, lg1) ∧
      lowerCondJ I db ab fuel g1 lg1 t mask kw b tgt = .ok (c2, g', lg') ∧ code = c1 ++ c2) ∨
    (¬ ((kw = .kif ∧ op = .lor) ∨ (kw = .kunless ∧ op = .land)) ∧ ∃ c1 g1 lg1 c2 j,
      lowerCondJ I db ab fuel g (lg + 1) t mask kw.negate a ⟨lg, none⟩ = .ok (c1, g1, lg1) ∧
      lowerCondJ I db ab fuel g1 lg1 t mask kw.negate b ⟨lg, none⟩ = .ok (c2, g', lg') ∧
      lowerJmp I mask tgt = .ok j ∧ code = c1 ++ (c2 ++ (j ++ [.label t lg]))) := by
  rw [lowerLogicJ] at h
  by_cases easy : (kw = .kif ∧ op = .lor) ∨ (kw = .kunless ∧ op = .land)
  · rw [if_pos easy] at h
    obtain ⟨⟨c1, g1, lg1⟩, h1, h⟩ := bindCode.inv h
    obtain ⟨⟨c2, g2, lg2⟩, h2, h⟩ := bindCode.inv h
    cases h
    exact .inl ⟨easy, _, _, _, _, h1, h2, rfl⟩
  · rw [if_neg easy] at h
    obtain ⟨⟨c1, g1, lg1⟩, h1, h⟩ := bindCode.inv h
    obtain ⟨⟨c2, g2, lg2⟩, h2, h⟩ := bindCode.inv h
    obtain ⟨j, hj, h⟩ := bindJ.inv h
    cases h
    exact .inr ⟨easy, _, _, _, _, _, h1, h2, hj, rfl⟩

/-- `lower_cond_jump_non_count` dispatches on the shape of the condition: a comparison, `&&` / `||`, `!`, or anything else of
type `int` as `<e> != 0` -/
theorem lowerCondJ_ok {e : SExpr} {r : List JStmt × Gen × Nat} (h : lowerCondJ I db ab (fuel + 1) g lg t mask kw e tgt = .ok r) :
    (∃ op a b, e = .binop op a b ∧ isComparison op = true ∧ lowerCmpJ I db ab fuel g lg t mask kw a op b tgt = .ok r) ∨
    (∃ op a b, e = .binop op a b ∧ (op = .land ∨ op = .lor) ∧ lowerLogicJ I db ab fuel g lg t mask kw a op b tgt = .ok r) ∨
    (∃ b, e = .unop .not b ∧ lowerCondJ I db ab fuel g lg t mask kw.negate b tgt = .ok r) ∨
    (e.ty = .int ∧ lowerCmpJ I db ab fuel g lg t mask kw e .ne (.litI 0) tgt = .ok r) := by
  have fallback : (if e.ty ≠ .int then (.panic "assertion failed: ty == ScalarType::Int" : Outcome (List JStmt × Gen × Nat))
      else lowerCmpJ I db ab fuel g lg t mask kw e .ne (.litI 0) tgt) = .ok r →
      e.ty = .int ∧ lowerCmpJ I db ab fuel g lg t mask kw e .ne (.litI 0) tgt = .ok r := by
    intro h
    by_cases hty : e.ty = .int
    · rw [if_neg (not_not_intro hty)] at h; exact ⟨hty, h⟩
    · rw [if_pos hty] at h; cases h
  unfold lowerCondJ at h
  split at h
  next op a b =>
    by_cases hc : isComparison op = true
    · rw [if_pos hc] at h; exact .inl ⟨op, a, b, rfl, hc, h⟩
    · rw [if_neg hc] at h
      by_cases hl : op = .land ∨ op = .lor
      · rw [if_pos hl] at h; exact .inr (.inl ⟨op, a, b, rfl, hl, h⟩)
      · rw [if_neg hl] at h; exact .inr (.inr (.inr (fallback h)))
  next b => exact .inr (.inr (.inl ⟨b, rfl, h⟩))
  next => exact .inr (.inr (.inr (fallback h)))

end rules

/-- at fuel `fuel`, each of the ten lowering functions, when it succeeds, `Emits` its code: the counters do not decrease and
the code has the `Shape` (one conjunct per function, in the order of the `mutual` block) -/
def ShapeAt (I : JIntrinsics) (db ab fuel : Nat) : Prop :=
  (∀ g lg t mask v e code g' lg', lowerSetJ I db ab fuel g lg t mask v e = .ok (code, g', lg') →
    g ≤ g' ∧ lg ≤ lg' ∧ Shape t noTgt lg lg' code) ∧
  (∀ g lg t mask v ty guard e O, lowerOperandJ I db ab fuel g lg t mask v ty guard e = .ok O →
    g ≤ O.gen ∧ lg ≤ O.lgen ∧ Shape t noTgt lg O.lgen O.code) ∧
  (∀ g lg t mask v op a b code g' lg', lowerBinopJ I db ab fuel g lg t mask v op a b = .ok (code, g', lg') →
    g ≤ g' ∧ lg ≤ lg' ∧ Shape t noTgt lg lg' code) ∧
  (∀ g lg t mask v op b code g' lg', lowerUnopJ I db ab fuel g lg t mask v op b = .ok (code, g', lg') →
    g ≤ g' ∧ lg ≤ lg' ∧ Shape t noTgt lg lg' code) ∧
  (∀ g lg t mask v cs code g' lg', lowerSwitchJ I db ab fuel g lg t mask v cs = .ok (code, g', lg') →
    g ≤ g' ∧ lg ≤ lg' ∧ Shape t noTgt lg lg' code) ∧
  (∀ g lg t mask v c l r code g' lg', lowerTernaryJ I db ab fuel g lg t mask v c l r = .ok (code, g', lg') →
    g ≤ g' ∧ lg ≤ lg' ∧ Shape t noTgt lg lg' code) ∧
  (∀ g lg t mask kw e tgt code g' lg', lowerCondJ I db ab fuel g lg t mask kw e tgt = .ok (code, g', lg') →
    g ≤ g' ∧ lg ≤ lg' ∧ Shape t tgt lg lg' code) ∧
  (∀ g lg t mask e O, lowerTempJ I db ab fuel g lg t mask e = .ok O →
    g ≤ O.gen ∧ lg ≤ O.lgen ∧ Shape t noTgt lg O.lgen O.code) ∧
  (∀ g lg t mask kw a op b tgt code g' lg', lowerCmpJ I db ab fuel g lg t mask kw a op b tgt = .ok (code, g', lg') →
    g ≤ g' ∧ lg ≤ lg' ∧ Shape t tgt lg lg' code) ∧
  (∀ g lg t mask kw a op b tgt code g' lg', lowerLogicJ I db ab fuel g lg t mask kw a op b tgt = .ok (code, g', lg') →
    g ≤ g' ∧ lg ≤ lg' ∧ Shape t tgt lg lg' code)

theorem shapeAt_zero (I : JIntrinsics) (db ab : Nat) : ShapeAt I db ab 0 := by
  refine ⟨?_, ?_, ?_, ?_, ?_, ?_, ?_, ?_, ?_, ?_⟩
  · intro _ _ _ _ _ _ _ _ _ h; simp [lowerSetJ] at h
  · intro _ _ _ _ _ _ _ _ _ h; simp [lowerOperandJ] at h
  · intro _ _ _ _ _ _ _ _ _ _ _ h; simp [lowerBinopJ] at h
  · intro _ _ _ _ _ _ _ _ _ _ h; simp [lowerUnopJ] at h
  · intro _ _ _ _ _ _ _ _ _ h; simp [lowerSwitchJ] at h
  · intro _ _ _ _ _ _ _ _ _ _ _ h; simp [lowerTernaryJ] at h
  · intro _ _ _ _ _ _ _ _ _ _ h; simp [lowerCondJ] at h
  · intro _ _ _ _ _ _ h; simp [lowerTempJ] at h
  · intro _ _ _ _ _ _ _ _ _ _ _ _ h; simp [lowerCmpJ] at h
  · intro _ _ _ _ _ _ _ _ _ _ _ _ h; simp [lowerLogicJ] at h

section step
variable {I : JIntrinsics} {db ab fuel : Nat} (ih : ShapeAt I db ab fuel) {g lg g' lg' : Nat} {t : Int} {mask : Nat}
  {code : List JStmt}
include ih

theorem ShapeAt.set {v : VarRef} {e : SExpr}
    (h : lowerSetJ I db ab fuel g lg t mask v e = .ok (code, g', lg')) : Emits t noTgt g lg g' lg' code :=
  ih.1 _ _ _ _ _ _ _ _ _ h

theorem ShapeAt.operand {v : VarRef} {ty : RTy} {guard : Bool} {e : SExpr} {O : OperandJ}
    (h : lowerOperandJ I db ab fuel g lg t mask v ty guard e = .ok O) : Emits t noTgt g lg O.gen O.lgen O.code :=
  ih.2.1 _ _ _ _ _ _ _ _ _ h

theorem ShapeAt.binop {v : VarRef} {op : BinOp} {a b : SExpr}
    (h : lowerBinopJ I db ab fuel g lg t mask v op a b = .ok (code, g', lg')) : Emits t noTgt g lg g' lg' code :=
  ih.2.2.1 _ _ _ _ _ _ _ _ _ _ _ h

theorem ShapeAt.unop {v : VarRef} {op : UnOp} {b : SExpr}
    (h : lowerUnopJ I db ab fuel g lg t mask v op b = .ok (code, g', lg')) : Emits t noTgt g lg g' lg' code :=
  ih.2.2.2.1 _ _ _ _ _ _ _ _ _ _ h

theorem ShapeAt.switch {v : VarRef} {cs : List (Nat × SExpr)}
    (h : lowerSwitchJ I db ab fuel g lg t mask v cs = .ok (code, g', lg')) : Emits t noTgt g lg g' lg' code :=
  ih.2.2.2.2.1 _ _ _ _ _ _ _ _ _ h

theorem ShapeAt.ternary {v : VarRef} {c l r : SExpr}
    (h : lowerTernaryJ I db ab fuel g lg t mask v c l r = .ok (code, g', lg')) : Emits t noTgt g lg g' lg' code :=
  ih.2.2.2.2.2.1 _ _ _ _ _ _ _ _ _ _ _ h

theorem ShapeAt.cond {kw : Kw} {e : SExpr} {tgt : Goto}
    (h : lowerCondJ I db ab fuel g lg t mask kw e tgt = .ok (code, g', lg')) : Emits t tgt g lg g' lg' code :=
  ih.2.2.2.2.2.2.1 _ _ _ _ _ _ _ _ _ _ h

theorem ShapeAt.temp {e : SExpr} {O : OperandJ}
    (h : lowerTempJ I db ab fuel g lg t mask e = .ok O) : Emits t noTgt g lg O.gen O.lgen O.code :=
  ih.2.2.2.2.2.2.2.1 _ _ _ _ _ _ h

theorem ShapeAt.cmp {kw : Kw} {a : SExpr} {op : BinOp} {b : SExpr} {tgt : Goto}
    (h : lowerCmpJ I db ab fuel g lg t mask kw a op b tgt = .ok (code, g', lg')) :
    Emits t tgt g lg g' lg' code :=
  ih.2.2.2.2.2.2.2.2.1 _ _ _ _ _ _ _ _ _ _ _ _ h

theorem ShapeAt.logic {kw : Kw} {a : SExpr} {op : BinOp} {b : SExpr} {tgt : Goto}
    (h : lowerLogicJ I db ab fuel g lg t mask kw a op b tgt = .ok (code, g', lg')) :
    Emits t tgt g lg g' lg' code :=
  ih.2.2.2.2.2.2.2.2.2 _ _ _ _ _ _ _ _ _ _ _ _ h

theorem shape_set {v : VarRef} {e : SExpr}
    (h : lowerSetJ I db ab (fuel + 1) g lg t mask v e = .ok (code, g', lg')) : Emits t noTgt g lg g' lg' code := by
  rw [lowerSetJ] at h
  cases hs : e.simple? with
  | some a => rw [hs] at h; exact emits_liftAtom t noTgt h
  | none =>
    rw [hs] at h; dsimp only at h
    by_cases hty : e.temp.readTy ≠ e.temp.tmpTy
    · rw [if_pos hty] at h
      obtain ⟨⟨c1, g1, lg1⟩, h1, h⟩ := bindCode.inv h
      obtain ⟨c2, _, h⟩ := bindL.inv h
      cases h; exact (ih.set h1).temp _ _ _
    · rw [if_neg hty] at h
      split at h
      · exact ih.binop h
      · exact ih.unop h
      · exact ih.switch h
      · exact ih.ternary h
      · cases h

theorem shape_operand {v : VarRef} {ty : RTy} {guard : Bool} {e : SExpr} {O : OperandJ}
    (h : lowerOperandJ I db ab (fuel + 1) g lg t mask v ty guard e = .ok O) : Emits t noTgt g lg O.gen O.lgen O.code := by
  obtain ⟨a, _, rfl⟩ | ⟨_, _, c, g1, lg1, h1, rfl⟩ | ⟨_, _, c, g1, lg1, h1, rfl⟩ := lowerOperandJ_ok h
  · exact .pure _ (Shape.nil t noTgt lg)
  · exact ih.set h1
  · exact (ih.set h1).alloc _

theorem shape_binop {v : VarRef} {op : BinOp} {a b : SExpr}
    (h : lowerBinopJ I db ab (fuel + 1) g lg t mask v op a b = .ok (code, g', lg')) : Emits t noTgt g lg g' lg' code := by
  obtain ⟨A, B, c, hA, hB, _, rfl, rfl, rfl⟩ := lowerBinopJ_ok h
  exact (ih.operand hA).seq ((ih.operand hB).seq (.pure _ ((Shape.lift t noTgt _ c).withFrees B.free A.free)))

theorem shape_unop {v : VarRef} {op : UnOp} {b : SExpr}
    (h : lowerUnopJ I db ab (fuel + 1) g lg t mask v op b = .ok (code, g', lg')) : Emits t noTgt g lg g' lg' code := by
  obtain ⟨B, c, hB, _, rfl, rfl, rfl⟩ := lowerUnopJ_ok h
  exact (ih.operand hB).seq (.pure _ (Shape.seq (Shape.lift t noTgt _ c) (Shape.lift t noTgt _ _) (Nat.le_refl _)
    (Nat.le_refl _)))

theorem shape_switch {v : VarRef} {cs : List (Nat × SExpr)}
    (h : lowerSwitchJ I db ab (fuel + 1) g lg t mask v cs = .ok (code, g', lg')) : Emits t noTgt g lg g' lg' code := by
  cases cs with
  | nil => rw [lowerSwitchJ] at h; cases h; exact .pure _ (Shape.nil t noTgt lg)
  | cons hd rest =>
    obtain ⟨caseMask, c⟩ := hd
    rw [lowerSwitchJ] at h
    obtain ⟨⟨c1, g1, lg1⟩, hfirst, h⟩ := bindCode.inv h
    obtain ⟨⟨c2, g2, lg2⟩, h2, h⟩ := bindCode.inv h
    cases h
    refine Emits.seq ?_ (ih.switch h2)
    split at hfirst
    · cases hfirst; exact .pure _ (Shape.nil t noTgt lg)
    · exact ih.set hfirst

theorem shape_ternary {v : VarRef} {c l r : SExpr}
    (h : lowerTernaryJ I db ab (fuel + 1) g lg t mask v c l r = .ok (code, g', lg')) : Emits t noTgt g lg g' lg' code := by
  obtain ⟨c1, g1, lg1, c2, g2, lg2, j, c3, h1, h2, hj, h3, rfl⟩ := lowerTernaryJ_ok h
  -- the sub-fragments one after the other have their labels in `[lg + 2, lg')`; the own labels `lg + 1` and `lg` go in
  have hall := (((ih.cond h1).retarget.seq (ih.set h2)).seq (.pure _ ((shape_lowerJmp t lg2 hj).retarget (tgt := noTgt)))).seq
    (ih.set h3)
  have h2' : lg + 2 ≤ lg' := hall.le_lgen
  have hend : Shape t noTgt (lg + 1) lg' ((c1 ++ c2 ++ j) ++ (c3 ++ [.label t (lg + 1)])) := by
    simpa only [List.append_assoc] using hall.shape.snoc h2'
  exact ⟨hall.le_gen, Nat.le_trans (Nat.le_add_right lg 2) h2',
    by simpa only [List.append_assoc] using hend.insert (Nat.lt_of_succ_lt h2')⟩

theorem shape_temp {e : SExpr} {O : OperandJ}
    (h : lowerTempJ I db ab (fuel + 1) g lg t mask e = .ok O) : Emits t noTgt g lg O.gen O.lgen O.code := by
  rw [lowerTempJ] at h
  cases hs : e.simple? with
  | some a => rw [hs] at h; cases h; exact .pure _ (Shape.nil t noTgt lg)
  | none =>
    rw [hs] at h
    obtain ⟨⟨c, g1, lg1⟩, h1, h⟩ := bindCode.inv h
    cases h; exact (ih.set h1).alloc _

theorem shape_cmp {kw : Kw} {a : SExpr} {op : BinOp} {b : SExpr} {tgt : Goto}
    (h : lowerCmpJ I db ab (fuel + 1) g lg t mask kw a op b tgt = .ok (code, g', lg')) : Emits t tgt g lg g' lg' code := by
  obtain ⟨A, B, c, hA, hB, hC, rfl, rfl, rfl⟩ := lowerCmpJ_ok h
  exact (ih.temp hA).retarget.seq ((ih.temp hB).retarget.seq (.pure _ ((shape_condJmpAtom t _ hC).withFrees B.free A.free)))

theorem shape_logic {kw : Kw} {a : SExpr} {op : BinOp} {b : SExpr} {tgt : Goto}
    (h : lowerLogicJ I db ab (fuel + 1) g lg t mask kw a op b tgt = .ok (code, g', lg')) : Emits t tgt g lg g' lg' code := by
  obtain ⟨_, c1, g1, lg1, c2, h1, h2, rfl⟩ | ⟨_, c1, g1, lg1, c2, j, h1, h2, hj, rfl⟩ := lowerLogicJ_ok h
  · exact (ih.cond h1).seq (ih.cond h2)
  · -- the body has its labels in `[lg + 1, lg')`; the own label `lg` comes last
    have hbody := ((ih.cond h1).retarget (tgt := tgt)).seq ((ih.cond h2).retarget.seq (.pure _ (shape_lowerJmp t lg' hj)))
    exact ⟨hbody.le_gen, Nat.le_of_succ_le hbody.le_lgen,
      by simpa only [List.append_assoc] using hbody.shape.snoc hbody.le_lgen⟩

theorem shape_cond {kw : Kw} {e : SExpr} {tgt : Goto}
    (h : lowerCondJ I db ab (fuel + 1) g lg t mask kw e tgt = .ok (code, g', lg')) : Emits t tgt g lg g' lg' code := by
  obtain ⟨_, _, _, _, _, h⟩ | ⟨_, _, _, _, _, h⟩ | ⟨_, _, h⟩ | ⟨_, h⟩ := lowerCondJ_ok h
  · exact ih.cmp h
  · exact ih.logic h
  · exact ih.cond h
  · exact ih.cmp h

end step

theorem shapeAt (I : JIntrinsics) (db ab : Nat) : ∀ fuel, ShapeAt I db ab fuel := by
  intro fuel
  induction fuel with
  | zero => exact shapeAt_zero I db ab
  | succ fuel ih =>
    exact ⟨fun _ _ _ _ _ _ _ _ _ h => shape_set ih h, fun _ _ _ _ _ _ _ _ _ h => shape_operand ih h,
      fun _ _ _ _ _ _ _ _ _ _ _ h => shape_binop ih h, fun _ _ _ _ _ _ _ _ _ _ h => shape_unop ih h,
      fun _ _ _ _ _ _ _ _ _ h => shape_switch ih h, fun _ _ _ _ _ _ _ _ _ _ _ h => shape_ternary ih h,
      fun _ _ _ _ _ _ _ _ _ _ h => shape_cond ih h, fun _ _ _ _ _ _ h => shape_temp ih h,
      fun _ _ _ _ _ _ _ _ _ _ _ _ h => shape_cmp ih h, fun _ _ _ _ _ _ _ _ _ _ _ _ h => shape_logic ih h⟩

def ownLabel : JSStmt → List Nat
  | .label l => [l]
  | _ => []

def stmtTarget : JSStmt → Goto
  | .goto g => g
  | .condGoto _ _ g => g
  | _ => noTgt

/-- the fragment of one source statement: `Shape`, except that a `label` statement defines its own label -/
structure StmtShape (t : Int) (st : JSStmt) (lg lg' : Nat) (code : List JStmt) : Prop where
  range : ∀ l ∈ labelsOf code, l ∈ ownLabel st ∨ (lg ≤ l ∧ l < lg')
  own : ∀ l ∈ ownLabel st, code = [.label t l]
  nodup : (labelsOf code).Nodup
  times : ∀ x ∈ labelTimes code, x = t
  jumps : ∀ p ∈ timedJumps code, p.1 = (stmtTarget st).l ∧ (stmtTarget st).time = some p.2

theorem StmtShape.ofShape {t : Int} {st : JSStmt} {lg lg' : Nat} {code : List JStmt} (hown : ownLabel st = [])
    (h : Shape t (stmtTarget st) lg lg' code) : StmtShape t st lg lg' code :=
  ⟨fun l hl => Or.inr (h.range l hl), fun _ hl => absurd (hown ▸ hl) List.not_mem_nil, h.nodup, h.times, h.jumps⟩

theorem shape_lowerAssignJ {I : JIntrinsics} {db ab g lg : Nat} {t : Int} {mask : Nat} {v : VarRef} {op : AssignOp} {e : SExpr}
    {code : List JStmt} {g' lg' : Nat} (h : lowerAssignJ I db ab g lg t mask v op e = .ok (code, g', lg')) :
    Emits t noTgt g lg g' lg' code := by
  unfold lowerAssignJ at h
  split at h
  · exact (shapeAt I db ab _).set h
  · cases hs : e.simple? with
    | some a => rw [hs] at h; exact emits_liftAtom t noTgt h
    | none =>
      rw [hs] at h
      obtain ⟨⟨c1, g1, lg1⟩, h1, h⟩ := bindCode.inv h
      obtain ⟨c2, _, h⟩ := bindL.inv h
      cases h; exact ((shapeAt I db ab _).set h1).temp _ _ _

theorem shape_lowerArgsJ {I : JIntrinsics} {db ab : Nat} {t : Int} {mask : Nat} {es : List SExpr} {g lg : Nat}
    {c : List JStmt} {as : List Arg} {ds : List Def} {g' lg' : Nat}
    (h : lowerArgsJ I db ab t mask g lg es = .ok (c, as, ds, g', lg')) : Emits t noTgt g lg g' lg' c := by
  revert h
  fun_induction lowerArgsJ I db ab t mask g lg es generalizing c as ds g' lg' with
  | case1 g lg => intro h; cases h; exact .pure _ (Shape.nil t noTgt lg)
  | case2 =>
    rename_i hr ih
    intro h; cases h; exact ih hr
  | case5 =>
    rename_i h1 _ _ _ _ _ hr ih
    intro h; cases h; exact (((shapeAt I db ab _).set h1).seq (ih hr)).alloc _
  | _ => nofun

theorem shape_lowerStmtJ {I : JIntrinsics} {db ab g lg : Nat} {t : Int} {mask : Nat} {st : JSStmt} {code : List JStmt}
    {g' lg' : Nat} (h : lowerStmtJ I db ab g lg t mask st = .ok (code, g', lg')) :
    g ≤ g' ∧ lg ≤ lg' ∧ StmtShape t st lg lg' code := by
  -- every statement but a label has the shape of its expressions
  have of : ownLabel st = [] → Emits t (stmtTarget st) g lg g' lg' code → g ≤ g' ∧ lg ≤ lg' ∧ StmtShape t st lg lg' code :=
    fun hown he => ⟨he.le_gen, he.le_lgen, .ofShape hown he.shape⟩
  cases st with
  | base s =>
    cases s with
    | decl d ty init =>
      cases init with
      | none => cases h; exact of rfl (.pure _ (Shape.lift t _ lg [.alloc d ty]))
      | some e =>
        obtain ⟨⟨c, g1, lg1⟩, h1, h⟩ := bindCode.inv h
        cases h; exact of rfl ((shape_lowerAssignJ h1).cons _)
    | assign op v e => exact of rfl (shape_lowerAssignJ h)
    | call opcode args =>
      simp only [lowerStmtJ, lowerCallJ] at h
      split at h
      · rename_i c as ds g1 lg1 h1
        cases h
        exact of rfl (((shape_lowerArgsJ h1).seq (.pure _ (Shape.lift t noTgt _ [.instr ⟨mask, .plain opcode, as⟩]))).seq
          (.pure _ (Shape.lift t noTgt _ (ds.reverse.map .free))))
      all_goals cases h
    | scopeEnd d => cases h; exact of rfl (.pure _ (Shape.lift t _ lg [.free d]))
    | other => cases h
  | label l =>
    cases h
    exact ⟨Nat.le_refl _, Nat.le_refl _, fun _ h => Or.inl h, fun l' h => by cases List.mem_singleton.mp h; rfl,
      List.pairwise_singleton _ _, fun x h => List.mem_singleton.mp h, fun _ h => nomatch h⟩
  | goto tgt =>
    obtain ⟨c, hj, h⟩ := bindJ.inv h
    cases h; exact of rfl (.pure _ (shape_lowerJmp t lg hj))
  | condGoto kw c tgt =>
    simp only [lowerStmtJ, lowerCondGoto] at h
    cases c with
    | predec v k =>
      simp only [] at h
      split at h
      · rename_i h1
        cases h
        exact of rfl ⟨Nat.le_refl _, shape_lowerCountJmp h1⟩
      all_goals cases h
    | expr e => exact of rfl ((shapeAt I db ab _).cond h)
  | wait n => cases h; exact of rfl (.pure _ (Shape.nil t _ lg))

end TruthModel.Lower
