import TruthModel.Model.Blocks
/-
C06: the flat machine with the remaining suffix of the program as program counter (`ExecS`; no
index arithmetic in the simulation, `ExecS.toExec` translates back), jumps in a program whose
labels are pairwise distinct (`jumpS_suffix`), and what each flat statement does (`eff_*`).
-/
namespace TruthModel.Blocks

theorem wait_some {t : Int} {st st0 : St} (h : wait t st = some st0) :
    (t ≤ st.time ∧ st0 = st) ∨
      (st.time < t ∧ st0 = { st with time := t, rtime := st.rtime + (t - st.time) }) := by
  unfold wait at h
  by_cases hlt : st.time < t
  · rw [if_pos hlt] at h
    by_cases h1 : t - st.time > i32max
    · rw [if_pos h1] at h; cases h
    rw [if_neg h1] at h
    by_cases h2 : st.rtime + (t - st.time) > i32max
    · rw [if_pos h2] at h; cases h
    rw [if_neg h2] at h
    cases h; exact Or.inr ⟨hlt, rfl⟩
  · rw [if_neg hlt] at h
    cases h; exact Or.inl ⟨Int.not_lt.1 hlt, rfl⟩

theorem wait_self {t : Int} {st : St} (h : st.time = t) : wait t st = some st := by
  unfold wait; simp [h]

theorem wait_time_of_le {t : Int} {st st0 : St} (h : wait t st = some st0) (hle : st.time ≤ t) :
    st0.time = t := by
  rcases wait_some h with ⟨hge, rfl⟩ | ⟨_, rfl⟩
  · exact Int.le_antisymm hle hge
  · rfl

theorem wait_idem {t : Int} {st st0 : St} (h : wait t st = some st0) : wait t st0 = some st0 := by
  rcases wait_some h with ⟨hge, rfl⟩ | ⟨_, rfl⟩
  · unfold wait; rw [if_neg (Int.not_lt.2 hge)]
  · exact wait_self rfl

theorem wait_regs {t : Int} {st st0 : St} (h : wait t st = some st0) : st0.regs = st.regs := by
  rcases wait_some h with ⟨_, rfl⟩ | ⟨_, rfl⟩ <;> rfl

theorem St.setTime_self {st : St} {t : Int} (h : st.time = t) : st.setTime t = st := by
  cases st; simp [St.setTime] at *; exact h.symm

@[simp] theorem St.setTime_time (st : St) (t : Int) : (st.setTime t).time = t := rfl
@[simp] theorem St.setTime_regs (st : St) (t : Int) : (st.setTime t).regs = st.regs := rfl
@[simp] theorem St.setTime_setTime (st : St) (t u : Int) : (st.setTime t).setTime u = st.setTime u := rfl
@[simp] theorem St.setReg_time (st : St) (r : Nat) (v : Int32) : (st.setReg r v).time = st.time := rfl
@[simp] theorem St.doCall_time (st : St) (op : Nat) (a : List Expr) : (st.doCall op a).time = st.time := rfl
@[simp] theorem FS.setTime_mk (st : St) (tm : Nat → Int32) (t : Int) :
    (FS.mk st tm).setTime t = FS.mk (st.setTime t) tm := rfl

theorem wait_setTime (st : St) (t : Int) : wait t (st.setTime t) = some (st.setTime t) := wait_self rfl

def labelsOf (p : List AF) : List Nat :=
  p.filterMap (fun a => match a.2 with | .label l => some l | _ => none)

@[simp] theorem labelsOf_nil : labelsOf [] = [] := rfl
@[simp] theorem labelsOf_append (a b : List AF) : labelsOf (a ++ b) = labelsOf a ++ labelsOf b := by
  simp [labelsOf, List.filterMap_append]
@[simp] theorem labelsOf_cons_label (t : Int) (l : Nat) (p : List AF) :
    labelsOf ((t, .label l) :: p) = l :: labelsOf p := rfl

theorem labelsOf_cons (t : Int) (f : FStmt) (p : List AF) :
    labelsOf ((t, f) :: p) = (match f with | .label l => [l] | _ => []) ++ labelsOf p := by
  cases f <;> rfl

theorem labelsOf_cons_other (t : Int) {f : FStmt} (p : List AF) (h : ∀ l, f ≠ .label l) :
    labelsOf ((t, f) :: p) = labelsOf p := by
  rw [labelsOf_cons]
  split
  · exact absurd rfl (h _)
  · rfl

theorem mem_labelsOf {p : List AF} {l : Nat} : l ∈ labelsOf p ↔ ∃ t, (t, FStmt.label l) ∈ p := by
  simp only [labelsOf, List.mem_filterMap]
  constructor
  · rintro ⟨⟨t, f⟩, hm, h⟩
    split at h
    · rename_i l' hf
      cases h
      exact ⟨t, hf ▸ hm⟩
    · cases h
  · rintro ⟨t, hm⟩
    exact ⟨(t, .label l), hm, rfl⟩

def dropTo : List AF → Nat → Option (List AF)
  | [], _ => none
  | a :: p, l => if a.2.isLabel l then some (a :: p) else dropTo p l

def jumpS (P : List AF) (l : Nat) (fs : FS) : Option (List AF × FS) :=
  match dropTo P l with
  | some (b :: c) => some (b :: c, fs.setTime b.1)
  | _ => none

def stepS (P : List AF) : List AF → FS → Option (List AF × FS)
  | [], _ => none
  | a :: c, fs =>
    match effect a fs with
    | none => none
    | some (fs1, none) => some (c, fs1)
    | some (fs1, some l) => jumpS P l fs1

inductive ExecS (P : List AF) : List AF → FS → List AF → FS → Prop
  | refl (c fs) : ExecS P c fs c fs
  | step (c fs c1 fs1 c2 fs2) : stepS P c fs = some (c1, fs1) → ExecS P c1 fs1 c2 fs2 → ExecS P c fs c2 fs2

theorem ExecS.trans {P : List AF} {a b c : List AF} {s1 s2 s3 : FS}
    (h1 : ExecS P a s1 b s2) (h2 : ExecS P b s2 c s3) : ExecS P a s1 c s3 := by
  induction h1 with
  | refl => exact h2
  | step c fs c1 fs1 c2 fs2 hs _ ih => exact .step _ _ _ _ _ _ hs (ih h2)

theorem ExecS.next {P : List AF} {a : AF} {c : List AF} {fs fs1 : FS}
    (h : effect a fs = some (fs1, none)) : ExecS P (a :: c) fs c fs1 :=
  .step _ _ _ _ _ _ (by simp [stepS, h]) (.refl _ _)

theorem ExecS.jump {P : List AF} {a : AF} {c J : List AF} {fs fs1 fsJ : FS} {l : Nat}
    (h : effect a fs = some (fs1, some l)) (hj : jumpS P l fs1 = some (J, fsJ)) : ExecS P (a :: c) fs J fsJ :=
  .step _ _ _ _ _ _ (by simp [stepS, h, hj]) (.refl _ _)

theorem FStmt.isLabel_eq_true {f : FStmt} {l : Nat} : f.isLabel l = true ↔ f = .label l := by
  cases f <;> simp [FStmt.isLabel]

theorem dropTo_split {X Y : List AF} {t : Int} {l : Nat} (h : l ∉ labelsOf X) :
    dropTo (X ++ (t, .label l) :: Y) l = some ((t, .label l) :: Y) := by
  induction X with
  | nil => simp [dropTo, FStmt.isLabel]
  | cons a X ih =>
    have h1 : a.2.isLabel l = false := by
      cases hb : a.2.isLabel l with
      | false => rfl
      | true =>
        refine absurd (mem_labelsOf.2 ⟨a.1, ?_⟩) h
        rw [← FStmt.isLabel_eq_true.1 hb]
        exact List.mem_cons_self
    have h2 : l ∉ labelsOf X := fun hm =>
      (mem_labelsOf.1 hm).elim fun u hu => h (mem_labelsOf.2 ⟨u, List.mem_cons_of_mem _ hu⟩)
    simp [dropTo, h1, ih h2]

theorem _root_.List.IsSuffix.drop {α : Type} {P A c : List α} (h : A ++ c <:+ P) : c <:+ P :=
  (List.suffix_append A c).trans h

theorem _root_.List.IsSuffix.next {α : Type} {P c : List α} {a : α} (h : a :: c <:+ P) : c <:+ P :=
  (List.suffix_cons a c).trans h

theorem jumpS_suffix {P A Y : List AF} {t : Int} {l : Nat} (hnd : (labelsOf P).Nodup)
    (h : A ++ (t, .label l) :: Y <:+ P) (fs : FS) :
    jumpS P l fs = some ((t, .label l) :: Y, fs.setTime t) := by
  obtain ⟨pre, rfl⟩ := h
  rw [← List.append_assoc, labelsOf_append, labelsOf_cons_label] at hnd
  have hX : l ∉ labelsOf (pre ++ A) := fun hm => (List.nodup_append.1 hnd).2.2 l hm l List.mem_cons_self rfl
  rw [jumpS, ← List.append_assoc, dropTo_split hX]

theorem dropTo_spec {P c : List AF} {l : Nat} (h : dropTo P l = some c) :
    ∃ X, P = X ++ c ∧ findLabel P l = some X.length := by
  induction P with
  | nil => simp [dropTo] at h
  | cons a P ih =>
    unfold dropTo at h
    split at h
    · rename_i hl
      simp at h; subst h
      exact ⟨[], rfl, by simp [findLabel, List.findIdx?_cons, hl]⟩
    · rename_i hl
      obtain ⟨X, hX, hf⟩ := ih h
      refine ⟨a :: X, by simp [hX], ?_⟩
      simp only [findLabel] at hf ⊢
      simp [List.findIdx?_cons, hl, hf]

theorem stepS_stepF {P X c c1 : List AF} {fs fs1 : FS} (h : stepS P c fs = some (c1, fs1)) (hP : P = X ++ c) :
    ∃ X1, P = X1 ++ c1 ∧ stepF P X.length fs = some (X1.length, fs1) := by
  cases c with
  | nil => simp [stepS] at h
  | cons a c =>
    have hget : P[X.length]? = some a := by subst hP; simp
    unfold stepS at h
    unfold stepF
    rw [hget]
    cases he : effect a fs with
    | none => simp [he] at h
    | some r =>
      obtain ⟨fs', tgt⟩ := r
      cases tgt with
      | none =>
        simp [he] at h
        obtain ⟨rfl, rfl⟩ := h
        exact ⟨X ++ [a], by simp [hP], by simp [he]⟩
      | some l =>
        simp only [he] at h ⊢
        unfold jumpS at h
        cases hd : dropTo P l with
        | none => simp [hd] at h
        | some J =>
          cases J with
          | nil => simp [hd] at h
          | cons b J =>
            simp [hd] at h
            obtain ⟨rfl, rfl⟩ := h
            obtain ⟨X1, hX1, hf⟩ := dropTo_spec hd
            refine ⟨X1, hX1, ?_⟩
            have hb : P[X1.length]? = some b := by rw [hX1]; simp
            simp [hf, hb]

theorem ExecS.toExec {P c c' : List AF} {fs fs' : FS} (h : ExecS P c fs c' fs') :
    ∀ X, P = X ++ c → ∃ X', P = X' ++ c' ∧ Exec P X.length fs X'.length fs' := by
  induction h with
  | refl c fs => intro X hX; exact ⟨X, hX, .refl _ _⟩
  | step c fs c1 fs1 c2 fs2 hs _ ih =>
    intro X hX
    obtain ⟨X1, hX1, hstep⟩ := stepS_stepF hs hX
    obtain ⟨X', hX', hex⟩ := ih X1 hX1
    exact ⟨X', hX', .step _ _ _ _ _ _ hstep hex⟩

theorem ExecS.toExec_whole {P : List AF} {fs fs' : FS} (h : ExecS P P fs [] fs') :
    Exec P 0 fs P.length fs' := by
  obtain ⟨X', hX', hex⟩ := h.toExec [] rfl
  simp at hX'
  subst hX'
  simpa using hex

theorem stepF_terminal {P : List AF} {pc : Nat} {fs : FS} (h : P[pc]? = none) : stepF P pc fs = none := by
  simp [stepF, h]

theorem Exec.det_terminal {P : List AF} {a b b' : Nat} {s t t' : FS}
    (h1 : Exec P a s b t) (h2 : Exec P a s b' t') (hb : P[b]? = none) (hb' : P[b']? = none) :
    b = b' ∧ t = t' := by
  induction h1 generalizing b' t' with
  | refl pc fs =>
    cases h2 with
    | refl => exact ⟨rfl, rfl⟩
    | step _ _ pc1 fs1 _ _ hs _ => rw [stepF_terminal hb] at hs; cases hs
  | step pc fs pc1 fs1 pc2 fs2 hs _ ih =>
    cases h2 with
    | refl => rw [stepF_terminal hb'] at hs; cases hs
    | step _ _ pc1' fs1' _ _ hs' h2' =>
      rw [hs] at hs'
      cases hs'
      exact ih h2' hb hb'

section effects
variable {t : Int} {st st0 : St} {tm : Nat → Int32}

theorem eff_nop (h : wait t st = some st0) : effect (t, .nop) ⟨st, tm⟩ = some (⟨st0, tm⟩, none) := by
  simp only [effect, h]
theorem eff_decl {k} (h : wait t st = some st0) : effect (t, .decl k) ⟨st, tm⟩ = some (⟨st0, tm⟩, none) := by
  simp only [effect, h]
theorem eff_scopeEnd {k} (h : wait t st = some st0) : effect (t, .scopeEnd k) ⟨st, tm⟩ = some (⟨st0, tm⟩, none) := by
  simp only [effect, h]
theorem eff_label {l} (h : wait t st = some st0) : effect (t, .label l) ⟨st, tm⟩ = some (⟨st0, tm⟩, none) := by
  simp only [effect, h]
theorem eff_tabs {x} (h : wait t st = some st0) : effect (t, .tabs x) ⟨st, tm⟩ = some (⟨st0, tm⟩, none) := by
  simp only [effect, h]
theorem eff_trel {x} (h : wait t st = some st0) : effect (t, .trel x) ⟨st, tm⟩ = some (⟨st0, tm⟩, none) := by
  simp only [effect, h]
theorem eff_call {op args} (h : wait t st = some st0) :
    effect (t, .call op args) ⟨st, tm⟩ = some (⟨st0.doCall op args, tm⟩, none) := by
  simp only [effect, h]
theorem eff_assign_reg {r e} (h : wait t st = some st0) :
    effect (t, .assign (.reg r) e) ⟨st, tm⟩ = some (⟨st0.setReg r (e.eval st0.regs), tm⟩, none) := by
  simp [effect, h, FS.set]
theorem eff_assign_tmp {k e} (h : wait t st = some st0) :
    effect (t, .assign (.tmp k) e) ⟨st, tm⟩
      = some (⟨st0, fun j => if j = k then e.eval st0.regs else tm j⟩, none) := by
  simp [effect, h, FS.set]
theorem eff_goto {l} (h : wait t st = some st0) : effect (t, .goto l) ⟨st, tm⟩ = some (⟨st0, tm⟩, some l) := by
  simp only [effect, h]
theorem eff_cjmp_yes {isIf c l} (h : wait t st = some st0) (hc : c.evalB st0.regs = isIf) :
    effect (t, .cjmp isIf c l) ⟨st, tm⟩ = some (⟨st0, tm⟩, some l) := by
  simp [effect, h, hc]
theorem eff_cjmp_no {isIf c l} (h : wait t st = some st0) (hc : c.evalB st0.regs ≠ isIf) :
    effect (t, .cjmp isIf c l) ⟨st, tm⟩ = some (⟨st0, tm⟩, none) := by
  simp [effect, h, hc]
theorem eff_jz_yes {v l} (h : wait t st = some st0) (hv : (FS.mk st0 tm).get v = 0) :
    effect (t, .jz v l) ⟨st, tm⟩ = some (⟨st0, tm⟩, some l) := by
  simp [effect, h, hv]
theorem eff_jz_no {v l} (h : wait t st = some st0) (hv : (FS.mk st0 tm).get v ≠ 0) :
    effect (t, .jz v l) ⟨st, tm⟩ = some (⟨st0, tm⟩, none) := by
  simp [effect, h, hv]
theorem eff_cntjmp_tmp {k i l} (h : wait t st = some st0) :
    effect (t, .cntjmp k (.tmp i) l) ⟨st, tm⟩ =
      some (⟨st0, fun j => if j = i then tm i - 1 else tm j⟩, if k.test (tm i - 1) then some l else none) := by
  simp only [effect, h, FS.get, FS.set]; rfl
theorem eff_cntjmp_reg {k x l} (h : wait t st = some st0) :
    effect (t, .cntjmp k (.reg x) l) ⟨st, tm⟩ =
      some (⟨st0.setReg x (st0.regs x - 1), tm⟩, if k.test (st0.regs x - 1) then some l else none) := by
  simp only [effect, h, FS.get, FS.set]; rfl

end effects

theorem test_true_of_ne (k : CJ) (x : Int32) (hne : x ≠ 0) (hgt : k = .gt → 0 < x) : k.test x = true := by
  cases k <;> simp_all [CJ.test]

theorem test_zero (k : CJ) : k.test 0 = false := by
  cases k <;> simp [CJ.test]

theorem ExecS.label_here {P c : List AF} {t : Int} {l : Nat} {st : St} {tm : Nat → Int32} (h : st.time = t) :
    ExecS P ((t, .label l) :: c) ⟨st, tm⟩ c ⟨st, tm⟩ :=
  ExecS.next (eff_label (wait_self h))

end TruthModel.Blocks
