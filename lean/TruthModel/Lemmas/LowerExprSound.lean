import TruthModel.Lemmas.LowerShape
/-
C02, expressions and conditions.  The model has two expression compilers, `Model/LowerJumps.lean` (labels, jumps, ternaries) and
its straight-line restriction `Model/Lower.lean`.  This file holds the one induction about evaluation, `soundT`: over the
fuel, for nine of the ten mutually recursive functions of `Model/LowerJumps.lean` (all but `lowerSwitchJ`), on the fragment
`IntT` (integer expressions with `c ? l : r` anywhere), stated with the structural execution `execFrag`.  What involves no evaluation - counters never decrease, labels are fresh and pairwise different - is
`Lower.shapeAt`.
-/
namespace TruthModel.C02
open TruthModel TruthModel.Regs TruthModel.Lower

theorem neg_one_mul (x : Int32) : (-1 : Int32) * x = -x := by
  apply Int32.toInt_inj.mp
  simp [Int32.toInt_mul, Int32.toInt_neg]

theorem neg_one_sub (x : Int32) : (-1 : Int32) - x = ~~~x := by
  rw [Int32.not_eq_neg_sub, Int32.sub_eq_add_neg, Int32.sub_eq_add_neg, Int32.add_comm]

def unAltValue (F : FloatOps) (alt : UnAlt) (op : UnOp) (x : Value) : Outcome (Option Value) :=
  match alt with
  | .intrinsic => unop F op x
  | .viaConstBinOp c bop => match binop F bop c x with
    | .ok v => .ok (some v)
    | .err e => .err e
    | .panic p => .panic p

/-- **alternatives_sound** (unary, integers): whichever alternative `discover_alternatives` selects for
`(op, int)`, it computes `op x` for every `x : Int32`. -/
theorem alternatives_sound (F : FloatOps) (I : Intrinsics) (op : UnOp) (alt : UnAlt) (x : Int32)
    (h : I.unAlt op .int = some alt) : unAltValue F alt op (.int x) = unop F op (.int x) := by
  unfold Intrinsics.unAlt at h
  rcases hu : I.unOp op .int with _ | _ <;> simp only [hu] at h
  · cases op with
    | neg =>
      rcases hb : I.binOp .mul .int with _ | _ <;> simp only [hb, reduceCtorEq] at h
      cases h
      exact congrArg (fun y => Outcome.ok (some (Value.int y))) (neg_one_mul x)
    | bnot =>
      rcases hb : I.binOp .sub .int with _ | _ <;> simp only [hb, reduceCtorEq] at h
      cases h
      exact congrArg (fun y => Outcome.ok (some (Value.int y))) (neg_one_sub x)
    | _ => cases h
  · cases h; rfl

/-- `a op= b` through the binop (`AssignOp::ViaBinOp`) is literally `a = a op b` -/
theorem assignAlt_viaBinOp (I : Intrinsics) (op : AssignOp) (ty : RTy) (b : BinOp)
    (h : I.assignAlt op ty = some (.viaBinOp b)) : op.binop = some b := by
  revert h
  fun_cases Intrinsics.assignAlt I op ty <;> intro h <;> cases h
  assumption

theorem assignAlt_set (I : Intrinsics) (ty : RTy) (alt : AssignAlt) (h : I.assignAlt .set ty = some alt) :
    alt = .intrinsic := by
  revert h
  fun_cases Intrinsics.assignAlt I .set ty <;> intro h <;> cases h
  · rfl
  · rename_i hb _ _; cases hb  -- `=` has no binop

/-- `IntT` without ternaries: the fragment on which the straight-line `Model/Lower.lean` applies and agrees with
`Model/LowerJumps.lean` (`lowerSetJ_eq`); on it `exprBelow` is `belowT`.  The suffix `T` of `IntT`, `belowT`, `CtxT`, `soundT`,
`StmtOKT` .. says "with ternaries" (in namespace `Lower` the same suffix says "timed machine"). -/
def IntOnly : SExpr → Prop
  | .litI _ => True
  | .var v => v.readTy = .int
  | .unop op e => (op = .neg ∨ op = .not ∨ op = .bnot) ∧ IntOnly e
  | .binop _ a b => IntOnly a ∧ IntOnly b
  | _ => False

def IntStore (σ : Store) : Prop := ∀ x, ∃ n, σ x = .int n

/-- registers, user locals and the temporaries allocated so far: everything below the temp counter -/
def below (g : Nat) : VarName → Prop
  | .reg _ => True
  | .loc d => d < g

def exprBelow (g : Nat) : SExpr → Prop
  | .var v => below g v.name
  | .unop _ e => exprBelow g e
  | .binop _ a b => exprBelow g a ∧ exprBelow g b
  | .litI _ => True
  | .litF _ => True
  | _ => False

def IntT : SExpr → Prop
  | .litI _ => True
  | .var v => v.readTy = .int
  | .unop op e => (op = .neg ∨ op = .not ∨ op = .bnot) ∧ IntT e
  | .binop _ a b => IntT a ∧ IntT b
  | .ternary c l r => IntT c ∧ IntT l ∧ IntT r
  | _ => False

def belowT (g : Nat) : SExpr → Prop
  | .var v => below g v.name
  | .unop _ e => belowT g e
  | .binop _ a b => belowT g a ∧ belowT g b
  | .ternary c l r => belowT g c ∧ belowT g l ∧ belowT g r
  | .litI _ => True
  | .litF _ => True
  | _ => False

theorem intT_of_intOnly : ∀ {e : SExpr}, IntOnly e → IntT e
  | .litI _, _ => trivial
  | .var _, h => h
  | .unop _ _, h => ⟨h.1, intT_of_intOnly h.2⟩
  | .binop _ _ _, h => ⟨intT_of_intOnly h.1, intT_of_intOnly h.2⟩
  | .litF _, h => h.elim
  | .ternary _ _ _, h => h.elim
  | .switch _, h | .omitted, h => h.elim

theorem belowT_of_exprBelow {g : Nat} : ∀ {e : SExpr}, exprBelow g e → belowT g e
  | .litI _, _ => trivial
  | .litF _, _ => trivial
  | .var _, h => h
  | .unop _ e, h => belowT_of_exprBelow (e := e) h
  | .binop _ _ _, h => ⟨belowT_of_exprBelow h.1, belowT_of_exprBelow h.2⟩
  | .ternary _ _ _, h => h.elim
  | .switch _, h | .omitted, h => h.elim

theorem exprBelow_of_simple {g : Nat} {e : SExpr} {a : Arg} (hb : belowT g e) (h : e.simple? = some a) : exprBelow g e := by
  cases e with
  | litI _ => trivial
  | litF _ => trivial
  | var v => exact hb
  | _ => simp [SExpr.simple?] at h <;> exact hb.elim

theorem below_mono {g g' : Nat} {x : VarName} (h : g ≤ g') : below g x → below g' x := by
  cases x with
  | reg r => simp [below]
  | loc d =>
    intro hd
    exact Nat.lt_of_lt_of_le hd h

theorem binopTy_int (op : BinOp) : binopTy op .int = .int := by cases op <;> rfl

theorem IntT.induction {motive : SExpr → Prop} (litI : ∀ n, motive (.litI n)) (var : ∀ v : VarRef, v.readTy = .int → motive (.var v))
    (unop : ∀ op e, (op = .neg ∨ op = .not ∨ op = .bnot) → IntT e → motive e → motive (.unop op e))
    (binop : ∀ op a b, IntT a → IntT b → motive a → motive b → motive (.binop op a b))
    (ternary : ∀ c l r, IntT c → IntT l → IntT r → motive c → motive l → motive r → motive (.ternary c l r)) :
    ∀ {e : SExpr}, IntT e → motive e
  | .litI n, _ => litI n
  | .var v, h => var v h
  | .unop op e, h => unop op e h.1 h.2 (IntT.induction litI var unop binop ternary h.2)
  | .binop op a b, h => binop op a b h.1 h.2 (IntT.induction litI var unop binop ternary h.1)
      (IntT.induction litI var unop binop ternary h.2)
  | .ternary c l r, h => ternary c l r h.1 h.2.1 h.2.2 (IntT.induction litI var unop binop ternary h.1)
      (IntT.induction litI var unop binop ternary h.2.1) (IntT.induction litI var unop binop ternary h.2.2)

theorem belowT_mono {g g' : Nat} {e : SExpr} (hi : IntT e) (h : g ≤ g') : belowT g e → belowT g' e := by
  refine IntT.induction (motive := fun e => belowT g e → belowT g' e) ?_ ?_ ?_ ?_ ?_ hi
  · exact fun _ _ => trivial
  · exact fun _ _ hb => below_mono h hb
  · exact fun _ _ _ _ ih hb => ih hb
  · exact fun _ _ _ _ _ iha ihb hb => ⟨iha hb.1, ihb hb.2⟩
  · exact fun _ _ _ _ _ _ ihc ihl ihr hb => ⟨ihc hb.1, ihl hb.2.1, ihr hb.2.2⟩

theorem intT_ty {e : SExpr} (hi : IntT e) : e.ty = .int := by
  refine IntT.induction (motive := fun e => e.ty = .int) ?_ ?_ ?_ ?_ ?_ hi
  · intro _; rfl
  · intro v h; exact h
  · intro op e hop _ ih
    rcases hop with rfl | rfl | rfl
    · exact ih
    · rfl
    · rfl
  · intro op a b _ _ iha _
    show binopTy op a.ty = .int
    rw [iha]; exact binopTy_int op
  · intro c l r _ _ _ _ ihl _; exact ihl

theorem intT_simpleTy {e : SExpr} (h : IntT e) : e.simpleTy = .int := by
  cases e with
  | litF _ | switch _ | omitted => exact h.elim
  | _ => exact intT_ty h

/-- a non-simple expression of the fragment is stored whole into an `int` temporary and read back as `int` -/
theorem intT_temp {e : SExpr} (h : IntT e) : e.temp.tmpExpr = e ∧ e.temp.tmpTy = .int ∧ e.temp.readTy = .int := by
  cases e with
  | unop op b => rcases h.1 with rfl | rfl | rfl <;> exact ⟨rfl, intT_ty h, intT_ty h⟩
  | litF _ | switch _ | omitted => exact h.elim
  | _ => exact ⟨rfl, intT_ty h, intT_ty h⟩

theorem readAs_int (F : FloatOps) (n : Int32) : readAs F (.int n) .int = .ok (.int n) := rfl

theorem evalS_var (F : FloatOps) (diff : Nat) {σ : Store} (hs : IntStore σ) {v : VarRef} (hv : v.readTy = .int) :
    evalS F diff σ (.var v) = .ok (σ v.name) := by
  obtain ⟨n, hn⟩ := hs v.name
  simp only [evalS]
  cases hsig : v.sigil with
  | none => rfl
  | some s =>
    have : s = .int := by rwa [VarRef.readTy, hsig] at hv
    subst this
    rw [hn]; rfl

theorem binopInt_int (op : BinOp) (a b : Int32) (v : Value) (h : binopInt op a b = .ok v) : ∃ n, v = .int n := by
  revert h
  fun_cases binopInt op a b <;> intro h <;> cases h <;> exact ⟨_, rfl⟩

theorem evalS_binop_inv {F : FloatOps} {diff : Nat} {σ : Store} {op : BinOp} {a b : SExpr} {val : Value}
    (h : evalS F diff σ (.binop op a b) = .ok val) :
    ∃ va vb, evalS F diff σ a = .ok va ∧ evalS F diff σ b = .ok vb ∧ binop F op va vb = .ok val := by
  rw [evalS] at h
  rcases ha : evalS F diff σ a with va | x | x <;> simp only [ha, reduceCtorEq] at h
  rcases hb : evalS F diff σ b with vb | x | x <;> simp only [hb, reduceCtorEq] at h
  exact ⟨va, vb, rfl, rfl, h⟩

theorem evalS_unop_inv {F : FloatOps} {diff : Nat} {σ : Store} {op : UnOp} {b : SExpr} {val : Value}
    (hop : op = .neg ∨ op = .not ∨ op = .bnot) (h : evalS F diff σ (.unop op b) = .ok val) :
    ∃ x, evalS F diff σ b = .ok x ∧ unop F op x = .ok (some val) := by
  have hc : castSigil op = none := by rcases hop with rfl | rfl | rfl <;> rfl
  rw [evalS] at h
  rcases hb : evalS F diff σ b with x | c | c <;> simp only [hb, hc, reduceCtorEq] at h
  rcases hu : unop F op x with (_ | w) | c | c <;> simp only [hu, Outcome.ok.injEq, reduceCtorEq] at h
  exact ⟨x, rfl, by rw [hu, h]⟩

theorem evalS_ternary_inv {F : FloatOps} {diff : Nat} {σ : Store} {c l r : SExpr} {val : Value}
    (h : evalS F diff σ (.ternary c l r) = .ok val) :
    ∃ vc, evalS F diff σ c = .ok (.int vc) ∧ evalS F diff σ (if vc = 0 then r else l) = .ok val := by
  rw [evalS] at h
  rcases hc : evalS F diff σ c with (vc | _ | _) | x | x <;> simp only [hc, reduceCtorEq] at h
  refine ⟨vc, rfl, ?_⟩
  by_cases hz : vc = 0
  · rw [if_pos hz] at h ⊢; exact h
  · rw [if_neg hz] at h ⊢; exact h

theorem evalS_intT {F : FloatOps} {diff : Nat} {σ : Store} (hs : IntStore σ) {e : SExpr} (hi : IntT e) :
    ∀ {v : Value}, evalS F diff σ e = .ok v → ∃ n, v = .int n := by
  refine IntT.induction (motive := fun e => ∀ {v : Value}, evalS F diff σ e = .ok v → ∃ n, v = .int n) ?_ ?_ ?_ ?_ ?_ hi
  · intro n v h; exact ⟨n, (Outcome.ok.inj h).symm⟩
  · intro x hx v h
    obtain ⟨n, hn⟩ := hs x.name
    rw [evalS_var F diff hs hx, hn] at h
    exact ⟨n, (Outcome.ok.inj h).symm⟩
  · intro op e hop _ ih v h
    obtain ⟨x, hx, hu⟩ := evalS_unop_inv hop h
    obtain ⟨n, rfl⟩ := ih hx
    rcases hop with rfl | rfl | rfl <;> exact ⟨_, (Option.some.inj (Outcome.ok.inj hu)).symm⟩
  · intro op a b _ _ iha ihb v h
    obtain ⟨va, vb, ha, hb, hop⟩ := evalS_binop_inv h
    obtain ⟨na, rfl⟩ := iha ha
    obtain ⟨nb, rfl⟩ := ihb hb
    exact binopInt_int op na nb v hop
  · intro c l r _ _ _ _ ihl ihr v h
    obtain ⟨vc, _, hb⟩ := evalS_ternary_inv h
    by_cases hz : vc = 0
    · simp only [hz, if_true] at hb; exact ihr hb
    · simp only [hz, if_false] at hb; exact ihl hb

theorem or_true_left {a b : Bool} (h : a = true) : (a || b) = true := by rw [h]; rfl
theorem or_true_right {a b : Bool} (h : b = true) : (a || b) = true := by rw [h]; exact Bool.or_true a

theorem evalS_congrT (F : FloatOps) (diff : Nat) (σ τ : Store) {e : SExpr} (hi : IntT e) :
    (∀ x, e.uses x = true → σ x = τ x) → evalS F diff σ e = evalS F diff τ e := by
  refine IntT.induction (motive := fun e => (∀ x, e.uses x = true → σ x = τ x) → evalS F diff σ e = evalS F diff τ e)
    ?_ ?_ ?_ ?_ ?_ hi
  · intro _ _; rfl
  · intro v _ h
    have : σ v.name = τ v.name := h v.name (beq_self_eq_true _)
    simp only [evalS, this]
  · intro op e _ _ ih h
    simp only [evalS, ih h]
  · intro op a b _ _ iha ihb h
    simp only [evalS, iha fun x hx => h x (or_true_left hx), ihb fun x hx => h x (or_true_right hx)]
  · intro c l r _ _ _ ihc ihl ihr h
    simp only [evalS, ihc fun x hx => h x (or_true_left (or_true_left hx)), ihl fun x hx => h x (or_true_left (or_true_right hx)),
      ihr fun x hx => h x (or_true_right hx)]

theorem uses_belowT {g : Nat} {e : SExpr} {x : VarName} (hi : IntT e) : belowT g e → e.uses x = true → below g x := by
  refine IntT.induction (motive := fun e => belowT g e → e.uses x = true → below g x) ?_ ?_ ?_ ?_ ?_ hi
  · exact fun _ _ hu => nomatch hu
  · intro v _ hb hu
    cases beq_iff_eq.mp hu
    exact hb
  · exact fun _ _ _ _ ih hb hu => ih hb hu
  · intro _ a b _ _ iha ihb hb hu
    exact (Bool.or_eq_true_iff.mp hu).elim (iha hb.1) (ihb hb.2)
  · intro c l r _ _ _ ihc ihl ihr hb hu
    exact (Bool.or_eq_true_iff.mp hu).elim (fun hu => (Bool.or_eq_true_iff.mp hu).elim (ihc hb.1) (ihl hb.2.1)) (ihr hb.2.2)

theorem evalS_frameT {F : FloatOps} {diff g : Nat} {σ τ : Store} {e : SExpr} (hi : IntT e) (hb : belowT g e)
    (h : ∀ x, below g x → τ x = σ x) : evalS F diff τ e = evalS F diff σ e :=
  evalS_congrT F diff τ σ hi (fun x hx => h x (uses_belowT hi hb hx))

inductive IntAtom : Arg → Prop
  | imm (n : Int32) : IntAtom (.imm (.int n))
  | raw (r : Reg) : IntAtom (.raw r .int)
  | loc (d : Def) : IntAtom (.loc d .int)

def atomValue (σ : Store) : Arg → Value
  | .imm v => v
  | .raw r _ => σ (.reg r)
  | .loc d _ => σ (.loc d)
  | _ => .int 0

theorem readArg_intAtom {F : FloatOps} {diff : Nat} {σ : Store} (hs : IntStore σ) {a : Arg} (ha : IntAtom a) :
    readArg F diff σ a = .ok (atomValue σ a) := by
  cases ha with
  | imm n => rfl
  | raw r =>
    obtain ⟨n, hn⟩ := hs (.reg r)
    show readAs F (σ (.reg r)) .int = .ok (σ (.reg r))
    rw [hn]; rfl
  | loc d =>
    obtain ⟨n, hn⟩ := hs (.loc d)
    show readAs F (σ (.loc d)) .int = .ok (σ (.loc d))
    rw [hn]; rfl

theorem atomValue_congr {σ τ : Store} {a : Arg} (h : ∀ y, argVar a = some y → σ y = τ y) :
    atomValue σ a = atomValue τ a := by
  cases a with
  | raw r ty => exact h _ rfl
  | loc d ty => exact h _ rfl
  | _ => rfl

theorem toArg_intAtom (v : VarRef) : IntAtom (v.toArg .int) := by
  obtain ⟨name, _, _⟩ := v
  cases name <;> constructor

theorem argVar_toArg (v : VarRef) (ty : RTy) : argVar (v.toArg ty) = some v.name := by
  obtain ⟨name, _, _⟩ := v
  cases name <;> rfl

theorem atomValue_toArg (σ : Store) (v : VarRef) (ty : RTy) : atomValue σ (v.toArg ty) = σ v.name := by
  obtain ⟨name, _, _⟩ := v
  cases name <;> rfl

theorem argVar_lowered (v : VarRef) : argVar v.lowered = some v.name := argVar_toArg v _

theorem intAtom_lowered {v : VarRef} (hv : v.readTy = .int) : IntAtom v.lowered := by
  rw [VarRef.lowered, hv]; exact toArg_intAtom v

theorem readArg_lowered (F : FloatOps) (diff : Nat) {σ : Store} (hs : IntStore σ) {v : VarRef} (hv : v.readTy = .int) :
    readArg F diff σ v.lowered = .ok (σ v.name) := by
  rw [readArg_intAtom hs (intAtom_lowered hv), VarRef.lowered, atomValue_toArg]

theorem simple_spec (F : FloatOps) (diff : Nat) {e : SExpr} {a : Arg} (hi : IntT e) (h : e.simple? = some a) :
    IntAtom a ∧ (∀ σ, IntStore σ → evalS F diff σ e = .ok (atomValue σ a)) ∧
      (∀ y, argVar a = some y → e.uses y = true) := by
  cases e with
  | litI n =>
    cases h
    exact ⟨.imm n, fun _ _ => rfl, fun _ hy => by cases hy⟩
  | var v =>
    cases h
    have hr : v.readTy = .int := hi
    refine ⟨intAtom_lowered hr, ?_, ?_⟩
    · intro σ hs
      rw [evalS_var F diff hs hr, VarRef.lowered, atomValue_toArg]
    · intro y hy
      rw [argVar_lowered] at hy
      simp only [Option.some.injEq] at hy; subst hy
      exact beq_self_eq_true _
  | unop _ _ | binop _ _ _ | ternary _ _ _ => cases h
  | litF _ | switch _ | omitted => exact hi.elim

theorem intStore_upd {σ : Store} (hs : IntStore σ) (x : VarName) (n : Int32) : IntStore (upd σ x (.int n)) := by
  intro y
  by_cases h : y = x
  · subst h; exact ⟨n, upd_same σ y _⟩
  · rw [upd_of_ne σ _ h]; exact hs y

theorem agree_upd_of_frame {g0 g : Nat} {σ τ τ' : Store} {n : VarName} {val : Value} (hval : τ' n = val)
    (hframe : ∀ x, x ≠ n → below g x → τ' x = τ x) (hg : g0 ≤ g) (h : ∀ x, below g0 x → τ x = σ x) :
    ∀ x, below g0 x → τ' x = upd σ n val x := by
  intro x hx
  by_cases hxn : x = n
  · subst hxn; rw [upd_same, hval]
  · rw [upd_of_ne _ _ hxn, hframe x hxn (below_mono hg hx), h x hx]

theorem upd_agree {g0 : Nat} {σ τ : Store} (h : ∀ x, below g0 x → σ x = τ x) (n : VarName) (val : Value) :
    ∀ x, below g0 x → upd σ n val x = upd τ n val x :=
  agree_upd_of_frame (upd_same σ n val) (fun _ hx _ => upd_of_ne σ val hx) (Nat.le_refl g0) h

theorem exec_instr {F : FloatOps} {diff : Nat} {m m' : Machine} {i : LInstr} (h : InstrStep F diff m i m') :
    exec F diff m [.instr i] = .ok m' := by
  simp only [exec, execStmt, h.exec]

theorem exec_setAtom (F : FloatOps) {I : Intrinsics} {diff mask : Nat} {v : VarRef} {a : Arg} {c : List LStmt}
    {m : Machine} (hm : maskOn mask diff = true) (hs : IntStore m.store) (ha : IntAtom a)
    (h : lowerAssignAtom I mask v .set a = .ok c) :
    exec F diff m c = .ok { m with store := upd m.store v.name (atomValue m.store a) } := by
  unfold lowerAssignAtom at h
  rcases halt : I.assignAlt .set v.readTy with _ | alt <;> simp only [halt, reduceCtorEq] at h
  cases assignAlt_set I _ alt halt
  cases h
  exact exec_instr (.set hm (argVar_lowered v) (readArg_intAtom hs ha))

theorem exec_binopAtom {F : FloatOps} {I : Intrinsics} {diff mask : Nat} {v : VarRef} {op : BinOp} {ty : RTy}
    {a b : Arg} {c : List LStmt} {m : Machine} {r : Value}
    (hm : maskOn mask diff = true) (hs : IntStore m.store) (ha : IntAtom a) (hb : IntAtom b)
    (hr : binop F op (atomValue m.store a) (atomValue m.store b) = .ok r)
    (h : lowerBinopAtom I mask v op ty a b = .ok c) :
    exec F diff m c = .ok { m with store := upd m.store v.name r } := by
  unfold lowerBinopAtom at h
  rcases hop : I.binOp op ty with _ | _ <;> simp only [hop, Outcome.ok.injEq, reduceCtorEq] at h
  subst h
  exact exec_instr (.binOp hm (argVar_lowered v) (readArg_intAtom hs ha) (readArg_intAtom hs hb) hr)

/-- `v = op <atom>`, natively or through the fallback -/
theorem exec_unopAtom {F : FloatOps} {I : Intrinsics} {diff mask : Nat} {v : VarRef} {op : UnOp}
    {a : Arg} {c : List LStmt} {m : Machine} {x : Int32} {w : Value}
    (hm : maskOn mask diff = true) (hs : IntStore m.store) (ha : IntAtom a)
    (hx : atomValue m.store a = .int x) (hw : unop F op (.int x) = .ok (some w))
    (h : lowerUnopAtom I mask v op .int a = .ok c) :
    exec F diff m c = .ok { m with store := upd m.store v.name w } := by
  have hra := readArg_intAtom (F := F) (diff := diff) hs ha
  rw [hx] at hra
  unfold lowerUnopAtom at h
  rcases halt : I.unAlt op .int with _ | alt <;> simp only [halt, reduceCtorEq] at h
  have hsound := alternatives_sound F I op alt x halt
  cases alt with
  | intrinsic =>
    cases h
    exact exec_instr (.unOp hm (argVar_lowered v) hra hw)
  | viaConstBinOp k bop =>
    cases h
    simp only [unAltValue, hw] at hsound
    rcases hb : binop F bop k (.int x) with r | e | e <;> simp only [hb, Outcome.ok.injEq, Option.some.injEq, reduceCtorEq] at hsound
    subst hsound
    exact exec_instr (.binOp hm (argVar_lowered v) rfl hra hb)

theorem loc_not_below (g : Nat) : ¬ below g (.loc g) := by
  intro h; exact Nat.lt_irrefl g h

theorem ne_of_below {g : Nat} {x : VarName} (h : below g x) : x ≠ .loc g := by
  intro e; subst e; exact loc_not_below g h

theorem tmpVar_readTy (d : Def) (ty : RTy) : (tmpVar d ty).readTy = ty := rfl
theorem tmpVar_name (d : Def) (ty : RTy) : (tmpVar d ty).name = .loc d := rfl

theorem b2i_ne_zero (b : Bool) : (b2i b != 0) = b := by cases b <;> rfl

theorem dec_le_lt (x y : Int32) : decide (y ≤ x) = !decide (x < y) := by
  by_cases h : x < y
  · have : ¬ y ≤ x := Int32.not_le.mpr h
    simp [h, this]
  · have : y ≤ x := Int32.not_lt.mp h
    simp [h, this]

theorem dec_lt_le (x y : Int32) : decide (y < x) = !decide (x ≤ y) := by
  rw [dec_le_lt y x]; simp

/-- the comparison the compiler substitutes for `unless` yields the opposite truth value (integers) -/
theorem negateCmp_int (op op' : BinOp) (x y : Int32) (h : negateCmp op = some op') :
    ∃ r r', binopInt op x y = .ok (.int r) ∧ binopInt op' x y = .ok (.int r') ∧ (r' != 0) = !(r != 0) := by
  cases op <;> cases h <;> refine ⟨_, _, rfl, rfl, ?_⟩ <;> simp only [b2i_ne_zero]
  · simp [bne]
  · simp [bne]
  · exact dec_le_lt x y
  · exact dec_lt_le x y
  · exact dec_le_lt y x
  · exact dec_lt_le y x

theorem isComparison_negate {op : BinOp} (h : isComparison op = true) : ∃ op', negateCmp op = some op' ∧ isComparison op' = true := by
  cases op <;> cases h <;> exact ⟨_, rfl, rfl⟩

theorem isComparison_int {op : BinOp} (h : isComparison op = true) (x y : Int32) : ∃ r, binopInt op x y = .ok (.int r) := by
  cases op <;> cases h <;> exact ⟨_, rfl⟩

/-- how a fragment is left by a conditional jump -/
def exitIf (b : Bool) (tgt : Goto) : Exit := if b then .jump tgt.l tgt.time else .fall

/-- `lower_cond_jump_intrinsic` on integer atoms: leaves by the jump iff `if`/`unless` says so -/
theorem exec_condJmpAtom (F : FloatOps) {I : JIntrinsics} {diff mask : Nat} {kw : Kw} {op : BinOp} {a b : Arg} {tgt : Goto}
    {c : List JStmt} {s : JM} {x y r : Int32}
    (hm : maskOn mask diff = true) (hs : IntStore s.m.store) (ha : IntAtom a) (hb : IntAtom b)
    (hx : atomValue s.m.store a = .int x) (hy : atomValue s.m.store b = .int y)
    (hr : binopInt op x y = .ok (.int r))
    (h : condJmpAtom I mask kw op .int .int a b tgt = .ok c) :
    ∃ cmp', execFrag F diff .run c s = .ok (exitIf (kw.takes (r != 0)) tgt, ⟨s.m, cmp'⟩) := by
  -- the emitted jump, single or the cmp + jmp pair, tests the operator `op'`
  have key : ∀ op' r', binopInt op' x y = .ok (.int r') → (r' != 0) = kw.takes (r != 0) →
      (match I.condAlt op' .int with
        | none => (.err errUnsupported : Outcome (List JStmt))
        | some .intrinsic => .ok [.condJmp mask op' .int a b tgt.l tgt.time]
        | some .twoPart => .ok [.cmp mask .int a b, .cmpJmp mask op' tgt.l tgt.time]) = .ok c →
      ∃ cmp', execFrag F diff .run c s = .ok (exitIf (kw.takes (r != 0)) tgt, ⟨s.m, cmp'⟩) := by
    intro op' r' hr' htr hc
    have hra := readArg_intAtom (F := F) (diff := diff) hs ha
    have hrb := readArg_intAtom (F := F) (diff := diff) hs hb
    rw [hx] at hra; rw [hy] at hrb
    rw [← htr]
    rcases halt : I.condAlt op' .int with _ | _ | _ <;> simp only [halt, Outcome.ok.injEq, reduceCtorEq] at hc <;> subst hc
    · exact ⟨s.cmp, by by_cases hz : r' = 0 <;> simp [execFrag, stepJ, hm, hra, hrb, cmpFlow, binop, hr', exitIf, hz]⟩
    · exact ⟨some (.int x, .int y),
        by by_cases hz : r' = 0 <;> simp [execFrag, stepJ, hm, hra, hrb, cmpFlow, binop, hr', exitIf, hz]⟩
  unfold condJmpAtom at h
  cases kw with
  | kif =>
    simp only [ne_eq, not_true_eq_false, ite_false] at h
    exact key op r hr rfl h
  | kunless =>
    rcases hneg : negateCmp op with _ | op' <;> simp only [hneg, ne_eq, not_true_eq_false, ite_false, reduceCtorEq] at h
    obtain ⟨r0, r', h0, h', hrel⟩ := negateCmp_int op op' x y hneg
    cases hr.symm.trans h0
    exact key op' r' h' hrel h

theorem logic_easy (kw : Kw) (op : BinOp) (va vb r : Int32)
    (heasy : (kw = .kif ∧ op = .lor) ∨ (kw = .kunless ∧ op = .land)) (hr : binopInt op va vb = .ok (.int r)) :
    kw.takes (r != 0) = (kw.takes (va != 0) || kw.takes (vb != 0)) := by
  rcases heasy with ⟨rfl, rfl⟩ | ⟨rfl, rfl⟩ <;> cases hr <;> by_cases hz : va = 0 <;> simp [Kw.takes, hz, bne]

theorem Kw.takes_negate (kw : Kw) (b : Bool) : kw.negate.takes b = !kw.takes b := by
  cases kw
  · rfl
  · exact (Bool.not_not b).symm

/-- the hard cases of `lower_cond_jump_logic_binop` are the easy ones of the negated keyword -/
theorem logic_easy_negate {kw : Kw} {op : BinOp} (hop : op = .land ∨ op = .lor)
    (hne : ¬ ((kw = .kif ∧ op = .lor) ∨ (kw = .kunless ∧ op = .land))) :
    (kw.negate = .kif ∧ op = .lor) ∨ (kw.negate = .kunless ∧ op = .land) := by
  cases kw <;> rcases hop with rfl | rfl <;> simp [Kw.negate] at hne ⊢

theorem setTime_time (s : JM) (t : Int) : (s.setTime t).m.time = t := rfl

theorem exitIf_true (tgt : Goto) : exitIf true tgt = .jump tgt.l tgt.time := rfl
theorem exitIf_false (tgt : Goto) : exitIf false tgt = .fall := rfl

/-- the hypotheses under which `v = e` is lowered, in the model with labels (the script time is the time of the
statement: the labels of ternaries carry it) -/
structure CtxT (F : FloatOps) (diff g mask : Nat) (t : Int) (v : VarRef) (e : SExpr) (s : JM) (val : Value) : Prop where
  maskOn : maskOn mask diff = true
  vInt : v.readTy = .int
  vBelow : below g v.name
  intT : IntT e
  belowT : belowT g e
  intStore : IntStore s.m.store
  time : s.m.time = t
  eval : evalS F diff s.m.store e = .ok val

/-- the code of `v = e` falls through with `val` in `v` and every other variable below the temp counter as before.  `RunOp.run`,
`RunTemp.run`, `RunCond` have the same order (run, value, frame, log, time, `IntStore`); the statement level
(`section fromAgreement` of `LowerStmtSound`) has the order of `Lower.StmtSim`, `IntStore` second. -/
def RunSet (F : FloatOps) (diff g : Nat) (v : VarRef) (s : JM) (code : List JStmt) (val : Value) : Prop :=
  ∃ s', execFrag F diff .run code s = .ok (.fall, s') ∧ s'.m.store v.name = val ∧
    (∀ x, x ≠ v.name → below g x → s'.m.store x = s.m.store x) ∧ s'.m.log = s.m.log ∧ s'.m.time = s.m.time ∧
    IntStore s'.m.store

/-- `v = e` whose last instruction stores the value into `v` -/
theorem CtxT.runSet {F : FloatOps} {diff g mask : Nat} {t : Int} {v : VarRef} {e : SExpr} {s s1 : JM} {val : Value}
    {code : List JStmt} (cx : CtxT F diff g mask t v e s val)
    (hex : execFrag F diff .run code s = .ok (.fall, ⟨{ s1.m with store := upd s1.m.store v.name val }, s1.cmp⟩))
    (hframe : ∀ x, x ≠ v.name → below g x → s1.m.store x = s.m.store x) (hlog : s1.m.log = s.m.log)
    (htime : s1.m.time = s.m.time) (hint : IntStore s1.m.store) : RunSet F diff g v s code val := by
  obtain ⟨n, rfl⟩ := evalS_intT cx.intStore cx.intT cx.eval
  exact ⟨_, hex, upd_same _ _ _, fun x hx hxb => (upd_of_ne _ _ hx).trans (hframe x hx hxb), hlog, htime,
    intStore_upd hint _ _⟩

/-- an operand of a binary / unary operation: its atom reads `val` after its code; with `guard` the code may write the
destination `v`, and the atom is `v` only if the operand was computed into it or mentions it -/
structure RunOp (F : FloatOps) (diff g : Nat) (v : VarRef) (guard : Bool) (e : SExpr) (s : JM) (O : OperandJ) (val : Value) : Prop where
  atom : IntAtom O.atom
  run : ∃ s', execFrag F diff .run O.code s = .ok (.fall, s') ∧ atomValue s'.m.store O.atom = val ∧
    (∀ x, below g x → (x ≠ v.name ∨ guard = false) → s'.m.store x = s.m.store x) ∧ s'.m.log = s.m.log ∧
    s'.m.time = s.m.time ∧ IntStore s'.m.store
  atomBelow : ∀ y, argVar O.atom = some y → below O.gen y
  atomV : argVar O.atom = some v.name → (e.simple? = none ∧ O.free = none) ∨ e.uses v.name = true
  freeAtom : ∀ d, O.free = some d → argVar O.atom = some (.loc g)
  tyInt : O.ty = .int

/-- an operand of a comparison: its atom reads `val` after its code -/
structure RunTemp (F : FloatOps) (diff g : Nat) (s : JM) (O : OperandJ) (val : Value) : Prop where
  atom : IntAtom O.atom
  tyInt : O.ty = .int
  atomBelow : ∀ y, argVar O.atom = some y → below O.gen y
  run : ∃ s', execFrag F diff .run O.code s = .ok (.fall, s') ∧ atomValue s'.m.store O.atom = val ∧
    (∀ x, below g x → s'.m.store x = s.m.store x) ∧ s'.m.log = s.m.log ∧ s'.m.time = s.m.time ∧ IntStore s'.m.store

/-- an operand of a comparison WITHOUT ternaries: straight-line code, so no label is defined and the label counter and the
compare register are left alone -/
structure TSpec (F : FloatOps) (diff g lg : Nat) (s : JM) (O : OperandJ) (val : Value) : Prop where
  mono : g ≤ O.gen
  lgen : O.lgen = lg
  atom : IntAtom O.atom
  tyInt : O.ty = .int
  labels : labelsOf O.code = []
  atomBelow : ∀ y, argVar O.atom = some y → below O.gen y
  run : ∃ m', execFrag F diff .run O.code s = .ok (.fall, ⟨m', s.cmp⟩) ∧ atomValue m'.store O.atom = val ∧
    (∀ x, below g x → m'.store x = s.m.store x) ∧ m'.log = s.m.log ∧ m'.time = s.m.time ∧ IntStore m'.store

/-- a conditional jump: left by the jump to the target iff `taken` -/
def RunCond (F : FloatOps) (diff g : Nat) (tgt : Goto) (taken : Bool) (s : JM) (code : List JStmt) : Prop :=
  ∃ s', execFrag F diff .run code s = .ok (exitIf taken tgt, s') ∧
    (∀ x, below g x → s'.m.store x = s.m.store x) ∧ s'.m.log = s.m.log ∧ s'.m.time = s.m.time ∧ IntStore s'.m.store

/-- the statement proved by induction on the fuel: nine clauses, one for each function of the mutual block but `lowerSwitchJ`.
The condition clauses ask `tgt.l < lg`: the code of a condition defines fresh labels (≥ `lg`) between the jump to `tgt` and the
end, and skipping forward must not stop at one of them. -/
def SoundT (F : FloatOps) (I : JIntrinsics) (db ab diff fuel : Nat) : Prop :=
  (∀ g lg t mask v e code g' lg' s val, CtxT F diff g mask t v e s val →
      lowerSetJ I db ab fuel g lg t mask v e = .ok (code, g', lg') → RunSet F diff g v s code val) ∧
  (∀ g lg t mask v guard e O s val, CtxT F diff g mask t v e s val →
      lowerOperandJ I db ab fuel g lg t mask v .int guard e = .ok O → RunOp F diff g v guard e s O val) ∧
  (∀ g lg t mask v op a b code g' lg' s val, CtxT F diff g mask t v (.binop op a b) s val →
      lowerBinopJ I db ab fuel g lg t mask v op a b = .ok (code, g', lg') → RunSet F diff g v s code val) ∧
  (∀ g lg t mask v op b code g' lg' s val, CtxT F diff g mask t v (.unop op b) s val →
      lowerUnopJ I db ab fuel g lg t mask v op b = .ok (code, g', lg') → RunSet F diff g v s code val) ∧
  (∀ g lg t mask v c l r code g' lg' s val, CtxT F diff g mask t v (.ternary c l r) s val →
      lowerTernaryJ I db ab fuel g lg t mask v c l r = .ok (code, g', lg') → RunSet F diff g v s code val) ∧
  (∀ g lg t mask kw e tgt code g' lg' s n, maskOn mask diff = true → IntT e → belowT g e → IntStore s.m.store →
      evalS F diff s.m.store e = .ok (.int n) → s.m.time = t → tgt.l < lg →
      lowerCondJ I db ab fuel g lg t mask kw e tgt = .ok (code, g', lg') →
      RunCond F diff g tgt (kw.takes (n != 0)) s code) ∧
  (∀ g lg t mask e O s val, maskOn mask diff = true → IntT e → belowT g e → IntStore s.m.store →
      evalS F diff s.m.store e = .ok val → s.m.time = t →
      lowerTempJ I db ab fuel g lg t mask e = .ok O → RunTemp F diff g s O val) ∧
  (∀ g lg t mask kw a op b tgt code g' lg' s x y r, maskOn mask diff = true → IntT a → IntT b → belowT g a → belowT g b →
      IntStore s.m.store → evalS F diff s.m.store a = .ok (.int x) → evalS F diff s.m.store b = .ok (.int y) →
      binopInt op x y = .ok (.int r) → s.m.time = t → tgt.l < lg →
      lowerCmpJ I db ab fuel g lg t mask kw a op b tgt = .ok (code, g', lg') →
      RunCond F diff g tgt (kw.takes (r != 0)) s code) ∧
  (∀ g lg t mask kw a op b tgt code g' lg' s va vb r, maskOn mask diff = true → IntT a → IntT b → belowT g a → belowT g b →
      IntStore s.m.store → evalS F diff s.m.store a = .ok (.int va) → evalS F diff s.m.store b = .ok (.int vb) →
      (op = .land ∨ op = .lor) → binopInt op va vb = .ok (.int r) → s.m.time = t → tgt.l < lg →
      lowerLogicJ I db ab fuel g lg t mask kw a op b tgt = .ok (code, g', lg') →
      RunCond F diff g tgt (kw.takes (r != 0)) s code)

section clauses
variable {F : FloatOps} {I : JIntrinsics} {db ab diff fuel : Nat} (h : SoundT F I db ab diff fuel)
variable {g lg g' lg' mask : Nat} {t : Int} {v : VarRef} {kw : Kw} {tgt : Goto} {code : List JStmt} {s : JM} {val : Value}
include h

theorem SoundT.set {e : SExpr} (cx : CtxT F diff g mask t v e s val)
    (hl : lowerSetJ I db ab fuel g lg t mask v e = .ok (code, g', lg')) : RunSet F diff g v s code val :=
  h.1 _ _ _ _ _ _ _ _ _ _ _ cx hl

theorem SoundT.operand {guard : Bool} {e : SExpr} {O : OperandJ} (cx : CtxT F diff g mask t v e s val)
    (hl : lowerOperandJ I db ab fuel g lg t mask v .int guard e = .ok O) : RunOp F diff g v guard e s O val :=
  h.2.1 _ _ _ _ _ _ _ _ _ _ cx hl

theorem SoundT.binop {op : BinOp} {a b : SExpr} (cx : CtxT F diff g mask t v (.binop op a b) s val)
    (hl : lowerBinopJ I db ab fuel g lg t mask v op a b = .ok (code, g', lg')) : RunSet F diff g v s code val :=
  h.2.2.1 _ _ _ _ _ _ _ _ _ _ _ _ _ cx hl

theorem SoundT.unop {op : UnOp} {b : SExpr} (cx : CtxT F diff g mask t v (.unop op b) s val)
    (hl : lowerUnopJ I db ab fuel g lg t mask v op b = .ok (code, g', lg')) : RunSet F diff g v s code val :=
  h.2.2.2.1 _ _ _ _ _ _ _ _ _ _ _ _ cx hl

theorem SoundT.ternary {c l r : SExpr} (cx : CtxT F diff g mask t v (.ternary c l r) s val)
    (hl : lowerTernaryJ I db ab fuel g lg t mask v c l r = .ok (code, g', lg')) : RunSet F diff g v s code val :=
  h.2.2.2.2.1 _ _ _ _ _ _ _ _ _ _ _ _ _ cx hl

theorem SoundT.cond {e : SExpr} {n : Int32} (hm : maskOn mask diff = true) (hi : IntT e) (hb : belowT g e) (hs : IntStore s.m.store)
    (hev : evalS F diff s.m.store e = .ok (.int n)) (ht : s.m.time = t) (htl : tgt.l < lg)
    (hl : lowerCondJ I db ab fuel g lg t mask kw e tgt = .ok (code, g', lg')) : RunCond F diff g tgt (kw.takes (n != 0)) s code :=
  h.2.2.2.2.2.1 _ _ _ _ _ _ _ _ _ _ _ _ hm hi hb hs hev ht htl hl

theorem SoundT.temp {e : SExpr} {O : OperandJ} (hm : maskOn mask diff = true) (hi : IntT e) (hb : belowT g e) (hs : IntStore s.m.store)
    (hev : evalS F diff s.m.store e = .ok val) (ht : s.m.time = t) (hl : lowerTempJ I db ab fuel g lg t mask e = .ok O) :
    RunTemp F diff g s O val :=
  h.2.2.2.2.2.2.1 _ _ _ _ _ _ _ _ hm hi hb hs hev ht hl

theorem SoundT.cmp {a b : SExpr} {op : BinOp} {x y r : Int32} (hm : maskOn mask diff = true) (hia : IntT a) (hib : IntT b)
    (hba : belowT g a) (hbb : belowT g b) (hs : IntStore s.m.store) (hea : evalS F diff s.m.store a = .ok (.int x))
    (heb : evalS F diff s.m.store b = .ok (.int y)) (hr : binopInt op x y = .ok (.int r)) (ht : s.m.time = t) (htl : tgt.l < lg)
    (hl : lowerCmpJ I db ab fuel g lg t mask kw a op b tgt = .ok (code, g', lg')) : RunCond F diff g tgt (kw.takes (r != 0)) s code :=
  h.2.2.2.2.2.2.2.1 _ _ _ _ _ _ _ _ _ _ _ _ _ _ _ _ hm hia hib hba hbb hs hea heb hr ht htl hl

theorem SoundT.logic {a b : SExpr} {op : BinOp} {x y r : Int32} (hm : maskOn mask diff = true) (hia : IntT a) (hib : IntT b)
    (hba : belowT g a) (hbb : belowT g b) (hs : IntStore s.m.store) (hea : evalS F diff s.m.store a = .ok (.int x))
    (heb : evalS F diff s.m.store b = .ok (.int y)) (hop : op = .land ∨ op = .lor) (hr : binopInt op x y = .ok (.int r))
    (ht : s.m.time = t) (htl : tgt.l < lg) (hl : lowerLogicJ I db ab fuel g lg t mask kw a op b tgt = .ok (code, g', lg')) :
    RunCond F diff g tgt (kw.takes (r != 0)) s code :=
  h.2.2.2.2.2.2.2.2 _ _ _ _ _ _ _ _ _ _ _ _ _ _ _ _ hm hia hib hba hbb hs hea heb hop hr ht htl hl

end clauses

/-- an operand of a comparison is lowered like an operand of an operator that may not reuse the destination -/
theorem lowerTempJ_eq_operand (I : JIntrinsics) (db ab fuel g lg : Nat) (t : Int) (mask : Nat) (v : VarRef) (ty : RTy) (e : SExpr) :
    lowerTempJ I db ab fuel g lg t mask e = lowerOperandJ I db ab fuel g lg t mask v ty false e := by
  cases fuel with
  | zero => simp only [lowerTempJ, lowerOperandJ]
  | succ fuel => simp only [lowerTempJ, lowerOperandJ, Bool.false_eq_true, and_false, if_false]

/-- `<code>; goto L; skip:` where the code is left by the jump to `skip` iff `n`: left by the jump to `L` iff not `n` -/
theorem execFrag_skip {F : FloatOps} {diff : Nat} {tgt : Goto} {n : Bool} {s s1 : JM} {c : List JStmt} {mask skip : Nat} {t : Int}
    (hex : execFrag F diff .run c s = .ok (exitIf n ⟨skip, none⟩, s1)) (hm : maskOn mask diff = true) (hne : ¬ skip = tgt.l) :
    execFrag F diff .run (c ++ ([.jmp mask tgt.l tgt.time] ++ [.label t skip])) s =
      .ok (exitIf (!n) tgt, if n then s1.setTime t else s1) := by
  cases n with
  | true => exact execFrag_append_ok hex (by simp [exitIf, modeOf, execFrag])
  | false => exact execFrag_append_ok hex (by simp [exitIf, modeOf, execFrag, stepJ, hm, hne])

theorem runCond_skip {F : FloatOps} {diff g : Nat} {tgt : Goto} {n : Bool} {s : JM} {c : List JStmt} {mask skip : Nat} {t : Int}
    (h : RunCond F diff g ⟨skip, none⟩ n s c) (hm : maskOn mask diff = true) (hne : ¬ skip = tgt.l) (ht : s.m.time = t) :
    RunCond F diff g tgt (!n) s (c ++ ([.jmp mask tgt.l tgt.time] ++ [.label t skip])) := by
  obtain ⟨s1, hex, hframe, hlog, htime, hint⟩ := h
  refine ⟨_, execFrag_skip hex hm hne, ?_⟩
  cases n with
  | true => exact ⟨hframe, hlog, ht.symm, hint⟩
  | false => exact ⟨hframe, hlog, htime, hint⟩

/-- `unless (c) goto F; <then>; goto E; F: <else>; E:` when the condition is left by the jump to `F`: `<else>` runs, at the
time of the label -/
theorem execFrag_else {F : FloatOps} {diff : Nat} {c1 c2 c3 : List JStmt} {s s1 s3 : JM} {mask lF lE : Nat} {t : Int}
    (h1 : execFrag F diff .run c1 s = .ok (.jump lF none, s1)) (h2 : ∀ l ∈ labelsOf c2, l ≠ lF)
    (h3 : execFrag F diff .run c3 (s1.setTime t) = .ok (.fall, s3)) :
    execFrag F diff .run (c1 ++ (c2 ++ ([.jmp mask lE none] ++ (.label t lF :: (c3 ++ [.label t lE]))))) s = .ok (.fall, s3) := by
  refine execFrag_append_ok h1 (execFrag_append_ok (execFrag_seek_skip F diff lF none c2 s1 h2) ?_)
  simp only [modeOf, List.cons_append, List.nil_append, execFrag, if_true, Option.getD_none]
  exact execFrag_append_ok h3 rfl

theorem execFrag_then {F : FloatOps} {diff : Nat} {c1 c2 c3 : List JStmt} {s s1 s2 : JM} {mask lF lE : Nat} {t : Int}
    (hm : maskOn mask diff = true) (hne : ¬ lF = lE) (h1 : execFrag F diff .run c1 s = .ok (.fall, s1))
    (h2 : execFrag F diff .run c2 s1 = .ok (.fall, s2)) (h3 : ∀ l ∈ labelsOf c3, l ≠ lE) :
    execFrag F diff .run (c1 ++ (c2 ++ ([.jmp mask lE none] ++ (.label t lF :: (c3 ++ [.label t lE]))))) s =
      .ok (.fall, s2.setTime t) := by
  refine execFrag_append_ok h1 (execFrag_append_ok h2 ?_)
  simp only [modeOf, List.cons_append, List.nil_append, execFrag, stepJ, hm, Bool.not_true, Bool.false_eq_true, if_false, hne]
  refine execFrag_append_ok (execFrag_seek_skip F diff lE none c3 s2 h3) ?_
  simp [modeOf, execFrag]

section stepT
variable {F : FloatOps} {I : JIntrinsics} {db ab diff fuel : Nat} (ih : SoundT F I db ab diff fuel)
variable {g lg g' lg' mask : Nat} {t : Int} {v : VarRef} {kw : Kw} {tgt : Goto} {code : List JStmt} {s : JM} {val : Value}
include ih

theorem setT_case {e : SExpr} (cx : CtxT F diff g mask t v e s val)
    (h : lowerSetJ I db ab (fuel + 1) g lg t mask v e = .ok (code, g', lg')) : RunSet F diff g v s code val := by
  rw [lowerSetJ] at h
  cases hsim : e.simple? with
  | some a =>
    simp only [hsim] at h
    rcases hat : lowerAssignAtom I.base mask v .set a with c | x | x <;>
      simp only [hat, liftAtom, Outcome.ok.injEq, Prod.mk.injEq, reduceCtorEq] at h
    obtain ⟨rfl, _, _⟩ := h
    obtain ⟨hatom, hval, _⟩ := simple_spec F diff cx.intT hsim
    have hex := exec_setAtom F cx.maskOn cx.intStore hatom hat
    rw [Outcome.ok.inj ((hval s.m.store cx.intStore).symm.trans cx.eval)] at hex
    exact cx.runSet (execFrag_liftJ s hex) (fun _ _ _ => rfl) rfl rfl cx.intStore
  | none =>
    simp only [hsim] at h
    obtain ⟨ht1, ht2, ht3⟩ := intT_temp cx.intT
    simp only [ht1, ht2, ht3, ne_eq, not_true_eq_false, ite_false] at h
    cases e with
    | binop op a b => exact ih.binop cx h
    | unop op b => exact ih.unop cx h
    | ternary c l r => exact ih.ternary cx h
    | litI _ | var _ => cases hsim
    | litF _ | switch _ | omitted => exact cx.intT.elim

theorem operandT_case {guard : Bool} {e : SExpr} {O : OperandJ} (cx : CtxT F diff g mask t v e s val)
    (h : lowerOperandJ I db ab (fuel + 1) g lg t mask v .int guard e = .ok O) : RunOp F diff g v guard e s O val := by
  obtain ⟨ht1, ht2, ht3⟩ := intT_temp cx.intT
  rcases lowerOperandJ_ok h with ⟨a, hsim, rfl⟩ | ⟨hsim, ⟨_, _, rfl⟩, c, g1, lg1, hl, rfl⟩ | ⟨hsim, hg, c, g1, lg1, hl, rfl⟩
  · obtain ⟨hatom, hval, huse⟩ := simple_spec F diff cx.intT hsim
    have hv := Outcome.ok.inj ((hval s.m.store cx.intStore).symm.trans cx.eval)
    exact ⟨hatom, ⟨s, rfl, hv, fun _ _ _ => rfl, rfl, rfl, cx.intStore⟩, fun y hy => uses_belowT cx.intT cx.belowT (huse y hy),
      fun hy => .inr (huse _ hy), nofun, intT_simpleTy cx.intT⟩
  · rw [ht1] at hl
    rw [ht3]
    have hmono := ((shapeAt _ _ _ _).set hl).le_gen
    obtain ⟨s', hex, hval, hframe, hlog, htime, hint⟩ := ih.set cx hl
    refine ⟨toArg_intAtom v, ⟨s', hex, (atomValue_toArg _ v _).trans hval, fun x hx hor => hor.elim (hframe x · hx) nofun,
      hlog, htime, hint⟩, ?_, fun _ => .inl ⟨hsim, rfl⟩, nofun, rfl⟩
    intro y hy
    cases (argVar_toArg v _).symm.trans hy
    exact below_mono hmono cx.vBelow
  · rw [ht1, ht2] at hl
    rw [ht2, ht3]
    have hmono := ((shapeAt _ _ _ _).set hl).le_gen
    have cx' : CtxT F diff (g + 1) mask t (tmpVar g .int) e s val :=
      ⟨cx.maskOn, rfl, Nat.lt_succ_self g, cx.intT, belowT_mono cx.intT (Nat.le_succ g) cx.belowT, cx.intStore, cx.time, cx.eval⟩
    obtain ⟨s', hex, hval, hframe, hlog, htime, hint⟩ := ih.set cx' hl
    refine ⟨.loc g, ⟨s', hex, hval, fun x hx _ => hframe x (ne_of_below hx) (below_mono (Nat.le_succ g) hx), hlog, htime, hint⟩,
      ?_, ?_, fun _ _ => rfl, rfl⟩
    · intro y hy
      cases hy
      exact Nat.lt_of_lt_of_le (Nat.lt_succ_self g) hmono
    · intro hy
      exact absurd (Option.some.inj hy ▸ cx.vBelow) (loc_not_below g)

theorem binopT_case {op : BinOp} {a b : SExpr} (cx : CtxT F diff g mask t v (.binop op a b) s val)
    (h : lowerBinopJ I db ab (fuel + 1) g lg t mask v op a b = .ok (code, g', lg')) : RunSet F diff g v s code val := by
  obtain ⟨hia, hib⟩ : IntT a ∧ IntT b := cx.intT
  obtain ⟨hba, hbb⟩ : belowT g a ∧ belowT g b := cx.belowT
  obtain ⟨va, vb, hea, heb, hop⟩ := evalS_binop_inv cx.eval
  obtain ⟨A, B, c, hA, hB, hC, rfl, rfl, rfl⟩ := lowerBinopJ_ok h
  rw [intT_ty hia, binopTy_int] at hA hB
  have hmonoA := ((shapeAt _ _ _ _).operand hA).le_gen
  have cxa : CtxT F diff g mask t v a s va := ⟨cx.maskOn, cx.vInt, cx.vBelow, hia, hba, cx.intStore, cx.time, hea⟩
  have SA := ih.operand cxa hA
  obtain ⟨s1, hex1, hval1, hframe1, hlog1, htime1, hint1⟩ := SA.run
  -- the value of `b` is not disturbed by the code of `a`: this is where the guard `expr_uses_var` is needed
  have hb_same : evalS F diff s1.m.store b = .ok vb := by
    rw [← heb]
    apply evalS_congrT F diff _ _ hib
    intro x hx
    apply hframe1 x (uses_belowT hib hbb hx)
    by_cases hxv : x = v.name
    · subst hxv; right; rw [hx]; rfl
    · left; exact hxv
  have cxb : CtxT F diff A.gen mask t v b s1 vb :=
    ⟨cx.maskOn, cx.vInt, below_mono hmonoA cx.vBelow, hib, belowT_mono hib hmonoA hbb, hint1, htime1.trans cx.time, hb_same⟩
  have SB := ih.operand cxb hB
  obtain ⟨s2, hex2, hval2, hframe2, hlog2, htime2, hint2⟩ := SB.run
  -- the atom of `a` still has its value after the code of `b`
  have hA_stable : atomValue s2.m.store A.atom = va := by
    rw [← hval1]
    apply atomValue_congr
    intro y hy
    apply hframe2 y (SA.atomBelow y hy)
    by_cases hyv : y = v.name
    · right
      subst hyv
      -- the atom of `a` is `v`, so it is no temporary: `v` was reused for `a`, or `a` mentions it
      have hfree : A.free = none := by
        cases hf : A.free with
        | none => rfl
        | some d => exact absurd (Option.some.inj ((SA.freeAtom d hf).symm.trans hy) ▸ cx.vBelow) (loc_not_below g)
      have : operandUses a v.name A.free = true := by
        unfold operandUses
        rw [hfree]
        rcases SA.atomV hy with ⟨h1, _⟩ | h1
        · rw [h1]
        · cases a.simple? with
          | some _ => exact h1
          | none => rfl
      rw [this]; rfl
    · left; exact hyv
  have hr : binop F op (atomValue s2.m.store A.atom) (atomValue s2.m.store B.atom) = .ok val := by
    rw [hA_stable, hval2]; exact hop
  have hex3 := exec_binopAtom cx.maskOn hint2 SA.atom SB.atom hr hC
  exact cx.runSet
    (execFrag_append_ok hex1 (execFrag_append_ok hex2 (execFrag_append_ok (execFrag_liftJ s2 hex3)
      (execFrag_append_ok (execFrag_frees F diff B.free .fall _) (execFrag_frees F diff A.free .fall _)))))
    (fun x hx hxb => (hframe2 x (below_mono hmonoA hxb) (Or.inl hx)).trans (hframe1 x hxb (Or.inl hx)))
    (hlog2.trans hlog1) (htime2.trans htime1) hint2

theorem unopT_case {op : UnOp} {b : SExpr} (cx : CtxT F diff g mask t v (.unop op b) s val)
    (h : lowerUnopJ I db ab (fuel + 1) g lg t mask v op b = .ok (code, g', lg')) : RunSet F diff g v s code val := by
  obtain ⟨hopk, hib⟩ : (op = .neg ∨ op = .not ∨ op = .bnot) ∧ IntT b := cx.intT
  have hbb : belowT g b := cx.belowT
  obtain ⟨x, heb, hu⟩ := evalS_unop_inv hopk cx.eval
  obtain ⟨nx, rfl⟩ := evalS_intT cx.intStore hib heb
  have hty : unopTy op b.ty = .int := by
    rw [intT_ty hib]; rcases hopk with rfl | rfl | rfl <;> rfl
  obtain ⟨B, c, hB, hC, rfl, rfl, rfl⟩ := lowerUnopJ_ok h
  rw [hty] at hB
  have cxb : CtxT F diff g mask t v b s (.int nx) := ⟨cx.maskOn, cx.vInt, cx.vBelow, hib, hbb, cx.intStore, cx.time, heb⟩
  have SB := ih.operand cxb hB
  obtain ⟨s1, hex1, hval1, hframe1, hlog1, htime1, hint1⟩ := SB.run
  rw [SB.tyInt] at hC
  have hex2 := exec_unopAtom cx.maskOn hint1 SB.atom hval1 hu hC
  exact cx.runSet
    (execFrag_append_ok hex1 (execFrag_append_ok (execFrag_liftJ s1 hex2) (execFrag_frees F diff B.free .fall _)))
    (fun y hy hyb => hframe1 y hyb (Or.inl hy)) hlog1 htime1 hint1

theorem tempT_case {e : SExpr} {O : OperandJ} (hm : maskOn mask diff = true) (hi : IntT e) (hb : belowT g e) (hs : IntStore s.m.store)
    (hev : evalS F diff s.m.store e = .ok val) (ht : s.m.time = t)
    (h : lowerTempJ I db ab (fuel + 1) g lg t mask e = .ok O) : RunTemp F diff g s O val := by
  rw [lowerTempJ_eq_operand I db ab (fuel + 1) g lg t mask ⟨.reg 0, none, .int⟩ .int e] at h
  have S := operandT_case ih (v := ⟨.reg 0, none, .int⟩) ⟨hm, rfl, trivial, hi, hb, hs, ht, hev⟩ h
  obtain ⟨s', hex, hval, hframe, hrest⟩ := S.run
  exact ⟨S.atom, S.tyInt, S.atomBelow, s', hex, hval, fun x hx => hframe x hx (Or.inr rfl), hrest⟩

theorem condT_case {e : SExpr} {n : Int32} (hm : maskOn mask diff = true) (hi : IntT e) (hb : belowT g e) (hs : IntStore s.m.store)
    (hev : evalS F diff s.m.store e = .ok (.int n)) (ht : s.m.time = t) (htl : tgt.l < lg)
    (h : lowerCondJ I db ab (fuel + 1) g lg t mask kw e tgt = .ok (code, g', lg')) :
    RunCond F diff g tgt (kw.takes (n != 0)) s code := by
  rcases lowerCondJ_ok h with ⟨op, a, b, rfl, _, h'⟩ | ⟨op, a, b, rfl, hl, h'⟩ | ⟨b, rfl, h'⟩ | ⟨_, h'⟩
  · obtain ⟨va, vb, hea, heb, hop⟩ := evalS_binop_inv hev
    obtain ⟨x, rfl⟩ := evalS_intT hs hi.1 hea
    obtain ⟨y, rfl⟩ := evalS_intT hs hi.2 heb
    exact ih.cmp hm hi.1 hi.2 hb.1 hb.2 hs hea heb hop ht htl h'
  · obtain ⟨va, vb, hea, heb, hop⟩ := evalS_binop_inv hev
    obtain ⟨x, rfl⟩ := evalS_intT hs hi.1 hea
    obtain ⟨y, rfl⟩ := evalS_intT hs hi.2 heb
    exact ih.logic hm hi.1 hi.2 hb.1 hb.2 hs hea heb hl hop ht htl h'
  · obtain ⟨x, heb, hu⟩ := evalS_unop_inv (Or.inr (Or.inl rfl)) hev
    obtain ⟨nx, rfl⟩ := evalS_intT hs hi.2 heb
    cases hu
    have := ih.cond hm hi.2 hb hs heb ht htl h'
    have hk : kw.negate.takes (nx != 0) = kw.takes (b2i (nx == 0) != 0) := by
      cases kw <;> simp only [Kw.takes, Kw.negate, b2i_ne_zero] <;> simp [bne]
    rwa [hk] at this
  · have := ih.cmp (b := .litI 0) (r := b2i (n != 0)) hm hi trivial hb trivial hs hev rfl rfl ht htl h'
    rwa [b2i_ne_zero] at this

section twoOperands
variable {a b : SExpr} {op : BinOp} {x y r : Int32} (hm : maskOn mask diff = true) (hia : IntT a) (hib : IntT b)
  (hba : belowT g a) (hbb : belowT g b) (hs : IntStore s.m.store)
  (hea : evalS F diff s.m.store a = .ok (.int x)) (heb : evalS F diff s.m.store b = .ok (.int y))
include hm hia hib hba hbb hs hea heb

theorem cmpT_case (hr : binopInt op x y = .ok (.int r)) (ht : s.m.time = t) (_htl : tgt.l < lg)
    (h : lowerCmpJ I db ab (fuel + 1) g lg t mask kw a op b tgt = .ok (code, g', lg')) :
    RunCond F diff g tgt (kw.takes (r != 0)) s code := by
  obtain ⟨A, B, c, hA, hB, hC, rfl, rfl, rfl⟩ := lowerCmpJ_ok h
  have hmonoA := ((shapeAt _ _ _ _).temp hA).le_gen
  have SA := ih.temp hm hia hba hs hea ht hA
  obtain ⟨s1, hex1, hval1, hframe1, hlog1, htime1, hint1⟩ := SA.run
  have heb1 : evalS F diff s1.m.store b = .ok (.int y) :=
      (evalS_frameT hib hbb hframe1).trans heb
  have SB := ih.temp hm hib (belowT_mono hib hmonoA hbb) hint1 heb1 (htime1.trans ht) hB
  obtain ⟨s2, hex2, hval2, hframe2, hlog2, htime2, hint2⟩ := SB.run
  have hA_stable : atomValue s2.m.store A.atom = .int x :=
    (atomValue_congr fun z hz => hframe2 z (SA.atomBelow z hz)).trans hval1
  rw [SA.tyInt, SB.tyInt] at hC
  obtain ⟨cmp', hex3⟩ := exec_condJmpAtom F hm hint2 SA.atom SB.atom hA_stable hval2 hr hC
  exact ⟨⟨s2.m, cmp'⟩,
    execFrag_append_ok hex1 (execFrag_append_ok hex2 (execFrag_append_ok hex3
      (execFrag_append_ok (execFrag_frees F diff B.free _ _) (execFrag_frees F diff A.free _ _)))),
    fun z hz => (hframe2 z (below_mono hmonoA hz)).trans (hframe1 z hz), hlog2.trans hlog1, htime2.trans htime1, hint2⟩

/-- `if (a || b) goto L` / `unless (a && b) goto L`: the two conditions one after the other, to the same target -/
theorem logicT_easy {g1 lg1 g2 lg2 : Nat} {c1 c2 : List JStmt}
    (heasy : (kw = .kif ∧ op = .lor) ∨ (kw = .kunless ∧ op = .land)) (hr : binopInt op x y = .ok (.int r))
    (ht : s.m.time = t) (htl : tgt.l < lg)
    (h1 : lowerCondJ I db ab fuel g lg t mask kw a tgt = .ok (c1, g1, lg1))
    (h2 : lowerCondJ I db ab fuel g1 lg1 t mask kw b tgt = .ok (c2, g2, lg2)) :
    RunCond F diff g tgt (kw.takes (r != 0)) s (c1 ++ c2) := by
  unfold RunCond
  rw [logic_easy kw op x y r heasy hr]
  obtain ⟨hg1, hl1, _⟩ := (shapeAt _ _ _ _).cond h1
  obtain ⟨_, _, hsh2⟩ := (shapeAt _ _ _ _).cond h2
  obtain ⟨s1, hex1, hframe1, hlog1, htime1, hint1⟩ := ih.cond hm hia hba hs hea ht htl h1
  cases htk : kw.takes (x != 0) with
  | true =>
    -- the first jump is taken; the target is not defined in the code of the second
    rw [htk, exitIf_true] at hex1
    refine ⟨s1, execFrag_append_ok hex1 (execFrag_seek_skip F diff _ _ _ _ ?_), hframe1, hlog1, htime1, hint1⟩
    -- the labels of the second condition are ≥ lg1 ≥ lg > tgt.l
    intro l' hl' hEq
    exact absurd (hEq ▸ Nat.le_trans hl1 (hsh2.range l' hl').1) (Nat.not_le_of_lt htl)
  | false =>
    rw [htk, exitIf_false] at hex1
    have heb1 : evalS F diff s1.m.store b = .ok (.int y) :=
      (evalS_frameT hib hbb hframe1).trans heb
    obtain ⟨s2, hex2, hframe2, hlog2, htime2, hint2⟩ := ih.cond hm hib (belowT_mono hib hg1 hbb) hint1 heb1 (htime1.trans ht)
      (Nat.lt_of_lt_of_le htl hl1) h2
    exact ⟨s2, execFrag_append_ok hex1 hex2, fun z hz => (hframe2 z (below_mono hg1 hz)).trans (hframe1 z hz),
      hlog2.trans hlog1, htime2.trans htime1, hint2⟩

theorem logicT_case (hop : op = .land ∨ op = .lor) (hr : binopInt op x y = .ok (.int r)) (ht : s.m.time = t) (htl : tgt.l < lg)
    (h : lowerLogicJ I db ab (fuel + 1) g lg t mask kw a op b tgt = .ok (code, g', lg')) :
    RunCond F diff g tgt (kw.takes (r != 0)) s code := by
  rcases lowerLogicJ_ok h with ⟨heasy, c1, g1, lg1, c2, h1, h2, rfl⟩ | ⟨heasy, c1, g1, lg1, c2, j, h1, h2, hj, rfl⟩
  · exact logicT_easy ih hm hia hib hba hbb hs hea heb heasy hr ht htl h1 h2
  · cases lowerJmp_ok hj
    have S := runCond_skip (mask := mask) (tgt := tgt)
      (logicT_easy ih hm hia hib hba hbb hs hea heb (logic_easy_negate hop heasy) hr ht (Nat.lt_succ_self lg) h1 h2)
      hm (Nat.ne_of_gt htl) ht
    rwa [Kw.takes_negate, Bool.not_not, List.append_assoc] at S

end twoOperands

theorem ternaryT_case {c l r : SExpr} (cx : CtxT F diff g mask t v (.ternary c l r) s val)
    (h : lowerTernaryJ I db ab (fuel + 1) g lg t mask v c l r = .ok (code, g', lg')) : RunSet F diff g v s code val := by
  obtain ⟨hic, hil, hir⟩ : IntT c ∧ IntT l ∧ IntT r := cx.intT
  obtain ⟨hbc, hbl, hbr⟩ : belowT g c ∧ belowT g l ∧ belowT g r := cx.belowT
  have hm := cx.maskOn
  have ht := cx.time
  obtain ⟨vc, hevc, hevb⟩ := evalS_ternary_inv cx.eval
  obtain ⟨c1, g1, lg1, c2, g2, lg2, j, c3, h1, h2, hj, h3, rfl⟩ := lowerTernaryJ_ok h
  cases lowerJmp_ok hj
  obtain ⟨hg1, hl1, hsh1⟩ := (shapeAt _ _ _ _).cond h1
  obtain ⟨s1, hex1, hframe1, hlog1, htime1, hint1⟩ := ih.cond (tgt := ⟨lg, none⟩) hm hic hbc cx.intStore hevc ht
    (Nat.lt_add_of_pos_right (by decide)) h1
  obtain ⟨hg2, hl2, hsh2⟩ := (shapeAt _ _ _ _).set h2
  obtain ⟨hg3, hl3, hsh3⟩ := (shapeAt _ _ _ _).set h3
  -- the labels `false` = lg and `end` = lg + 1 lie below those of the condition and the branches
  have hlt1 : lg + 1 < lg1 := hl1
  by_cases hz : vc = 0
  · -- the condition is false: `unless` jumps to `false`, `v = r` runs
    subst hz
    simp only [if_true] at hevb
    have htk : Kw.kunless.takes ((0 : Int32) != 0) = true := by decide
    rw [htk, exitIf_true] at hex1
    have hevr1 : evalS F diff s1.m.store r = .ok val :=
      (evalS_frameT hir hbr hframe1).trans hevb
    have hg12 : g ≤ g2 := Nat.le_trans hg1 hg2
    obtain ⟨s3, hex3, hval3, hframe3, hlog3, htime3, hint3⟩ := ih.set (s := s1.setTime t)
      ⟨hm, cx.vInt, below_mono hg12 cx.vBelow, hir, belowT_mono hir hg12 hbr, hint1, rfl, hevr1⟩ h3
    exact ⟨s3, execFrag_else (lE := lg + 1) hex1 (fun l' hl' hEq =>
        absurd (hEq ▸ (hsh2.range l' hl').1) (Nat.not_le_of_lt (Nat.lt_of_succ_lt hlt1))) hex3,
      hval3, fun x hx hxb => (hframe3 x hx (below_mono hg12 hxb)).trans (hframe1 x hxb), hlog3.trans hlog1,
      htime3.trans ht.symm, hint3⟩
  · -- the condition is true: fall into `v = l`, then `goto end`
    simp only [hz, if_false] at hevb
    have htk : Kw.kunless.takes (vc != 0) = false := by rw [bne_iff_ne.mpr hz]; rfl
    rw [htk, exitIf_false] at hex1
    have hevl1 : evalS F diff s1.m.store l = .ok val :=
      (evalS_frameT hil hbl hframe1).trans hevb
    obtain ⟨s2, hex2, hval2, hframe2, hlog2, htime2, hint2⟩ := ih.set
      ⟨hm, cx.vInt, below_mono hg1 cx.vBelow, hil, belowT_mono hil hg1 hbl, hint1, htime1.trans ht, hevl1⟩ h2
    exact ⟨s2.setTime t, execFrag_then (lE := lg + 1) hm (Nat.ne_of_lt (Nat.lt_succ_self lg)) hex1 hex2 (fun l' hl' hEq =>
        absurd (hEq ▸ Nat.le_trans hl2 (hsh3.range l' hl').1) (Nat.not_le_of_lt hlt1)),
      hval2, fun x hx hxb => (hframe2 x hx (below_mono hg1 hxb)).trans (hframe1 x hxb), hlog2.trans hlog1, ht.symm, hint2⟩

end stepT


theorem soundT (F : FloatOps) (I : JIntrinsics) (db ab diff : Nat) : ∀ fuel, SoundT F I db ab diff fuel := by
  intro fuel
  induction fuel with
  | zero =>
    refine ⟨?_, ?_, ?_, ?_, ?_, ?_, ?_, ?_, ?_⟩ <;> intros <;> rename_i h <;>
      simp [lowerSetJ, lowerOperandJ, lowerBinopJ, lowerUnopJ, lowerTernaryJ, lowerCondJ, lowerTempJ, lowerCmpJ, lowerLogicJ] at h
  | succ fuel ih =>
    exact ⟨fun _ _ _ _ _ _ _ _ _ _ _ => setT_case ih, fun _ _ _ _ _ _ _ _ _ _ => operandT_case ih,
      fun _ _ _ _ _ _ _ _ _ _ _ _ _ => binopT_case ih, fun _ _ _ _ _ _ _ _ _ _ _ _ => unopT_case ih,
      fun _ _ _ _ _ _ _ _ _ _ _ _ _ => ternaryT_case ih, fun _ _ _ _ _ _ _ _ _ _ _ _ => condT_case ih,
      fun _ _ _ _ _ _ _ _ => tempT_case ih, fun _ _ _ _ _ _ _ _ _ _ _ _ _ _ _ _ => cmpT_case ih,
      fun _ _ _ _ _ _ _ _ _ _ _ _ _ _ _ _ => logicT_case ih⟩

/-- **lowerSetT_sound**: `v = e` for every integer expression WITH ternaries at any depth (in operands, in conditions of
ternaries, in branches), under every intrinsic table and fuel: the emitted fragment runs to its end without leaving,
leaves `eval e` in `v` (only the branches the source selects have to evaluate), changes no other variable below the temp
counter, logs nothing and keeps the time. -/
theorem lowerSetT_sound (F : FloatOps) (I : JIntrinsics) (db ab diff fuel g lg : Nat) (t : Int) (mask : Nat) (v : VarRef) (e : SExpr)
    (code : List JStmt) (g' lg' : Nat) (s : JM) (val : Value) (cx : CtxT F diff g mask t v e s val)
    (h : lowerSetJ I db ab fuel g lg t mask v e = .ok (code, g', lg')) : RunSet F diff g v s code val :=
  (soundT F I db ab diff fuel).set cx h

/-- **lowerCondT_sound**: `if|unless (e) goto L @ t` for every integer condition WITH ternaries at any depth in its
operands: left by the jump iff the source jumps, nothing below the temp counter changed, nothing logged, time kept. -/
theorem lowerCondT_sound (F : FloatOps) (I : JIntrinsics) (db ab diff fuel g lg : Nat) (t : Int) (mask : Nat) (kw : Kw) (e : SExpr)
    (tgt : Goto) (code : List JStmt) (g' lg' : Nat) (s : JM) (n : Int32)
    (hm : maskOn mask diff = true) (hi : IntT e) (hb : belowT g e) (hs : IntStore s.m.store)
    (hev : evalS F diff s.m.store e = .ok (.int n)) (ht : s.m.time = t) (htl : tgt.l < lg)
    (h : lowerCondJ I db ab fuel g lg t mask kw e tgt = .ok (code, g', lg')) :
    RunCond F diff g tgt (kw.takes (n != 0)) s code :=
  (soundT F I db ab diff fuel).cond hm hi hb hs hev ht htl h

/-- an operand computed into a temporary (`define_temporary`), with ternaries at any depth -/
theorem lowerTempT_sound {F : FloatOps} {I : JIntrinsics} {db ab diff fuel g lg : Nat} {t : Int} {mask : Nat} {e : SExpr}
    {O : OperandJ} {s : JM} {val : Value} (hm : maskOn mask diff = true) (hi : IntT e) (hb : belowT g e)
    (hs : IntStore s.m.store) (hev : evalS F diff s.m.store e = .ok val) (ht : s.m.time = t)
    (h : lowerTempJ I db ab fuel g lg t mask e = .ok O) : g ≤ O.gen ∧ RunTemp F diff g s O val :=
  ⟨((shapeAt _ _ _ _).temp h).le_gen, (soundT F I db ab diff fuel).temp hm hi hb hs hev ht h⟩

end TruthModel.C02
