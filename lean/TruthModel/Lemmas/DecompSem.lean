/-
C07, semantic half, assembly: the four passes of `postprocess` in sequence preserve the resolved code
of a flat block (`passes_den`), for `pos` = where the labels of the flat block stand and `f` = the
code index of every statement of the flat block.
-/
import TruthModel.Lemmas.DecompLower
import TruthModel.Lemmas.DecompLoopSem
import TruthModel.Lemmas.DecompChainSem
import TruthModel.Lemmas.DecompBreakSem
namespace TruthModel.Decomp
open List

theorem denL_flat (pos : Nat → Option Nat) {ss : Block} (hflat : Flat ss) (o : Nat) :
    denL pos none ss o = resolveWith pos (atomsL ss) := by
  induction ss generalizing o with
  | nil => simp
  | cons s rest ih =>
    obtain ⟨d, a, rfl⟩ := hflat s (List.mem_cons_self ..)
    have hr : Flat rest := fun x hx => hflat x (List.mem_cons_of_mem _ hx)
    have h1 := resolveWith_lowAtom pos none d a
    rw [lowAtom_none] at h1
    simp only [denL_cons, denS_atom, atomsL_cons, atoms_atom, ih hr]
    rw [resolveWith_append, h1]; rfl

theorem labsF_atomsL_flat {ss : Block} (hflat : Flat ss) : labsF (atomsL ss) = labelsL ss := by
  induction ss with
  | nil => rfl
  | cons s rest ih =>
    obtain ⟨d, a, rfl⟩ := hflat s (List.mem_cons_self ..)
    have hr : Flat rest := fun x hx => hflat x (List.mem_cons_of_mem _ hx)
    simp only [atomsL_cons, atoms_atom, labelsL_cons, labsF_append, ih hr]
    congr 1
    cases a <;> rfl

theorem flat_inv (pos : Nat → Option Nat) (f : Nat → Nat) {ss : Block} (hflat : Flat ss) (o : Nat)
    (hp : Placed pos (atomsL ss) o) : InvL pos f ss o := by
  induction ss generalizing o with
  | nil => simp
  | cons s rest ih =>
    obtain ⟨d, a, rfl⟩ := hflat s (List.mem_cons_self ..)
    have hr : Flat rest := fun x hx => hflat x (List.mem_cons_of_mem _ hx)
    simp only [atomsL_cons, atoms_atom, List.singleton_append] at hp
    rw [InvL_cons]
    cases a with
    | label l =>
      rw [placed_lab] at hp
      exact ⟨hp.1, ih hr o hp.2⟩
    | _ => exact ⟨trivial, ih hr _ ((placed_code rfl).mp hp)⟩

theorem passes_den {ss a b : Block} (hflat : Flat ss) (hnd : (labelsL ss).Nodup) (hnb : NoBrkA (atomsL ss))
    (ha : decompileLoop ss = .ok a) (hb : decompileIfElse a = .ok b) :
    denL (ctgt (atomsL ss)) none (removeUnusedLabels (decompileBreak b)) 0 = resolve (atomsL ss) ∧
    InvL (ctgt (atomsL ss)) (fun c => clenL (ss.take c)) (removeUnusedLabels (decompileBreak b)) 0 := by
  have hpl : Placed (ctgt (atomsL ss)) (atomsL ss) 0 := placed_ctgt (by rw [labsF_atomsL_flat hflat]; exact hnd)
  have hinv0 := flat_inv (ctgt (atomsL ss)) (fun c => clenL (ss.take c)) hflat 0 hpl
  have r1 := decompileLoop_sem hflat (fun _ => rfl) hinv0 hnb ha
  have r2 := decompileIfElse_sem hb r1.inv
  have r3 := decompileBreak_sem r2.inv
  have r4 := unusedL_sem (refcount (decompileBreak b)) (decompileBreak b) 0 r3.inv
  have r := ((r1.trans r2).trans r3).trans r4
  exact ⟨(r.den none).trans (denL_flat _ hflat 0), r.inv⟩

end TruthModel.Decomp
