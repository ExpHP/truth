import TruthModel.Model.Basic
/-
The models write `x?` as a `match` that passes `err` and `panic` on.  Lean makes one matcher per closed
type of scrutinee, and compares two `match`es by comparing their matchers as functions, so a lemma stated
with a `match` over an arbitrary `Outcome α` never unifies with a model's.  `Binds x f m` is the graph of
that `match`; the lemmas about `?` are about it, and each type of scrutinee contributes one lemma
`bindT : Binds x f (match x with | .ok a => f a | .err c => .err c | .panic s => .panic s)`,
proved by `⟨by rintro a rfl; rfl, by rintro c rfl; rfl, by rintro s rfl; rfl⟩`.  Applied to a
hypothesis about a model function as it stands, `bindT.inv h` unfolds the function (one that Lean compiles by
well-founded recursion is irreducible and wants `rw [f] at h` first: the lowering functions of `Model/LowerJumps`).
The `match` of `bindT` has to repeat the
model's: its arm order, and a tuple pattern with `f` curried (`| .ok (c, g) => f c g`, `Binds x (fun r => f r.1 r.2) ..`), so a
type of scrutinee may need more than one (`bindCode` in `Lemmas/LowerShape`, `bindBlock` / `bindBlock'` in `Lemmas/Decomp`).
-/
namespace TruthModel

structure Binds {α β} (x : Outcome α) (f : α → Outcome β) (m : Outcome β) : Prop where
  ok : ∀ a, x = .ok a → m = f a
  err : ∀ c, x = .err c → m = .err c
  panic : ∀ s, x = .panic s → m = .panic s

section
variable {α β : Type} {x : Outcome α} {f : α → Outcome β} {m : Outcome β} (hb : Binds x f m)
include hb

theorem Binds.inv {b : β} (h : m = .ok b) : ∃ a, x = .ok a ∧ f a = .ok b := by
  cases hx : x with
  | ok a => exact ⟨a, rfl, (hb.ok a hx).symm.trans h⟩
  | err c => exact nomatch (hb.err c hx).symm.trans h
  | panic s => exact nomatch (hb.panic s hx).symm.trans h

theorem Binds.step (P : Outcome β → Prop) (herr : ∀ c, P (.err c)) (hx : ∀ s, x ≠ .panic s)
    (hf : ∀ a, x = .ok a → P (f a)) : P m := by
  cases h : x with
  | ok a => exact hb.ok a h ▸ hf a h
  | err c => exact hb.err c h ▸ herr c
  | panic s => exact absurd h (hx s)

theorem Binds.np (hx : ∀ s, x ≠ .panic s) (hf : ∀ a, x = .ok a → ∀ s, f a ≠ .panic s)
    (s : String) : m ≠ .panic s :=
  hb.step (· ≠ .panic s) (fun _ h => nomatch h) hx fun a h => hf a h s

end

section
variable {β : Type} {x : Outcome Unit} {y m : Outcome β} (hb : Binds x (fun _ => y) m)
include hb

theorem Binds.invUnit {b : β} (h : m = .ok b) : x = .ok () ∧ y = .ok b :=
  (hb.inv h).elim fun _ h => h

theorem Binds.npUnit (hx : ∀ s, x ≠ .panic s) (hy : x = .ok () → ∀ s, y ≠ .panic s) :
    ∀ s, m ≠ .panic s :=
  hb.np hx fun _ => hy

end

end TruthModel
