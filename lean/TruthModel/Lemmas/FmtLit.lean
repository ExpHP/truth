import TruthModel.Model.Fmt
/-
C08, the literal layer (`Model/Fmt.lean`), for all inputs: a printed integer literal (every `IntFormat`,
every `v : Int32`, `i32::MIN` and the `0xffffffff` style of the unsigned formats included) lexes and
evaluates back to `v`; a printed string literal is one string token that `parse_string_literal` turns
back into its characters; and the token-glue defect of the formatter (fmt.rs 900-902 writes a prefix
operator directly in front of its operand), with concrete witnesses.  `lexF` is `lex` over the table of fixed
tokens written out (`lex_eq`): the concrete runs of the lexer here and in the modules that import this one are
evaluated through it.
-/
namespace TruthModel.C08
open TruthModel TruthModel.Fmt

theorem exists_add_one_of_le {a f : Nat} (h : a + 1 ≤ f) : ∃ f', f = f' + 1 :=
  Nat.exists_eq_add_one_of_ne_zero (Nat.ne_of_gt (Nat.lt_of_lt_of_le (Nat.succ_pos a) h))

theorem digitVal_digitChar : ∀ d, d < 16 → digitVal (digitChar d) = some d := by decide +kernel

theorem natDigitsAux_fuel {b : Nat} (hb : 2 ≤ b) (n : Nat) :
    ∀ fuel, n ≤ fuel → natDigitsAux b fuel n = natDigitsAux b n n := by
  induction n using Nat.strongRecOn with
  | _ n ih =>
    intro fuel hf
    by_cases hlt : n < b
    · cases fuel with
      | zero =>
        have : n = 0 := Nat.le_zero.mp hf
        subst this; rfl
      | succ f =>
        cases n with
        | zero => simp [natDigitsAux, hlt]
        | succ m => simp [natDigitsAux, hlt]
    · have hn : 1 + 1 ≤ n := Nat.le_trans hb (Nat.not_lt.mp hlt)
      obtain ⟨f, rfl⟩ := exists_add_one_of_le (Nat.le_trans hn hf)
      obtain ⟨m, rfl⟩ := exists_add_one_of_le hn
      have hdiv : (m + 1) / b < m + 1 := Nat.div_lt_self (Nat.succ_pos m) hb
      simp only [natDigitsAux, hlt, if_false]
      rw [ih _ hdiv f (Nat.le_of_lt_succ (Nat.lt_of_lt_of_le hdiv hf)), ih _ hdiv m (Nat.le_of_lt_succ hdiv)]

theorem natDigits_lt {b n : Nat} (h : n < b) : natDigits b n = [digitChar n] := by
  unfold natDigits
  cases n with
  | zero => rfl
  | succ m => simp [natDigitsAux, h]

theorem natDigits_ge {b n : Nat} (hb : 2 ≤ b) (h : b ≤ n) :
    natDigits b n = natDigits b (n / b) ++ [digitChar (n % b)] := by
  unfold natDigits
  obtain ⟨m, rfl⟩ := exists_add_one_of_le (a := 1) (Nat.le_trans hb h)
  have hdiv : (m + 1) / b < m + 1 := Nat.div_lt_self (Nat.succ_pos m) hb
  simp only [natDigitsAux, Nat.not_lt.mpr h, if_false]
  rw [natDigitsAux_fuel hb _ m (Nat.le_of_lt_succ hdiv)]

theorem natDigits_induction {b : Nat} (hb : 2 ≤ b) (P : Nat → List Char → Prop)
    (base : ∀ n, n < b → P n [digitChar n])
    (step : ∀ n, b ≤ n → P (n / b) (natDigits b (n / b)) →
      P n (natDigits b (n / b) ++ [digitChar (n % b)])) :
    ∀ n, P n (natDigits b n) := by
  intro n
  induction n using Nat.strongRecOn with
  | _ n ih =>
    by_cases hlt : n < b
    · rw [natDigits_lt hlt]; exact base n hlt
    · have hge : b ≤ n := Nat.not_lt.mp hlt
      rw [natDigits_ge hb hge]
      exact step n hge (ih _ (Nat.div_lt_self (Nat.lt_of_lt_of_le (Nat.zero_lt_of_lt hb) hge) hb))

theorem parseDigits_natDigits {b : Nat} (hb : 2 ≤ b) (hb16 : b ≤ 16) (n : Nat) :
    ∀ ys, parseDigitsFrom b 0 (natDigits b n ++ ys) = parseDigitsFrom b n ys := by
  refine natDigits_induction hb (fun n ds => ∀ ys, parseDigitsFrom b 0 (ds ++ ys) = parseDigitsFrom b n ys) ?_ ?_ n
  · intro n hn ys
    simp [parseDigitsFrom, digitVal_digitChar n (Nat.lt_of_lt_of_le hn hb16), hn]
  · intro n hn ih ys
    have hm : n % b < b := Nat.mod_lt _ (Nat.zero_lt_of_lt hb)
    rw [List.append_assoc, ih]
    simp only [List.cons_append, List.nil_append, parseDigitsFrom, digitVal_digitChar (n % b) (Nat.lt_of_lt_of_le hm hb16), hm, if_true]
    rw [Nat.mul_comm, Nat.div_add_mod]

theorem natDigits_mem {b : Nat} (hb : 2 ≤ b) (n : Nat) :
    ∀ c ∈ natDigits b n, ∃ d, d < b ∧ c = digitChar d := by
  refine natDigits_induction hb (fun _ ds => ∀ c ∈ ds, ∃ d, d < b ∧ c = digitChar d) ?_ ?_ n
  · intro n hn c hc
    simp at hc
    exact ⟨n, hn, hc⟩
  · intro n _ ih c hc
    rcases List.mem_append.mp hc with h | h
    · exact ih c h
    · simp at h
      exact ⟨n % b, Nat.mod_lt _ (Nat.zero_lt_of_lt hb), h⟩

theorem natDigits_ne_nil {b : Nat} (hb : 2 ≤ b) (n : Nat) : natDigits b n ≠ [] := by
  refine natDigits_induction hb (fun _ ds => ds ≠ []) ?_ ?_ n
  · intro n _; simp
  · intro n _ _; simp

theorem isDigit_digitChar : ∀ d, d < 10 → isDigit (digitChar d) = true := by decide +kernel
theorem isHex_digitChar : ∀ d, d < 16 → isHex (digitChar d) = true := by decide +kernel
theorem isBin_digitChar : ∀ d, d < 2 → isBin (digitChar d) = true := by decide +kernel

theorem natDigits_all {b : Nat} (hb : 2 ≤ b) {p : Char → Bool} (hp : ∀ d, d < b → p (digitChar d) = true) (n : Nat) :
    ∀ c ∈ natDigits b n, p c = true := by
  intro c hc
  obtain ⟨d, hd, rfl⟩ := natDigits_mem hb n c hc
  exact hp d hd

theorem isDigit_isHex {c : Char} (h : isDigit c = true) : isHex c = true := by simp [isHex, h]
theorem isBin_isHex {c : Char} (h : isBin c = true) : isHex c = true := by
  simp only [isBin, Bool.or_eq_true, beq_iff_eq] at h
  rcases h with rfl | rfl <;> decide +kernel

theorem fromStrRadix_natDigits {b : Nat} (hb : 2 ≤ b) (hb16 : b ≤ 16) (n : Nat) (hn : n < 4294967296) :
    fromStrRadixU32 b (natDigits b n) = some (UInt32.ofNat n) := by
  have hne := natDigits_ne_nil hb n
  have hhex := natDigits_all hb (fun d hd => isHex_digitChar d (Nat.lt_of_lt_of_le hd hb16)) n
  have hparse := parseDigits_natDigits hb hb16 n []
  simp only [List.append_nil, parseDigitsFrom] at hparse
  cases hds : natDigits b n with
  | nil => exact absurd hds hne
  | cons c t =>
    have hc : isHex c = true := hhex c (by rw [hds]; simp)
    have hplus : c ≠ '+' := by
      intro h; subst h; revert hc; decide +kernel
    have hminus : c ≠ '-' := by
      intro h; subst h; revert hc; decide +kernel
    rw [hds] at hparse
    simp [fromStrRadixU32, hplus, hminus, stripPlus, hparse, hn]

theorem spanLen_all (p : Char → Bool) (s : List Char) (h : ∀ c ∈ s, p c = true) : spanLen p s = s.length := by
  induction s with
  | nil => rfl
  | cons c cs ih =>
    have hc : p c = true := h c (by simp)
    have := ih (fun x hx => h x (by simp [hx]))
    simp [spanLen, hc, this]

/-- `s` is lexed as exactly one INT token when it is at the head of the input and ends it -/
structure IntTokStr (s : List Char) : Prop where
  ne : s ≠ []
  nows : ∀ h t, s = h :: t → isWs h = false
  one : lexOne s = .tok (.int s) s.length

theorem lexAll_single {c : Char} {cs : List Char} {t : Tok} (hws : isWs c = false)
    (h1 : lexOne (c :: cs) = .tok t (c :: cs).length) (f : Nat) : lexAll (f + 2) (c :: cs) = ([t], .eof) := by
  have hd : dropWs (c :: cs) = c :: cs := by simp [dropWs, hws]
  rw [show f + 2 = (f + 1) + 1 from rfl, lexAll, hd]
  simp only [h1, List.drop_length]
  rw [lexAll]
  simp [dropWs]

theorem lexAll_intTok {s : List Char} (h : IntTokStr s) (f : Nat) : lexAll (f + 2) s = ([.int s], .eof) := by
  cases hs : s with
  | nil => exact absurd hs h.ne
  | cons c cs => exact lexAll_single (h.nows c cs hs) (hs ▸ h.one) f

theorem lex_intTok {s : List Char} (h : IntTokStr s) : lex s = ([.int s], .eof) := by
  cases hs : s with
  | nil => exact absurd hs h.ne
  | cons c cs =>
    have := lexAll_intTok h cs.length
    rw [hs] at this
    exact this

theorem isDigit_mem {c : Char} (h : isDigit c = true) : c ∈ ['0', '1', '2', '3', '4', '5', '6', '7', '8', '9'] := by
  simpa [isDigit] using h

/-- what the lexer rules other than INT see in a decimal digit -/
theorem digit_facts : ∀ c ∈ ['0', '1', '2', '3', '4', '5', '6', '7', '8', '9'],
    isWs c = false ∧ c ≠ '/' ∧ isPunctStart c = false ∧ ¬ (c = 'x' ∨ c = 'X') ∧ ¬ (c = 'b' ∨ c = 'B') ∧
    isIdentStart c = false ∧ c ≠ '!' ∧ c ≠ '"' ∧ c ≠ '=' ∧ c ≠ '-' := by decide +kernel

theorem lexOne_of_lens {s : List Char} (hne : s ≠ [])
    (hc : ∀ t, s ≠ '/' :: t) (hp : punctLen s = 0) (hi : intLen s = s.length) (hf : floatLen s = 0)
    (hw : wordLen s = 0) (hd : diffLen s = 0) (hq : strLen s = 0) :
    lexOne s = .tok (.int s) s.length := by
  have hlen : s.length ≠ 0 := by
    cases s with
    | nil => exact absurd rfl hne
    | cons _ _ => simp
  unfold lexOne
  split
  · rename_i t; exact absurd rfl (hc _)
  · rename_i t; exact absurd rfl (hc _)
  · simp only [hp, hi, hf, hw, hd, hq, Nat.max_zero, Nat.zero_max]
    simp [hlen, Ne.symm hlen, List.take_length]

theorem intTok_dec {ds : List Char} (hne : ds ≠ []) (hall : ∀ c ∈ ds, isDigit c = true) : IntTokStr ds := by
  cases hds : ds with
  | nil => exact absurd hds hne
  | cons c cs =>
    have hc : isDigit c = true := hall c (by rw [hds]; simp)
    have hall' : ∀ x ∈ c :: cs, isDigit x = true := by rw [← hds]; exact hall
    obtain ⟨hws, hsl, hps, _, _, hid, hbang, hq, _, _⟩ := digit_facts c (isDigit_mem hc)
    refine ⟨by simp, ?_, ?_⟩
    · intro h t heq
      cases heq
      exact hws
    · have hspan : spanLen isDigit (c :: cs) = (c :: cs).length := spanLen_all _ _ hall'
      apply lexOne_of_lens (by simp)
      · intro t heq
        cases heq
        exact hsl rfl
      · simp [punctLen, hps]
      · -- the `0x` / `0b` alternative needs a non-digit second character
        unfold intLen
        rw [hspan]
        split
        · rename_i c' r heq
          cases heq
          obtain ⟨_, _, _, hx, hb, _⟩ := digit_facts c' (isDigit_mem (hall' c' (by simp)))
          simp [hx, hb]
        · simp
      · unfold floatLen
        simp only [hspan, List.drop_length]
        simp
      · simp [wordLen, hid]
      · simp [diffLen, hbang]
      · simp [strLen, hq]

theorem intTok_radix {x : Char} {hs : List Char} (p : Char → Bool)
    (hx : (x = 'x' ∧ p = isHex) ∨ (x = 'b' ∧ p = isBin))
    (hne : hs ≠ []) (hall : ∀ c ∈ hs, p c = true) : IntTokStr ('0' :: x :: hs) := by
  have hspan : spanLen p hs = hs.length := spanLen_all _ _ hall
  have hlen : hs.length ≠ 0 := by
    cases hs with
    | nil => exact absurd rfl hne
    | cons _ _ => simp
  refine ⟨by simp, ?_, ?_⟩
  · intro h t heq
    simp at heq
    rw [← heq.1]; decide +kernel
  · have hz : isDigit '0' = true := by decide +kernel
    have h0 : isDigit x = false := by rcases hx with ⟨rfl, _⟩ | ⟨rfl, _⟩ <;> decide +kernel
    apply lexOne_of_lens (by simp)
    · intro t heq; simp at heq
    · have : isPunctStart '0' = false := by decide +kernel
      simp [punctLen, this]
    · rcases hx with ⟨rfl, rfl⟩ | ⟨rfl, rfl⟩ <;> simp [intLen, spanLen, h0, hz, hspan, hlen]
    · rcases hx with ⟨rfl, _⟩ | ⟨rfl, _⟩ <;> simp [floatLen, spanLen, h0, hz]
    · have : isIdentStart '0' = false := by decide +kernel
      simp [wordLen, this]
    · simp [diffLen]
    · simp [strLen]

/-- a fixed token that is a prefix of `c :: r` starts with `c`: the others leave the fold of
`punctLen` unchanged -/
theorem foldl_prefix_filter (c : Char) (r : List Char) (tbl : List (List Char)) (b : Nat) :
    tbl.foldl (fun best t => if t.isPrefixOf (c :: r) && best < t.length then t.length else best) b =
    (tbl.filter (·.head? == some c)).foldl
      (fun best t => if t.isPrefixOf (c :: r) && best < t.length then t.length else best) b := by
  induction tbl generalizing b with
  | nil => rfl
  | cons t ts ih =>
    by_cases h : (t.head? == some c) = true
    · simp only [List.filter_cons, h, if_true, List.foldl_cons]
      exact ih _
    · simp only [List.filter_cons, h, if_false, List.foldl_cons, Bool.false_eq_true]
      rw [← ih]
      congr 1
      cases t with
      | nil => simp
      | cons a t' =>
        have : (a == c) = false := by simpa using h
        simp [List.isPrefixOf, this]

/-- `punctTable` written out.  The kernel decodes the fifty string literals of `punctTable` again in every
declaration that evaluates the lexer; `punctTable_eq` is that evaluation, done once. -/
def punctList : List (List Char) :=
  [[','], ['?'], [':'], [';'], ['['], [']'], ['{'], ['}'], ['('], [')'], ['@'], ['.', '.', '.'], ['.'], ['='], ['+'], ['-'],
   ['*'], ['/'], ['%'], ['^'], ['|'], ['&'], ['~'], ['+', '='], ['-', '='], ['*', '='], ['/', '='], ['%', '='], ['^', '='],
   ['|', '='], ['&', '='], ['=', '='], ['!', '='], ['<'], ['<', '='], ['>'], ['>', '='], ['<', '<'], ['>', '>'],
   ['>', '>', '>'], ['<', '<', '='], ['>', '>', '='], ['>', '>', '>', '='], ['!'], ['|', '|'], ['&', '&'], ['-', '-'],
   ['+', '+'], ['$'], ['#']]

theorem punctTable_eq : punctTable = punctList := by decide +kernel

def punctLenF : List Char → Nat
  | [] => 0
  | c :: r =>
    if isPunctStart c then
      (punctList.filter (·.head? == some c)).foldl
        (fun best t => if t.isPrefixOf (c :: r) && best < t.length then t.length else best) 0
    else 0

theorem punctLen_eq (s : List Char) : punctLen s = punctLenF s := by
  cases s with
  | nil => rfl
  | cons c r => rw [punctLenF, ← punctTable_eq, ← foldl_prefix_filter]; rfl

/-! The lexer with `punctLenF` for `punctLen`: what a kernel evaluation of `lex` is handed (`rw [lex_eq]`). -/

def lexOneF (s : List Char) : LexStep :=
  match s with
  | '/' :: '/' :: _ => .comment
  | '/' :: '*' :: _ => .comment
  | _ =>
    let p := punctLenF s
    let i := intLen s
    let f := floatLen s
    let w := wordLen s
    let d := diffLen s
    let q := strLen s
    let best := max p (max i (max f (max w (max d q))))
    if best = 0 then .invalid
    else if p = best then .tok (.punct (s.take best)) best
    else if f = best then .tok (.float (s.take best)) best
    else if i = best then .tok (.int (s.take best)) best
    else if w = best then .tok (.word (s.take best)) best
    else if d = best then .tok (.difficulty (s.take best)) best
    else .tok (.str (s.take best)) best

theorem lexOne_eq (s : List Char) : lexOne s = lexOneF s := by
  unfold lexOne lexOneF
  split
  · rfl
  · rfl
  · rename_i h1 h2
    split
    · exact absurd rfl (h1 _)
    · exact absurd rfl (h2 _)
    · simp only [punctLen_eq]

def lexAllF : Nat → List Char → List Tok × LexEnd
  | 0, _ => ([], .fuel)
  | fuel + 1, s =>
    match dropWs s with
    | [] => ([], .eof)
    | c :: cs =>
      match lexOneF (c :: cs) with
      | .invalid => ([], .invalid)
      | .comment => ([], .comment)
      | .tok t n =>
        let r := lexAllF fuel ((c :: cs).drop n)
        (t :: r.1, r.2)

theorem lexAll_eq (f : Nat) (s : List Char) : lexAll f s = lexAllF f s := by
  induction f generalizing s with
  | zero => rfl
  | succ f ih =>
    rw [lexAll, lexAllF]
    cases dropWs s with
    | nil => rfl
    | cons c cs =>
      simp only [lexOne_eq]
      cases lexOneF (c :: cs) <;> simp only [ih]

def lexF (s : List Char) : List Tok × LexEnd := lexAllF (s.length + 1) s

theorem lex_eq (s : List Char) : lex s = lexF s := lexAll_eq _ s

theorem evalLiteral_eq (s : List Char) :
    evalLiteral s = match lexF s with
      | (toks, .eof) => evalLitTokens toks
      | _ => .other := by
  unfold evalLiteral; rw [lex_eq]; rfl

theorem punctLen_minus (d : Char) (t : List Char) :
    punctLen ('-' :: d :: t) = if d = '=' ∨ d = '-' then 2 else 1 := by
  have hs : isPunctStart '-' = true := by decide +kernel
  have ht : punctList.filter (·.head? == some '-') = [['-'], ['-', '='], ['-', '-']] := by decide +kernel
  rw [punctLen_eq, punctLenF, hs, ht]
  by_cases h1 : d = '='
  · subst h1; simp
  · by_cases h2 : d = '-'
    · subst h2; simp
    · simp [h1, h2, Ne.symm h1, Ne.symm h2]

theorem punctLen_bang (c : Char) (t : List Char) : punctLen ('!' :: c :: t) = if c = '=' then 2 else 1 := by
  have hs : isPunctStart '!' = true := by decide +kernel
  have ht : punctList.filter (·.head? == some '!') = [['!', '='], ['!']] := by decide +kernel
  rw [punctLen_eq, punctLenF, hs, ht]
  by_cases h1 : c = '='
  · subst h1; simp
  · simp [h1, Ne.symm h1]

theorem lexOne_minus {d : Char} {t : List Char} (h1 : d ≠ '=') (h2 : d ≠ '-') :
    lexOne ('-' :: d :: t) = .tok (.punct ['-']) 1 := by
  simp [lexOne, punctLen_minus, intLen, floatLen, wordLen, diffLen, strLen, spanLen, isDigit, isIdentStart, h1, h2]

theorem lexAll_minus {d : Char} {t : List Char} (h1 : d ≠ '=') (h2 : d ≠ '-') (f : Nat) :
    lexAll (f + 1) ('-' :: d :: t) = (.punct ['-'] :: (lexAll f (d :: t)).1, (lexAll f (d :: t)).2) := by
  have hws : isWs '-' = false := by decide +kernel
  have hd : dropWs ('-' :: d :: t) = '-' :: d :: t := by simp [dropWs, hws]
  rw [lexAll, hd]
  simp only [lexOne_minus h1 h2, List.drop_succ_cons, List.drop_zero]

theorem lex_minus_intTok {s : List Char} (h : IntTokStr s) (h1 : ∀ d t, s = d :: t → d ≠ '=' ∧ d ≠ '-') :
    lex ('-' :: s) = ([.punct ['-'], .int s], .eof) := by
  cases hs : s with
  | nil => exact absurd hs h.ne
  | cons d t =>
    obtain ⟨a, b⟩ := h1 d t hs
    unfold lex
    have hl : ('-' :: d :: t).length + 1 = (t.length + 2) + 1 := by simp
    rw [hl, lexAll_minus a b]
    have := lexAll_intTok h t.length
    rw [hs] at this
    rw [this]

theorem litIntUnsigned_dec (n : Nat) (hn : n < 4294967296) :
    litIntUnsigned (natDigits 10 n) = some (UInt32.ofNat n).toInt32 := by
  have hall := natDigits_all (by decide) isDigit_digitChar n
  have hfs := fromStrRadix_natDigits (b := 10) (by decide) (by decide) n hn
  unfold litIntUnsigned parseU32Literal
  split
  · rename_i r heq; exact absurd (hall 'x' (by rw [heq]; simp)) (by decide +kernel)
  · rename_i r heq; exact absurd (hall 'X' (by rw [heq]; simp)) (by decide +kernel)
  · rename_i r heq; exact absurd (hall 'b' (by rw [heq]; simp)) (by decide +kernel)
  · rename_i r heq; exact absurd (hall 'B' (by rw [heq]; simp)) (by decide +kernel)
  · simp [hfs]

theorem litIntUnsigned_hex (n : Nat) (hn : n < 4294967296) :
    litIntUnsigned ('0' :: 'x' :: natDigits 16 n) = some (UInt32.ofNat n).toInt32 := by
  simp [litIntUnsigned, parseU32Literal, fromStrRadix_natDigits (b := 16) (by decide) (by decide) n hn]

theorem litIntUnsigned_bin (n : Nat) (hn : n < 4294967296) :
    litIntUnsigned ('0' :: 'b' :: natDigits 2 n) = some (UInt32.ofNat n).toInt32 := by
  simp [litIntUnsigned, parseU32Literal, fromStrRadix_natDigits (b := 2) (by decide) (by decide) n hn]

theorem uval_lt (v : Int32) : uval v < 4294967296 := by
  have := UInt32.toNat_lt v.toUInt32
  simpa [uval] using this

theorem ofNat_uval (v : Int32) : (UInt32.ofNat (uval v)).toInt32 = v := by
  simp [uval, UInt32.ofNat_toNat, Int32.toInt32_toUInt32]

theorem head_dec (n : Nat) : ∀ d t, natDigits 10 n = d :: t → d ≠ '=' ∧ d ≠ '-' := by
  intro d t h
  have hd : isDigit d = true := natDigits_all (by decide) isDigit_digitChar n d (by rw [h]; simp)
  obtain ⟨_, _, _, _, _, _, _, _, heq, hminus⟩ := digit_facts d (isDigit_mem hd)
  exact ⟨heq, hminus⟩

theorem head_zero (x : Char) (r : List Char) : ∀ d t, '0' :: x :: r = d :: t → d ≠ '=' ∧ d ≠ '-' := by
  intro d t h
  simp at h
  rw [← h.1]; decide +kernel

/-- `s` is the text of the magnitude of a printed number: one INT token that a `-` in front of it
does not fuse with, and that the literal rule reads as `v` -/
structure Mag (s : List Char) (v : Int32) : Prop where
  tok : IntTokStr s
  head : ∀ d t, s = d :: t → d ≠ '=' ∧ d ≠ '-'
  val : litIntUnsigned s = some v

theorem mag_dec (v : Int32) : Mag (natDigits 10 (uval v)) v :=
  ⟨intTok_dec (natDigits_ne_nil (by decide) _) (natDigits_all (by decide) isDigit_digitChar _), head_dec _,
    by rw [litIntUnsigned_dec _ (uval_lt v), ofNat_uval]⟩

theorem mag_hex (v : Int32) : Mag ('0' :: 'x' :: natDigits 16 (uval v)) v :=
  ⟨intTok_radix isHex (Or.inl ⟨rfl, rfl⟩) (natDigits_ne_nil (by decide) _) (natDigits_all (by decide) isHex_digitChar _), head_zero _ _,
    by rw [litIntUnsigned_hex _ (uval_lt v), ofNat_uval]⟩

theorem mag_bin (v : Int32) : Mag ('0' :: 'b' :: natDigits 2 (uval v)) v :=
  ⟨intTok_radix isBin (Or.inr ⟨rfl, rfl⟩) (natDigits_ne_nil (by decide) _) (natDigits_all (by decide) isBin_digitChar _), head_zero _ _,
    by rw [litIntUnsigned_bin _ (uval_lt v), ofNat_uval]⟩

theorem Mag.head_ne {s : List Char} {v : Int32} (h : Mag s v) : s.head? ≠ some '-' := by
  cases hs : s with
  | nil => simp
  | cons d t => simpa using (h.head d t hs).2

/-- `impl Format for ast::Expr`, arm `LitInt`, read as one rule: a printed integer literal is `false`,
`true`, or a magnitude with a `-` in front of it for a negative value in a signed format -/
theorem printInt_cases (f : IntFormat) (v : Int32) :
    (f.radix = .bool ∧ v = 0 ∧ printInt f v = ['f', 'a', 'l', 's', 'e']) ∨
    (f.radix = .bool ∧ v = 1 ∧ printInt f v = ['t', 'r', 'u', 'e']) ∨
    (¬ (f.radix = .bool ∧ v = 0) ∧ ¬ (f.radix = .bool ∧ v = 1) ∧ ∃ m : Int32 → List Char, (∀ w, Mag (m w) w) ∧
      printInt f v = if f.signed = true ∧ v.toInt < 0 then '-' :: m (-v) else m v) := by
  obtain ⟨signed, radix⟩ := f
  cases radix with
  | bool =>
    by_cases h0 : v = 0
    · exact Or.inl ⟨rfl, h0, by simp [printInt, h0]⟩
    by_cases h1 : v = 1
    · exact Or.inr (Or.inl ⟨rfl, h1, by simp [printInt, h1]⟩)
    refine Or.inr (Or.inr ⟨fun h => h0 h.2, fun h => h1 h.2, ?_⟩)
    cases signed
    · exact ⟨_, mag_hex, by simp [printInt, h0, h1]⟩
    · exact ⟨_, mag_dec, by simp [printInt, h0, h1, printI32]⟩
  | dec =>
    refine Or.inr (Or.inr ⟨(nomatch ·.1), (nomatch ·.1), ?_⟩)
    cases signed
    · exact ⟨_, mag_dec, by simp [printInt]⟩
    · exact ⟨_, mag_dec, by simp [printInt, printI32]⟩
  | hex =>
    refine Or.inr (Or.inr ⟨(nomatch ·.1), (nomatch ·.1), ?_⟩)
    cases signed
    · exact ⟨_, mag_hex, by simp [printInt]⟩
    · exact ⟨_, mag_hex, by simp [printInt, signedRadix]⟩
  | bin =>
    refine Or.inr (Or.inr ⟨(nomatch ·.1), (nomatch ·.1), ?_⟩)
    cases signed
    · exact ⟨_, mag_bin, by simp [printInt]⟩
    · exact ⟨_, mag_bin, by simp [printInt, signedRadix]⟩

/-- **C08, integer literals.**  For every format (signed/unsigned x dec/hex/bin/bool) and every
`v : Int32`, lexing the printed text and applying the grammar's literal rules with sign folding
gives `v`. -/
theorem int_print_parse (f : IntFormat) (v : Int32) : evalLiteral (printInt f v) = .int v := by
  rcases printInt_cases f v with ⟨_, rfl, h⟩ | ⟨_, rfl, h⟩ | ⟨_, _, m, hm, h⟩
  · rw [h]; decide +kernel
  · rw [h]; decide +kernel
  · rw [h]
    split
    · have hn := hm (-v)
      simp [evalLiteral, lex_minus_intTok hn.tok hn.head, evalLitTokens, hn.val]
    · simp [evalLiteral, lex_intTok (hm v).tok, evalLitTokens, (hm v).val]

-- a string literal is `String.ofList` of its characters: rewriting with `String.toList_ofList` spares
-- the kernel the UTF-8 decoding that `String.toList` unfolds to
example : printInt ⟨true, .hex⟩ (-16) = "-0x10".toList := by rw [String.toList_ofList]; decide +kernel
example : printInt ⟨true, .hex⟩ (-2147483648) = "-0x80000000".toList := by rw [String.toList_ofList]; decide +kernel
example : printInt ⟨false, .hex⟩ (-48) = "0xffffffd0".toList := by rw [String.toList_ofList]; decide +kernel
example : printInt ⟨true, .bin⟩ (-4) = "-0b100".toList := by rw [String.toList_ofList]; decide +kernel
example : printInt ⟨false, .bool⟩ (-2) = "0xfffffffe".toList := by rw [String.toList_ofList]; decide +kernel
theorem printInt_min : printInt ⟨true, .dec⟩ (-2147483648) = "-2147483648".toList := by rw [String.toList_ofList]; decide +kernel
example : printInt ⟨true, .dec⟩ (-2147483648) = "-2147483648".toList := printInt_min
example : evalLiteral "-2147483648".toList = .int (-2147483648) := printInt_min ▸ int_print_parse ⟨true, .dec⟩ (-2147483648)
example : evalLiteral "4294967296".toList = .badInt := by rw [String.toList_ofList]; decide +kernel

theorem printInt_head_minus_iff (f : IntFormat) (v : Int32) :
    (printInt f v).head? = some '-' ↔ (f.signed = true ∧ v.toInt < 0) := by
  rcases printInt_cases f v with ⟨_, rfl, h⟩ | ⟨_, rfl, h⟩ | ⟨_, _, m, hm, h⟩
  · have h0 : (0 : Int32).toInt = 0 := by decide +kernel
    simp [h, h0]
  · have h1 : (1 : Int32).toInt = 1 := by decide +kernel
    simp [h, h1]
  · rw [h]
    split
    · rename_i hc; simp [hc]
    · rename_i hc; simp [hc, (hm v).head_ne]

theorem printInt_nonneg_no_minus (f : IntFormat) (v : Int32) (h : 0 ≤ v.toInt) :
    (printInt f v).head? ≠ some '-' := by
  intro hm
  exact Int.not_le.mpr ((printInt_head_minus_iff f v).mp hm).2 h

example : (0 : Int32).toInt ≥ 0 ∧ (printInt ⟨true, .dec⟩ 7).head? = some '7' := by decide +kernel

theorem lexOne_minus_minus (t : List Char) : lexOne ('-' :: '-' :: t) = .tok (.punct ['-', '-']) 2 := by
  simp [lexOne, punctLen_minus, intLen, floatLen, wordLen, diffLen, strLen, spanLen, isDigit, isIdentStart]

theorem evalLitTokens_minus_minus (r : List Tok) : evalLitTokens (.punct ['-', '-'] :: r) = .other := by
  rcases r with _ | ⟨t, _ | ⟨t', r'⟩⟩ <;> rfl

theorem printInt_neg_cons (f : IntFormat) (v : Int32) (hs : f.signed = true) (hv : v.toInt < 0) :
    ∃ t, printInt f v = '-' :: t :=
  List.head?_eq_some_iff.mp ((printInt_head_minus_iff f v).mpr ⟨hs, hv⟩)

theorem evalLiteral_other {s : List Char} {toks : List Tok} {e : LexEnd} (h : lex s = (toks, e))
    (ht : evalLitTokens toks = .other) : evalLiteral s = .other := by
  unfold evalLiteral
  rw [h]
  cases e with
  | eof => exact ht
  | _ => rfl

/-- **The unary-minus glue defect, all instances.**  For every signed format and every negative
`v`, the text that the formatter writes for `-(literal v)` — the operator immediately followed by
the printed literal — starts with the single token `--` (pre-decrement), and the literal rules
do not read it as a number.  So `print` is not injective into parseable text there; a space or
parentheses between the operator and an operand that starts with `-` would repair it. -/
theorem unary_glue_minus (f : IntFormat) (v : Int32) (hs : f.signed = true) (hv : v.toInt < 0) :
    (∃ r e, lex (printUnary '-' (printInt f v)) = (.punct ['-', '-'] :: r, e)) ∧
    evalLiteral (printUnary '-' (printInt f v)) = .other := by
  obtain ⟨t, ht⟩ := printInt_neg_cons f v hs hv
  have hl : lex (printUnary '-' ('-' :: t)) =
      (.punct ['-', '-'] :: (lexAll (t.length + 2) t).1, (lexAll (t.length + 2) t).2) := by
    have hws : isWs '-' = false := by decide +kernel
    simp [lex, printUnary, lexAll, dropWs, hws, lexOne_minus_minus]
  rw [ht]
  exact ⟨⟨_, _, hl⟩, evalLiteral_other hl (evalLitTokens_minus_minus _)⟩

/-- witness: `ins_200(I0, -3)` under a user intrinsic `UnOp(op="-")` decompiles to `I0 = --3;` (known finding
"operator-glued-to-operand minus-before-minus").  The third conjunct is the same text once more, written as the
source `-(-3)` without the parentheses the formatter leaves out. -/
theorem unary_glue_minus_witness :
    lex (printUnary '-' (printInt ⟨true, .dec⟩ (-3))) = ([.punct ['-', '-'], .int ['3']], .eof) ∧
    evalLiteral (printUnary '-' (printInt ⟨true, .dec⟩ (-3))) = .other ∧
    evalLiteral ("-(-3)".toList.filter (fun c => c != '(' && c != ')')) = .other := by
  repeat rw [String.toList_ofList]
  simp only [evalLiteral_eq, lex_eq]
  decide +kernel

example : (⟨true, .dec⟩ : IntFormat).signed = true ∧ (-3 : Int32).toInt < 0 := by decide +kernel

/-- source-level instance: `-2147483648` is `-(2147483648 as i32)` = `-(MIN)`, printed `--2147483648` -/
theorem unary_glue_min_witness :
    litIntUnsigned "2147483648".toList = some (-2147483648) ∧
    printUnary '-' (printInt ⟨true, .dec⟩ (-2147483648)) = "--2147483648".toList ∧
    evalLiteral "--2147483648".toList = .other := by
  repeat rw [String.toList_ofList]
  simp only [evalLiteral_eq]
  decide +kernel

/-- **The `!` glue defect.**  `!` directly followed by any of `-*ENHLWXYZO4567` is lexed as one
DifficultyStr token of at least two characters (a token no grammar rule accepts), not as the
operator `!`. -/
theorem unary_glue_not (c : Char) (t : List Char) (hc : isDiffChar c = true) :
    ∃ n, 2 ≤ n ∧ lexOne (printUnary '!' (c :: t)) = .tok (.difficulty (('!' :: c :: t).take n)) n := by
  refine ⟨spanLen isDiffChar t + 2, Nat.le_add_left 2 _, ?_⟩
  have hne : c ≠ '=' := by
    intro h; subst h; revert hc; decide +kernel
  have hd : isDigit '!' = false := by decide +kernel
  have hi : isIdentStart '!' = false := by decide +kernel
  simp [printUnary, lexOne, punctLen_bang, intLen, floatLen, wordLen, diffLen, strLen, spanLen, hc, hd, hi, hne]

/-- negative literals under `!` (`!-1`), literals starting with 4-7 (`!4`), identifiers starting
with one of `ENHLWXYZO` (`!Enemy`) -/
theorem unary_glue_not_witness :
    lex (printUnary '!' (printInt ⟨true, .dec⟩ (-1))) = ([.difficulty ['!', '-'], .int ['1']], .eof) ∧
    lex (printUnary '!' (printInt ⟨true, .dec⟩ 4)) = ([.difficulty ['!', '4']], .eof) ∧
    lex "!Enemy".toList = ([.difficulty ['!', 'E'], .word "nemy".toList], .eof) ∧
    evalLiteral (printUnary '!' (printInt ⟨true, .dec⟩ 4)) = .other := by
  repeat rw [String.toList_ofList]
  simp only [evalLiteral_eq, lex_eq]
  decide +kernel

example : isDiffChar '-' = true ∧ isDiffChar '4' = true ∧ isDiffChar 'E' = true := by decide +kernel

theorem unary_glue_not_negative (f : IntFormat) (v : Int32) (hs : f.signed = true) (hv : v.toInt < 0) :
    ∃ n s, 2 ≤ n ∧ lexOne (printUnary '!' (printInt f v)) = .tok (.difficulty s) n := by
  obtain ⟨t, ht⟩ := printInt_neg_cons f v hs hv
  obtain ⟨n, hn, h⟩ := unary_glue_not '-' t (by decide +kernel)
  rw [ht]
  exact ⟨n, _, hn, h⟩

theorem escapeChar_spec (c : Char) :
    (∃ x, escapeChar c = ['\\', x] ∧ unescapeChar x = some c ∧ x ≠ '\n') ∨
    (escapeChar c = [c] ∧ c ≠ '\\' ∧ c ≠ '"') := by
  by_cases h0 : c = '\x00'
  · subst h0; exact Or.inl ⟨'0', by decide +kernel⟩
  by_cases h1 : c = '"'
  · subst h1; exact Or.inl ⟨'"', by decide +kernel⟩
  by_cases h2 : c = '\\'
  · subst h2; exact Or.inl ⟨'\\', by decide +kernel⟩
  by_cases h3 : c = '\n'
  · subst h3; exact Or.inl ⟨'n', by decide +kernel⟩
  by_cases h4 : c = '\r'
  · subst h4; exact Or.inl ⟨'r', by decide +kernel⟩
  · exact Or.inr ⟨by simp only [escapeChar, h0, h1, h2, h3, h4, if_false], h2, h1⟩

theorem escapeBody_cons (c : Char) (cs : List Char) : escapeBody (c :: cs) = escapeChar c ++ escapeBody cs :=
  List.flatMap_cons

theorem unescapeLoop_escapeBody (s : List Char) :
    ∀ rest out, unescapeLoop (escapeBody s ++ rest) false out = unescapeLoop rest false (out ++ s) := by
  induction s with
  | nil => intro rest out; simp [escapeBody]
  | cons c cs ih =>
    intro rest out
    rw [escapeBody_cons, List.append_assoc]
    rcases escapeChar_spec c with ⟨x, hx, hu, _⟩ | ⟨hx, hb, _⟩
    · rw [hx]; simp [unescapeLoop, hu, ih]
    · rw [hx]; simp [unescapeLoop, hb, ih]

/-- **C08, strings**: `unescape (escape s) = s`.  For every list of
characters — NUL, quotes, backslashes, CR/LF, any multi-byte scalar value — parsing the printed
literal gives back the characters; in particular `parse_string_literal` neither rejects nor
panics on printed text. -/
theorem string_escape_roundtrip (s : List Char) : unescapeString (escapeString s) = .ok s := by
  unfold unescapeString parseStringLiteral escapeString
  have h1 : ¬ (('"' :: (escapeBody s ++ ['"'])).length < 2) := by simp
  have hl : ('"' :: (escapeBody s ++ ['"'])).getLast? = some '"' := by
    rw [← List.cons_append, List.getLast?_concat]
  have h2 : ¬ (('"' :: (escapeBody s ++ ['"'])).head? ≠ some '"' ∨ ('"' :: (escapeBody s ++ ['"'])).getLast? ≠ some '"') := by
    simp [hl]
  simp only [h1, h2, if_false, List.tail_cons, List.dropLast_concat]
  have := unescapeLoop_escapeBody s [] []
  simp only [List.append_nil, List.nil_append] at this
  rw [this]
  simp [unescapeLoop]

example : escapeString ['a', '"', '\\', '\n', '\r', '\x00', 'é', '日'] = "\"a\\\"\\\\\\n\\r\\0é日\"".toList := by rw [String.toList_ofList]; decide +kernel
example : unescapeString "\"\\t\"".toList = .err "invalid escape character" := by rw [String.toList_ofList]; decide +kernel

theorem strBodyLen_escapeBody (s : List Char) :
    ∀ rest, strBodyLen (escapeBody s ++ '"' :: rest) false = some ((escapeBody s).length + 1) := by
  induction s with
  | nil => intro rest; simp [escapeBody, strBodyLen]
  | cons c cs ih =>
    intro rest
    rw [escapeBody_cons, List.append_assoc]
    rcases escapeChar_spec c with ⟨x, hx, _, hn⟩ | ⟨hx, hb, hq⟩
    · rw [hx]; simp [strBodyLen, hn, ih]
    · rw [hx]; simp [strBodyLen, hb, hq, ih]

theorem lexOne_escapeString (s rest : List Char) :
    lexOne (escapeString s ++ rest) = .tok (.str (escapeString s)) (escapeString s).length := by
  have hb := strBodyLen_escapeBody s rest
  have hq : strLen (escapeString s ++ rest) = (escapeString s).length := by
    simp [escapeString, strLen, hb]
  have hp : isPunctStart '"' = false := by decide +kernel
  have hd : isDigit '"' = false := by decide +kernel
  have hi : isIdentStart '"' = false := by decide +kernel
  have hlen : (escapeString s).length ≠ 0 := by simp [escapeString]
  have htake : (escapeString s ++ rest).take (escapeString s).length = escapeString s := by simp
  have hrest : lexOne (escapeString s ++ rest) =
      .tok (.str ((escapeString s ++ rest).take (escapeString s).length)) (escapeString s).length := by
    have hx : escapeString s ++ rest = '"' :: (escapeBody s ++ '"' :: rest) := by simp [escapeString]
    unfold lexOne
    rw [hq]
    rw [hx]
    simp [punctLen, hp, intLen, floatLen, wordLen, diffLen, spanLen, hd, hi]
    simp [escapeString] at hlen ⊢
  rw [hrest, htake]

/-- **C08, strings, end to end**: the printed literal alone is lexed as one string token whose
text `parse_string_literal` turns back into `s`. -/
theorem string_print_lex_parse (s : List Char) :
    lex (escapeString s) = ([.str (escapeString s)], .eof) ∧
    parseStringLiteral (escapeString s) = .ok s := by
  refine ⟨?_, string_escape_roundtrip s⟩
  have h := lexOne_escapeString s []
  rw [List.append_nil] at h
  exact lexAll_single (c := '"') (by decide +kernel) h _

end TruthModel.C08
