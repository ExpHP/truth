/-
C07, semantic half: `decompile_if_else` preserves the resolved code (`decompileIfElse_sem`), by induction over what the
pass may do (`IfElse`, `Chain`).  One cond block `if (a op b) goto L; body; goto End; L:` becomes the arm
`if (a negop b) { body }` whose lowering starts with `unless (a negop b) goto fresh` = `if (a op b) goto fresh` with `fresh`
at the code index of `L`, and ends with a jump to the end of the chain, which is where `End` stands.
-/
import TruthModel.Lemmas.DecompDen
import TruthModel.Lemmas.DecompIfElse
namespace TruthModel.Decomp
open List

theorem Chain.mem_atom {rc dE c arms} (h : Chain rc dE c arms) : ∃ d a, Stmt.atom d a ∈ c := by
  cases h with
  | els b dl => exact ⟨dl, _, List.mem_append_right _ (List.mem_singleton.mpr rfl)⟩
  | last => exact ⟨_, _, List.mem_cons_self ..⟩
  | cons => exact ⟨_, _, List.mem_cons_self ..⟩

theorem Chain.arms_ne_nil {rc dE c arms} (h : Chain rc dE c arms) : ∃ s rest, arms = s :: rest := by
  cases h <;> exact ⟨_, _, rfl⟩

theorem denL_ifGoto {pos : Nat → Option Nat} {d k : Nat} (h : pos d = some k) (brk : Option Nat) (c : Expr) (xs : List Stmt)
    (o : Nat) : denL pos brk (.atom none (.condJump .if_ c (.goto d none)) :: xs) o =
      (none, .condJump .if_ c (.goto k none)) :: denL pos brk xs (o + 1) := by
  simp only [denL_cons, denS_atom, denAtom, denJ, rj, h, normCond_if, clenS_atom, clenAtom, List.singleton_append]

theorem denL_gotoLabel {pos : Nat → Option Nat} {e k : Nat} (h : pos e = some k) (brk : Option Nat) (dl : Option String) (d : Nat)
    (xs : List Stmt) (o : Nat) :
    denL pos brk (.atom none (.jump (.goto e none)) :: .atom dl (.label d) :: xs) o =
      (none, .jump (.goto k none)) :: denL pos brk xs (o + 1) := by
  simp only [denL_cons, denS_atom, denAtom, denJ, rj, h, clenS_atom, clenAtom, List.singleton_append, List.nil_append, Nat.add_zero]

theorem denArms_if {op nop : BinOp} (hneg : op.negate = some nop) (pos : Nat → Option Nat) (brk : Option Nat) (e : Nat)
    (a b : Operand) (body rest : List Stmt) (o : Nat) :
    denArms pos brk e (.node (.arm .if_ (.bin nop a b)) body :: rest) o =
      (none, .condJump .if_ (.bin op a b) (.goto (o + 1 + clenL body + jcount rest) none)) ::
        denL pos brk body (o + 1) ++ jtail e rest ++ denArms pos brk e rest (o + 1 + clenL body + jcount rest) := by
  rw [denArms_arm, flipKw, normCond_unless_neg hneg]

theorem Chain.den {pos f rc dE c arms} (h : Chain rc dE c arms) : ∀ o, InvL pos f c o →
    pos dE = some (o + clenL c) ∧ (∀ brk, denArms pos brk (o + clenL c) arms o = denL pos brk c o) ∧
      InvArms pos f arms o ∧ clenArms arms = clenL c := by
  induction h with
  | els b dl =>
    intro o hi
    have hE : pos dE = some (o + clenL b) := ((InvL_append ..).mp hi).2.1
    have hc : clenL (b ++ [.atom dl (.label dE)]) = clenL b := by simp [clenL_append, clenAtom]
    rw [hc]
    exact ⟨hE, fun brk => by rw [denArms_els, denArms_nil, List.append_nil], ⟨hi, trivial⟩,
      by rw [clenArms_els, clenArms_nil, hc, Nat.add_zero]⟩
  | @last op nop a b body dl hneg =>
    intro o hi
    rw [InvL_cons] at hi
    have hE : pos dE = some (o + 1 + clenL body) := ((InvL_append ..).mp hi.2).2.1
    simp only [clenL_cons, clenL_append, clenL_nil, clenS_atom, clenAtom, Nat.add_zero, ← Nat.add_assoc]
    refine ⟨hE, fun brk => ?_, ⟨hi.2, trivial⟩, ?_⟩
    · simp only [denArms_if hneg, denL_ifGoto hE, jcount_nil, jtail_nil, denArms_nil, clenL_append, clenL_cons, clenL_nil,
        clenS_atom, clenAtom, List.append_nil, Nat.add_zero]
    · simp only [clenArms_arm, jcount_nil, clenArms_nil, clenL_append, clenL_cons, clenL_nil, clenS_atom, clenAtom, Nat.add_zero]
  | @cons op nop a b d body dl more arms hneg hrc hm ih =>
    intro o hi
    obtain ⟨x, xs, rfl⟩ := hm.arms_ne_nil
    rw [InvL_cons, InvL_append, InvL_append, InvL_cons, InvL_cons] at hi
    obtain ⟨-, ⟨hb, -, hd, -⟩, hmore⟩ := hi
    simp only [clenL_cons, clenL_append, clenL_nil, clenS_atom, clenAtom, Nat.add_zero, ← Nat.add_assoc] at hd hmore ⊢
    have hd' : pos d = some (o + 1 + clenL body + 1) := hd
    obtain ⟨hE, hden, hinv, hclen⟩ := ih _ hmore
    refine ⟨hE, fun brk => ?_, ⟨hb, hinv⟩, ?_⟩
    · simp only [denArms_if hneg, denL_ifGoto hd', denL_append, denL_gotoLabel hE, jcount_cons, jtail_cons, hden,
        List.append_assoc, List.cons_append, List.nil_append]
    · simp only [clenArms_arm, jcount_cons, hclen]

theorem Chain.res {pos f rc dE c arms o} (h : Chain rc dE c arms) (hi : InvL pos f c o) : Res pos f c [.node .chain arms] o := by
  obtain ⟨-, hden, hinv, hclen⟩ := h.den o hi
  exact ⟨fun brk => by simp only [denL_cons, denL_nil, denS_chain, hclen, hden brk, List.append_nil],
    ⟨hinv, trivial⟩, by simp only [clenL_cons, clenL_nil, clenS_chain, hclen, Nat.add_zero]⟩

theorem IfElse.jcount {rc xs ys} (h : IfElse rc xs ys) : jcount ys = jcount xs ∧ ∀ e, jtail e ys = jtail e xs := by
  cases h with
  | nil => exact ⟨rfl, fun _ => rfl⟩
  | atom => exact ⟨rfl, fun _ => rfl⟩
  | node => exact ⟨rfl, fun _ => rfl⟩
  | @chain dE c arms arms' xs ys hc =>
    obtain ⟨d, a, hm⟩ := hc.mem_atom
    cases c with
    | nil => cases hm
    | cons s r => exact ⟨rfl, fun _ => rfl⟩

theorem invArms_nodes {pos f} (arms : List Stmt) (o : Nat) (h : InvArms pos f arms o) : ∀ s ∈ arms, ∃ k b, s = Stmt.node k b := by
  induction arms generalizing o with
  | nil => intro s hs; cases hs
  | cons x rest ih =>
    cases x with
    | atom d a => simp at h
    | node k b =>
      intro s hs
      rcases List.mem_cons.mp hs with rfl | hs'
      · exact ⟨k, b, rfl⟩
      · rcases h.node_cases with ⟨_, _, _, _, h2⟩ | ⟨_, _, h2⟩ <;> exact ih _ h2 s hs'

theorem IfElse.res {pos f rc xs ys} (h : IfElse rc xs ys) :
    (∀ o, InvL pos f xs o → Res pos f xs ys o) ∧ (∀ o, InvArms pos f xs o → ResArms pos f xs ys o) := by
  induction h with
  | nil => exact ⟨fun o _ => Res.rfl trivial, fun o _ => ⟨fun _ _ => rfl, trivial, rfl⟩⟩
  | atom d a _ ih =>
    refine ⟨fun o hi => ?_, fun o hi => by simp at hi⟩
    rw [InvL_cons] at hi
    exact Res.append (xs := [.atom d a]) (ys := [.atom d a]) (Res.rfl ⟨hi.1, trivial⟩) (ih.1 _ hi.2)
  | @node k b b' xs ys hb hxs ihb ih =>
    refine ⟨fun o hi => ?_, fun o hi => ?_⟩
    · rw [InvL_cons] at hi
      exact Res.append (Res.node hi.1 (ihb.1 o) (ihb.2 o)) (ih.1 _ hi.2)
    · exact ResArms.node hi ihb.1 ih.2 (fun _ _ => hxs.jcount)
  | @chain dE c arms arms' xs ys hc hint harms hxs iha ih =>
    refine ⟨fun o hi => ?_, fun o hi => ?_⟩
    · rw [InvL_append] at hi
      have r1 := hc.res hi.1
      have r2 : Res pos f [.node .chain arms] [.node .chain arms'] o :=
        Res.node r1.inv.1 (iha.1 o) (iha.2 o)
      exact Res.append (r1.trans r2) (ih.1 _ hi.2)
    · -- a chain begins or ends with a leaf, the children of a chain are nodes
      obtain ⟨d, a, hm⟩ := hc.mem_atom
      obtain ⟨k, b, e⟩ := invArms_nodes _ o hi _ (List.mem_append_left _ hm)
      cases e

theorem decompileIfElse_sem {pos f} {a b : Block} (h : decompileIfElse a = .ok b) (hi : InvL pos f a 0) : Res pos f a b 0 :=
  (ifElseBlock_spec _ a b h).res.1 0 hi

end TruthModel.Decomp

