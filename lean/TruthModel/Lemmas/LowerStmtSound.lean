import TruthModel.Lemmas.LowerExprSound
/-
C02, statements.  The straight-line model `Model/Lower.lean` emits on integer expressions what `Model/LowerJumps.lean` emits
(`lowerSetJ_eq`) and lifted straight-line code runs under `execFrag` as under `exec` (`execFrag_liftCode`), so `lowerSet_sound`
follows from `soundT`.  Assignments and calls are proved once for both models, about what their wrappers emit with the fuel
left open (`Assigns`, `Temps`), from a target state that agrees with the source machine below the temp counter the body
started with; `lowerAssign_sound_partial`, `lowerCall_sound_partial` and the statements of the model with jumps are the
instances.  Then `if|unless (c) goto L` and the counting jumps.
-/
namespace TruthModel.C02
open TruthModel TruthModel.Regs TruthModel.Lower

def liftRes (lg : Nat) : Outcome (List LStmt × Gen) → Outcome (List JStmt × Gen × Nat)
  | .ok (c, g) => .ok (liftCode c, g, lg)
  | .err x => .err x
  | .panic x => .panic x

def liftOp (lg : Nat) : Outcome Operand → Outcome OperandJ
  | .ok O => .ok ⟨liftCode O.code, O.atom, O.ty, O.gen, lg, O.free⟩
  | .err x => .err x
  | .panic x => .panic x

/-- on integer expressions `lowerSetJ`, `lowerOperandJ`, `lowerBinopJ`, `lowerUnopJ` emit what their counterparts in
`Model/Lower.lean` emit (four of its five functions: all but `lowerSwitch`), and allocate no label -/
structure BridgeAt (I : JIntrinsics) (db ab fuel : Nat) : Prop where
  set : ∀ g lg t mask v e, IntOnly e →
    lowerSetJ I db ab fuel g lg t mask v e = liftRes lg (lowerSet I.base db ab fuel g mask v e)
  operand : ∀ g lg t mask v ty guard e, IntOnly e →
    lowerOperandJ I db ab fuel g lg t mask v ty guard e = liftOp lg (lowerOperand I.base db ab fuel g mask v ty guard e)
  binop : ∀ g lg t mask v op a b, IntOnly a → IntOnly b →
    lowerBinopJ I db ab fuel g lg t mask v op a b = liftRes lg (lowerBinop I.base db ab fuel g mask v op a b)
  unop : ∀ g lg t mask v op b, IntOnly b →
    lowerUnopJ I db ab fuel g lg t mask v op b = liftRes lg (lowerUnop I.base db ab fuel g mask v op b)

theorem liftCode_append (a b : List LStmt) : liftCode (a ++ b) = liftCode a ++ liftCode b := by
  simp [liftCode]

theorem liftCode_cons (s : LStmt) (c : List LStmt) : liftCode (s :: c) = .base s :: liftCode c := rfl

section bridge
variable {I : JIntrinsics} {db ab fuel : Nat} (ih : BridgeAt I db ab fuel) (g lg : Nat) (t : Int) (mask : Nat) (v : VarRef)
include ih

theorem bridge_set (e : SExpr) (hi : IntOnly e) :
    lowerSetJ I db ab (fuel + 1) g lg t mask v e = liftRes lg (lowerSet I.base db ab (fuel + 1) g mask v e) := by
  rw [lowerSetJ, lowerSet]
  cases hsim : e.simple? with
  | some a =>
    simp only []
    cases lowerAssignAtom I.base mask v .set a <;> rfl
  | none =>
    obtain ⟨ht1, ht2, ht3⟩ := intT_temp (intT_of_intOnly hi)
    simp only [ht1, ht2, ht3, ne_eq, not_true_eq_false, ite_false]
    cases e with
    | binop op a b => exact ih.binop g lg t mask v op a b hi.1 hi.2
    | unop op b => exact ih.unop g lg t mask v op b hi.2
    | litI _ | var _ => cases hsim
    | litF _ | ternary _ _ _ | switch _ | omitted => exact hi.elim

theorem bridge_operand (ty : RTy) (guard : Bool) (e : SExpr) (hi : IntOnly e) :
    lowerOperandJ I db ab (fuel + 1) g lg t mask v ty guard e =
      liftOp lg (lowerOperand I.base db ab (fuel + 1) g mask v ty guard e) := by
  rw [lowerOperandJ, lowerOperand]
  cases hsim : e.simple? with
  | some a => rfl
  | none =>
    obtain ⟨ht1, ht2, ht3⟩ := intT_temp (intT_of_intOnly hi)
    simp only [ht1, ht2, ht3]
    by_cases hc : (RTy.int = ty ∧ True ∧ guard = true)
    · rw [if_pos hc, if_pos hc]
      rw [ih.set g lg t mask v e hi]
      cases lowerSet I.base db ab fuel g mask v e with
      | ok r => obtain ⟨c, g1⟩ := r; rfl
      | _ => rfl
    · rw [if_neg hc, if_neg hc]
      rw [ih.set (g + 1) lg t mask (tmpVar g .int) e hi]
      cases lowerSet I.base db ab fuel (g + 1) mask (tmpVar g .int) e with
      | ok r => obtain ⟨c, g1⟩ := r; rfl
      | _ => rfl

theorem bridge_binop (op : BinOp) (a b : SExpr) (hia : IntOnly a) (hib : IntOnly b) :
    lowerBinopJ I db ab (fuel + 1) g lg t mask v op a b = liftRes lg (lowerBinop I.base db ab (fuel + 1) g mask v op a b) := by
  rw [lowerBinopJ, lowerBinop]
  rw [ih.operand g lg t mask v _ _ a hia]
  cases hA : lowerOperand I.base db ab fuel g mask v (binopTy op a.ty) (!b.uses v.name) a with
  | ok A =>
    simp only [liftOp]
    rw [ih.operand A.gen lg t mask v _ _ b hib]
    cases hB : lowerOperand I.base db ab fuel A.gen mask v (binopTy op a.ty) (!operandUses a v.name A.free) b with
    | ok B =>
      simp only [liftOp]
      cases hC : lowerBinopAtom I.base mask v op A.ty A.atom B.atom with
      | ok c => simp [liftRes, liftCode, freeOfJ]
      | _ => rfl
    | _ => rfl
  | _ => rfl

theorem bridge_unop (op : UnOp) (b : SExpr) (hib : IntOnly b) :
    lowerUnopJ I db ab (fuel + 1) g lg t mask v op b = liftRes lg (lowerUnop I.base db ab (fuel + 1) g mask v op b) := by
  rw [lowerUnopJ, lowerUnop]
  rw [ih.operand g lg t mask v _ _ b hib]
  cases hB : lowerOperand I.base db ab fuel g mask v (unopTy op b.ty) true b with
  | ok B =>
    simp only [liftOp]
    cases hC : lowerUnopAtom I.base mask v op B.ty B.atom with
    | ok c => simp [liftRes, liftCode, freeOfJ]
    | _ => rfl
  | _ => rfl

end bridge

theorem bridgeAt (I : JIntrinsics) (db ab fuel : Nat) : BridgeAt I db ab fuel := by
  induction fuel with
  | zero =>
    refine ⟨?_, ?_, ?_, ?_⟩ <;> intros
    · rw [lowerSetJ, lowerSet]; rfl
    · rw [lowerOperandJ, lowerOperand]; rfl
    · rw [lowerBinopJ, lowerBinop]; rfl
    · rw [lowerUnopJ, lowerUnop]; rfl
  | succ fuel ih => exact ⟨bridge_set ih, bridge_operand ih, bridge_binop ih, bridge_unop ih⟩

/-- **lowerSetJ_eq**: on integer expressions `Model/Lower.lean` is the restriction of `Model/LowerJumps.lean` -/
theorem lowerSetJ_eq (I : JIntrinsics) (db ab fuel g lg : Nat) (t : Int) (mask : Nat) (v : VarRef) (e : SExpr)
    (hi : IntOnly e) :
    lowerSetJ I db ab fuel g lg t mask v e = liftRes lg (lowerSet I.base db ab fuel g mask v e) :=
  (bridgeAt I db ab fuel).set g lg t mask v e hi


structure SetSpec (F : FloatOps) (diff g : Nat) (v : VarRef) (m : Machine) (code : List LStmt) (g' : Nat)
    (val : Value) : Prop where
  mono : g ≤ g'
  run : ∃ m', exec F diff m code = .ok m' ∧ m'.store v.name = val ∧
    (∀ x, x ≠ v.name → below g x → m'.store x = m.store x) ∧
    m'.log = m.log ∧ m'.time = m.time ∧ IntStore m'.store


structure Ctx (F : FloatOps) (diff g mask : Nat) (v : VarRef) (e : SExpr) (m : Machine) (val : Value) : Prop where
  maskOn : maskOn mask diff = true
  vInt : v.readTy = .int
  vBelow : below g v.name
  intOnly : IntOnly e
  exprBelow : exprBelow g e
  intStore : IntStore m.store
  eval : evalS F diff m.store e = .ok val

/-- a table without jump instructions: integer expressions need none -/
def noJumps (I : Intrinsics) : JIntrinsics := ⟨I, none, fun _ _ => none, fun _ => none, fun _ => none, fun _ => none⟩

theorem exec_of_execFrag_lift {F : FloatOps} {diff : Nat} {c : List LStmt} {s s' : JM}
    (h : execFrag F diff .run (liftCode c) s = .ok (.fall, s')) : ∃ m', exec F diff s.m c = .ok m' ∧ s' = ⟨m', s.cmp⟩ := by
  rw [execFrag_liftCode] at h
  rcases hm : exec F diff s.m c with m' | x | x <;> simp only [hm, Outcome.ok.injEq, Prod.mk.injEq, true_and, reduceCtorEq] at h
  exact ⟨m', rfl, h.symm⟩

theorem lowerSet_liftJ {I : Intrinsics} {db ab fuel g mask : Nat} {v : VarRef} {e : SExpr} {code : List LStmt} {g' : Nat}
    (lg : Nat) (t : Int) (hi : IntOnly e) (h : lowerSet I db ab fuel g mask v e = .ok (code, g')) :
    lowerSetJ (noJumps I) db ab fuel g lg t mask v e = .ok (liftCode code, g', lg) :=
  (lowerSetJ_eq (noJumps I) db ab fuel g lg t mask v e hi).trans (congrArg (liftRes lg) h)

/-- **lowerSet_sound**: `v = e` for an integer expression `e`, under every intrinsic table and fuel:
the emitted code runs to completion, leaves `eval e` in `v`, changes no other variable below the temp
counter, logs nothing and keeps the time. -/
theorem lowerSet_sound (F : FloatOps) (I : Intrinsics) (db ab diff fuel g mask : Nat) (v : VarRef) (e : SExpr)
    (code : List LStmt) (g' : Nat) (m : Machine) (val : Value) (cx : Ctx F diff g mask v e m val)
    (h : lowerSet I db ab fuel g mask v e = .ok (code, g')) : SetSpec F diff g v m code g' val := by
  have hJ := lowerSet_liftJ 0 m.time cx.intOnly h
  obtain ⟨s', hex, hrest⟩ := lowerSetT_sound F (noJumps I) db ab diff fuel g 0 m.time mask v e _ g' 0 ⟨m, none⟩ val
    ⟨cx.maskOn, cx.vInt, cx.vBelow, intT_of_intOnly cx.intOnly, belowT_of_exprBelow cx.exprBelow, cx.intStore, rfl, cx.eval⟩ hJ
  refine ⟨((shapeAt _ _ _ _).set hJ).le_gen, ?_⟩
  obtain ⟨m', hex', rfl⟩ := exec_of_execFrag_lift hex
  exact ⟨m', hex', hrest⟩

/-! The wrappers `lowerAssign` / `lowerArgs` and `lowerAssignJ` / `lowerArgsJ` differ in the fuel they hand to the expression
compiler (`3 * size + 3` and `jumpFuel`), and no statement about expressions depends on the fuel. -/

theorem lowerTempJ_simple {I : JIntrinsics} {db ab : Nat} (fuel : Nat) {g lg : Nat} {t : Int} {mask : Nat} {e : SExpr} {a : Arg}
    (hsim : e.simple? = some a) : lowerTempJ I db ab (fuel + 1) g lg t mask e = .ok ⟨[], a, e.simpleTy, g, lg, none⟩ := by
  rw [lowerTempJ, hsim]

theorem lowerTempJ_temp {I : JIntrinsics} {db ab fuel g lg : Nat} {t : Int} {mask : Nat} {e : SExpr} {c : List JStmt} {g1 lg1 : Nat}
    (hsim : e.simple? = none)
    (h : lowerSetJ I db ab fuel (g + 1) lg t mask (tmpVar g e.temp.tmpTy) e.temp.tmpExpr = .ok (c, g1, lg1)) :
    lowerTempJ I db ab (fuel + 1) g lg t mask e =
      .ok ⟨.base (.alloc g e.temp.tmpTy) :: c, .loc g e.temp.readTy, e.temp.readTy, g1, lg1, some g⟩ := by
  rw [lowerTempJ, hsim]
  simp only [h]

theorem lowerTempJ_of_lowerSet {I : Intrinsics} {db ab fuel g mask : Nat} {e : SExpr} {c : List LStmt} {g1 : Nat} (lg : Nat) (t : Int)
    (hi : IntOnly e) (hsim : e.simple? = none)
    (h : lowerSet I db ab fuel (g + 1) mask (tmpVar g e.temp.tmpTy) e.temp.tmpExpr = .ok (c, g1)) :
    lowerTempJ (noJumps I) db ab (fuel + 1) g lg t mask e =
      .ok ⟨.base (.alloc g e.temp.tmpTy) :: liftCode c, .loc g e.temp.readTy, e.temp.readTy, g1, lg, some g⟩ :=
  lowerTempJ_temp hsim (lowerSet_liftJ lg t (by rw [(intT_temp (intT_of_intOnly hi)).1]; exact hi) h)

/-- what `lowerAssign` / `lowerAssignJ` emit for `v op e`, the fuel left open: one `lowerSetJ` for `=`; otherwise the operand `e`
(`lowerTempJ`), the instruction of `lowerAssignAtom`, the release of its temporary -/
inductive Assigns (I : JIntrinsics) (db ab g lg : Nat) (t : Int) (mask : Nat) (v : VarRef) :
    AssignOp → SExpr → List JStmt → Nat → Nat → Prop
  | set {fuel : Nat} {e : SExpr} {code : List JStmt} {g' lg' : Nat} :
      lowerSetJ I db ab fuel g lg t mask v e = .ok (code, g', lg') → Assigns I db ab g lg t mask v .set e code g' lg'
  | op {fuel : Nat} {op : AssignOp} {e : SExpr} {O : OperandJ} {c : List LStmt} : op ≠ .set →
      lowerTempJ I db ab fuel g lg t mask e = .ok O → lowerAssignAtom I.base mask v op O.atom = .ok c →
      Assigns I db ab g lg t mask v op e (O.code ++ (liftCode c ++ freeOfJ O.free)) O.gen O.lgen

/-- the arguments of a call one after the other, each computed like an operand of a comparison: code, atoms, the temporaries
to free -/
inductive Temps (I : JIntrinsics) (db ab : Nat) (t : Int) (mask : Nat) :
    Nat → Nat → List SExpr → List JStmt → List Arg → List Def → Nat → Nat → Prop
  | nil (g lg : Nat) : Temps I db ab t mask g lg [] [] [] [] g lg
  | cons {fuel g lg : Nat} {e : SExpr} {O : OperandJ} {es : List SExpr} {c : List JStmt} {as : List Arg} {ds : List Def}
      {g' lg' : Nat} : lowerTempJ I db ab fuel g lg t mask e = .ok O → Temps I db ab t mask O.gen O.lgen es c as ds g' lg' →
      Temps I db ab t mask g lg (e :: es) (O.code ++ c) (O.atom :: as) (O.free.toList ++ ds) g' lg'

theorem lowerAssignJ_assigns {I : JIntrinsics} {db ab g lg : Nat} {t : Int} {mask : Nat} {v : VarRef} {op : AssignOp} {e : SExpr}
    {code : List JStmt} {g' lg' : Nat} (h : lowerAssignJ I db ab g lg t mask v op e = .ok (code, g', lg')) :
    Assigns I db ab g lg t mask v op e code g' lg' := by
  revert h
  fun_cases lowerAssignJ I db ab g lg t mask v op e <;> intro h
  case case1 => exact .set h
  case case2 a hsim hop =>
    rcases hat : lowerAssignAtom I.base mask v op a with c | x | x <;> rw [hat] at h <;> cases h
    rw [← List.append_nil (liftCode _)]
    exact .op hop (lowerTempJ_simple 0 hsim) hat
  case case3 hsim _ _ c1 g1 lg1 hl c2 hat hop =>
    rw [hat] at h
    cases h
    rw [List.append_assoc]
    exact .op hop (lowerTempJ_temp hsim hl) hat
  all_goals simp only [*, reduceCtorEq] at h

theorem lowerAssign_assigns {I : Intrinsics} {db ab g mask : Nat} {v : VarRef} {op : AssignOp} {e : SExpr} {code : List LStmt}
    {g' : Nat} (lg : Nat) (t : Int) (hi : IntOnly e) (h : lowerAssign I db ab g mask v op e = .ok (code, g')) :
    Assigns (noJumps I) db ab g lg t mask v op e (liftCode code) g' lg := by
  revert h
  fun_cases lowerAssign I db ab g mask v op e <;> intro h
  case case1 => exact .set (lowerSet_liftJ lg t hi h)
  case case2 a hsim c hat hop =>
    rw [hat] at h
    cases h
    rw [← List.append_nil (liftCode _)]
    exact .op hop (lowerTempJ_simple 0 hsim) hat
  case case5 hsim _ _ c1 g1 hl c2 hat hop =>
    rw [hat] at h
    cases h
    rw [liftCode_append, liftCode_append, liftCode_cons, List.append_assoc]
    exact .op hop (lowerTempJ_of_lowerSet lg t hi hsim hl) hat
  all_goals simp only [*, reduceCtorEq] at h

theorem lowerArgsJ_temps {I : JIntrinsics} {db ab : Nat} {t : Int} {mask : Nat} {args : List SExpr} {g lg : Nat}
    {c : List JStmt} {as : List Arg} {ds : List Def} {g' lg' : Nat}
    (h : lowerArgsJ I db ab t mask g lg args = .ok (c, as, ds, g', lg')) : Temps I db ab t mask g lg args c as ds g' lg' := by
  revert h
  fun_induction lowerArgsJ I db ab t mask g lg args generalizing c as ds g' lg' <;> intro h <;> cases h
  case case1 => exact .nil _ _
  case case2 hsim c as ds g' lg' hrest ih => exact .cons (lowerTempJ_simple 0 hsim) (ih hrest)
  case case5 hsim _ _ c1 g1 lg1 hl c as ds g' lg' hrest ih => exact .cons (lowerTempJ_temp hsim hl) (ih hrest)

theorem lowerArgs_temps {I : Intrinsics} {db ab mask : Nat} (lg : Nat) (t : Int) {args : List SExpr} {g : Nat}
    {c : List LStmt} {as : List Arg} {ds : List Def} {g' : Nat} (hi : ∀ e ∈ args, IntOnly e)
    (h : lowerArgs I db ab mask g args = .ok (c, as, ds, g')) : Temps (noJumps I) db ab t mask g lg args (liftCode c) as ds g' lg := by
  revert h
  fun_induction lowerArgs I db ab mask g args generalizing c as ds g' <;> intro h <;> cases h
  case case1 => exact .nil _ _
  case case2 hsim c as ds g' hrest ih =>
    exact .cons (lowerTempJ_simple 0 hsim) (ih (List.forall_mem_cons.mp hi).2 hrest)
  case case5 hsim _ _ c1 g1 hl c as ds g' hrest ih =>
    rw [liftCode_append, liftCode_cons]
    exact .cons (lowerTempJ_of_lowerSet lg t (List.forall_mem_cons.mp hi).1 hsim hl) (ih (List.forall_mem_cons.mp hi).2 hrest)

/-- `v op= <atom>`, natively or as `v = v op <atom>` -/
theorem exec_opAtom {F : FloatOps} {I : Intrinsics} {diff mask : Nat} {v : VarRef} {op : AssignOp} {b : BinOp}
    {a : Arg} {c : List LStmt} {m : Machine} {r : Value}
    (hb : op.binop = some b) (hm : maskOn mask diff = true) (hs : IntStore m.store) (hv : v.readTy = .int)
    (ha : IntAtom a) (hr : binop F b (m.store v.name) (atomValue m.store a) = .ok r)
    (h : lowerAssignAtom I mask v op a = .ok c) :
    exec F diff m c = .ok { m with store := upd m.store v.name r } := by
  have hrv := readArg_lowered F diff hs hv
  have hra := readArg_intAtom (F := F) (diff := diff) hs ha
  unfold lowerAssignAtom at h
  rcases halt : I.assignAlt op v.readTy with _ | alt <;> simp only [halt, reduceCtorEq] at h
  cases alt with
  | intrinsic =>
    cases h
    exact exec_instr (.assignOp hm (argVar_lowered v) hb hrv hra hr)
  | viaBinOp b' =>
    cases h
    cases (assignAlt_viaBinOp I op _ b' halt).symm.trans hb
    exact exec_instr (.binOp hm (argVar_lowered v) hrv hra hr)

theorem evalArgs_congrT (F : FloatOps) (diff : Nat) (σ τ : Store) (g : Nat) :
    ∀ (es : List SExpr), (∀ e ∈ es, IntT e) → (∀ e ∈ es, belowT g e) → (∀ x, below g x → σ x = τ x) →
      evalArgs F diff σ es = evalArgs F diff τ es := by
  intro es hi hb h
  induction es with
  | nil => rfl
  | cons e es ih =>
    obtain ⟨hie, hies⟩ := List.forall_mem_cons.mp hi
    obtain ⟨hbe, hbes⟩ := List.forall_mem_cons.mp hb
    simp only [evalArgs, evalS_frameT hie hbe h, ih hies hbes]

theorem evalArgs_cons_inv {F : FloatOps} {diff : Nat} {σ : Store} {e : SExpr} {es : List SExpr} {vals : List Value}
    (h : evalArgs F diff σ (e :: es) = .ok vals) :
    ∃ v vs, vals = v :: vs ∧ evalS F diff σ e = .ok v ∧ evalArgs F diff σ es = .ok vs := by
  simp only [evalArgs] at h
  rcases h1 : evalS F diff σ e with v | x | x <;> simp only [h1, reduceCtorEq] at h
  rcases h2 : evalArgs F diff σ es with vs | x | x <;> simp only [h2, Outcome.ok.injEq, reduceCtorEq] at h
  exact ⟨v, vs, h.symm, rfl, rfl⟩

theorem exec_map_free (F : FloatOps) (diff : Nat) (m : Machine) : ∀ ds : List Def, exec F diff m (ds.map .free) = .ok m
  | [] => rfl
  | _ :: ds => by simp only [List.map_cons, exec, execStmt]; exact exec_map_free F diff m ds

/-- arguments: every atom reads, in the store after ALL the temporaries were computed, the value the source argument has;
nothing below the temp counter changed -/
theorem temps_sound {F : FloatOps} {I : JIntrinsics} {db ab diff : Nat} {t : Int} {mask : Nat} (hm : maskOn mask diff = true)
    {args : List SExpr} {g lg : Nat} {cJ : List JStmt} {as : List Arg} {ds : List Def} {g' lg' : Nat}
    (T : Temps I db ab t mask g lg args cJ as ds g' lg') : ∀ {s : JM} {vals : List Value},
      (∀ e ∈ args, IntT e) → (∀ e ∈ args, belowT g e) → IntStore s.m.store → s.m.time = t →
      evalArgs F diff s.m.store args = .ok vals →
      ∃ s', execFrag F diff .run cJ s = .ok (.fall, s') ∧ readArgs F diff s'.m.store as = .ok vals ∧
        (∀ x, below g x → s'.m.store x = s.m.store x) ∧ s'.m.log = s.m.log ∧ s'.m.time = s.m.time ∧ IntStore s'.m.store := by
  induction T with
  | nil =>
    intro s vals _ _ hs _ hev
    cases hev
    exact ⟨s, rfl, rfl, fun _ _ => rfl, rfl, rfl, hs⟩
  | @cons fuel g lg e O es c as ds g' lg' hO _ ih =>
    intro s vals hi hb hs ht hev
    obtain ⟨v, vs, rfl, hev1, hev2⟩ := evalArgs_cons_inv hev
    obtain ⟨hie, hies⟩ := List.forall_mem_cons.mp hi
    obtain ⟨hbe, hbes⟩ := List.forall_mem_cons.mp hb
    obtain ⟨hgO, SO⟩ := lowerTempT_sound hm hie hbe hs hev1 ht hO
    obtain ⟨s1, hex1, hval1, hframe1, hlog1, htime1, hint1⟩ := SO.run
    have hev2' : evalArgs F diff s1.m.store es = .ok vs := by
      rw [evalArgs_congrT F diff s1.m.store s.m.store g es hies hbes hframe1]; exact hev2
    obtain ⟨s', hex2, hread, hframe2, hlog2, htime2, hint2⟩ :=
      ih hies (fun e' he => belowT_mono (hies e' he) hgO (hbes e' he)) hint1 (htime1.trans ht) hev2'
    -- the atom still reads its value after the code of the later arguments
    have hra : readArg F diff s'.m.store O.atom = .ok v :=
      (readArg_intAtom hint2 SO.atom).trans
        (congrArg _ ((atomValue_congr fun y hy => hframe2 y (SO.atomBelow y hy)).trans hval1))
    exact ⟨s', execFrag_append_ok hex1 hex2, by simp only [readArgs, hra, hread],
      fun x hx => (hframe2 x (below_mono hgO hx)).trans (hframe1 x hx), hlog2.trans hlog1, htime2.trans htime1, hint2⟩

section fromAgreement
/- Executed as fragments from a state `j` that agrees with the source machine `m` below `g0` (the temp counter the body
started with), they end in agreement with the source machine after the statement.  The conclusions are that of `Lower.StmtSim`
(`Lemmas/BodySim.lean`) at `obs := below g0`, `TInv := IntStore`, in its order, so `stmtSim_intT` hands them on as they are. -/
variable {F : FloatOps} {I : JIntrinsics} {db ab diff g0 g lg : Nat} {t : Int} {mask : Nat} {code : List JStmt} {g' lg' : Nat}
  {j : JM} {m m' : Machine} (hm : maskOn mask diff = true) (hg : g0 ≤ g) (hs : IntStore j.m.store) (ht : j.m.time = t)
  (hst : ∀ x, below g0 x → j.m.store x = m.store x) (hlog : j.m.log = m.log)
include hm hg hs ht hst hlog

theorem assigns_sound {v : VarRef} {op : AssignOp} {e : SExpr} (A : Assigns I db ab g lg t mask v op e code g' lg')
    (hv : v.readTy = .int) (hvb : below g0 v.name) (hi : IntT e) (hb : belowT g0 e)
    (hsrc : runAssign F diff m v op e = .ok m') :
    ∃ j', execFrag F diff .run code j = .ok (.fall, j') ∧ IntStore j'.m.store ∧
      (∀ x, below g0 x → j'.m.store x = m'.store x) ∧ j'.m.log = m'.log ∧ j'.m.time = t := by
  -- the source statement only looks at variables below `g0`
  have hej : evalS F diff m.store e = evalS F diff j.m.store e := (evalS_frameT hi hb hst).symm
  have hvj : evalS F diff m.store (.var v) = .ok (j.m.store v.name) := by
    rw [← evalS_var F diff hs hv]; simp only [evalS, hst v.name hvb]
  have hvb' := below_mono hg hvb
  have hb' := belowT_mono hi hg hb
  obtain ⟨r, rfl, ⟨rfl, hev⟩ | ⟨b, va, vb, hbop, hva, hev, hr⟩⟩ := runAssign_ok hsrc <;> rw [hej] at hev
  · cases A with
    | op hne => exact absurd rfl hne
    | set h =>
      obtain ⟨s', hex, hval, hframe, hlog', htime, hint⟩ :=
        lowerSetT_sound F I db ab diff _ g lg t mask v e code g' lg' j r ⟨hm, hv, hvb', hi, hb', hs, ht, hev⟩ h
      exact ⟨s', hex, hint, agree_upd_of_frame hval hframe hg hst, hlog'.trans hlog, htime.trans ht⟩
  · cases A with
    | set => cases hbop
    | @op _ _ _ O c _ hO hat =>
      cases hvj.symm.trans hva
      obtain ⟨nv, hnv⟩ := hs v.name
      obtain ⟨nb, rfl⟩ := evalS_intT hs hi hev
      obtain ⟨nr, rfl⟩ : ∃ n, r = .int n := by rw [hnv] at hr; exact binopInt_int _ _ _ _ hr
      obtain ⟨_, SO⟩ := lowerTempT_sound hm hi hb' hs hev ht hO
      obtain ⟨s1, hex1, hval1, hframe1, hlog1, htime1, hint1⟩ := SO.run
      have hr1 : binop F b (s1.m.store v.name) (atomValue s1.m.store O.atom) = .ok (.int nr) := by
        rw [hframe1 _ hvb', hval1]; exact hr
      have hex2 := exec_opAtom hbop hm hint1 hv SO.atom hr1 hat
      exact ⟨⟨{ s1.m with store := upd s1.m.store v.name (.int nr) }, s1.cmp⟩,
        execFrag_append_ok hex1 (execFrag_append_ok (execFrag_liftJ s1 hex2) (execFrag_frees F diff O.free .fall _)),
        intStore_upd hint1 _ _, upd_agree (fun x hx => (hframe1 x (below_mono hg hx)).trans (hst x hx)) _ _,
        hlog1.trans hlog, htime1.trans ht⟩

theorem temps_call {opcode : Nat} {args : List SExpr} {cJ : List JStmt} {as : List Arg} {ds : List Def}
    (T : Temps I db ab t mask g lg args cJ as ds g' lg') (hi : ∀ e ∈ args, IntT e) (hb : ∀ e ∈ args, belowT g0 e)
    (hsrc : runCall F diff m opcode args = .ok m') :
    ∃ j', execFrag F diff .run (cJ ++ [.base (.instr ⟨mask, .plain opcode, as⟩)] ++ liftCode (ds.reverse.map .free)) j =
        .ok (.fall, j') ∧
      IntStore j'.m.store ∧ (∀ x, below g0 x → j'.m.store x = m'.store x) ∧ j'.m.log = m'.log ∧ j'.m.time = t := by
  unfold runCall at hsrc
  rw [← evalArgs_congrT F diff j.m.store m.store g0 args hi hb hst] at hsrc
  rcases hev : evalArgs F diff j.m.store args with vals | x | x <;> simp only [hev, Outcome.ok.injEq, reduceCtorEq] at hsrc
  subst hsrc
  obtain ⟨s', hex, hread, hframe, hlog', htime, hint⟩ :=
    temps_sound hm T hi (fun e he => belowT_mono (hi e he) hg (hb e he)) hs ht hev
  exact ⟨⟨{ s'.m with log := s'.m.log ++ [(opcode, vals)] }, s'.cmp⟩,
    execFrag_append_ok (execFrag_append_ok hex (execFrag_liftJ (c := [_]) s' (exec_instr (.plain hm hread))))
      (execFrag_liftJ _ (exec_map_free F diff _ _)),
    hint, fun x hx => (hframe x (below_mono hg hx)).trans (hst x hx), congrArg (· ++ [(opcode, vals)]) (hlog'.trans hlog),
    htime.trans ht⟩

theorem lowerAssignT_sound {v : VarRef} {op : AssignOp} {e : SExpr} (hv : v.readTy = .int) (hvb : below g0 v.name) (hi : IntT e)
    (hb : belowT g0 e) (hsrc : runAssign F diff m v op e = .ok m')
    (h : lowerAssignJ I db ab g lg t mask v op e = .ok (code, g', lg')) :
    ∃ j', execFrag F diff .run code j = .ok (.fall, j') ∧ IntStore j'.m.store ∧
      (∀ x, below g0 x → j'.m.store x = m'.store x) ∧ j'.m.log = m'.log ∧ j'.m.time = t :=
  assigns_sound hm hg hs ht hst hlog (lowerAssignJ_assigns h) hv hvb hi hb hsrc

theorem lowerCallT_sound {opcode : Nat} {args : List SExpr} (hi : ∀ e ∈ args, IntT e) (hb : ∀ e ∈ args, belowT g0 e)
    (hsrc : runCall F diff m opcode args = .ok m')
    (h : lowerCallJ I db ab g lg t mask opcode args = .ok (code, g', lg')) :
    ∃ j', execFrag F diff .run code j = .ok (.fall, j') ∧ IntStore j'.m.store ∧
      (∀ x, below g0 x → j'.m.store x = m'.store x) ∧ j'.m.log = m'.log ∧ j'.m.time = t := by
  unfold lowerCallJ at h
  rcases hl : lowerArgsJ I db ab t mask g lg args with ⟨cJ, as, ds, g1, lg1⟩ | x | x <;> simp only [hl, reduceCtorEq] at h
  cases h
  exact temps_call hm hg hs ht hst hlog (lowerArgsJ_temps hl) hi hb hsrc

end fromAgreement

/-- **lowerAssign_sound_partial**: `v = e` and `v op= e` for integer `e` and an integer destination below
the temp counter: whenever the source statement runs (no division by zero), the emitted code runs, the
destination and every other variable below the temp counter end up as after the source statement, nothing
is logged and the time is kept. -/
theorem lowerAssign_sound_partial (F : FloatOps) (I : Intrinsics) (db ab diff g mask : Nat) (v : VarRef)
    (op : AssignOp) (e : SExpr) (code : List LStmt) (g' : Nat) (m msrc : Machine)
    (hm : maskOn mask diff = true) (hv : v.readTy = .int) (hvb : below g v.name) (hi : IntOnly e)
    (hb : exprBelow g e) (hs : IntStore m.store)
    (hsrc : runAssign F diff m v op e = .ok msrc)
    (h : lowerAssign I db ab g mask v op e = .ok (code, g')) :
    ∃ m', exec F diff m code = .ok m' ∧ (∀ x, below g x → m'.store x = msrc.store x) ∧
      m'.log = msrc.log ∧ m'.time = msrc.time := by
  obtain ⟨j', hex, _, hst, hlog, htime⟩ := assigns_sound (j := ⟨m, none⟩) hm (Nat.le_refl g) hs rfl (fun _ _ => rfl) rfl
    (lowerAssign_assigns 0 m.time hi h) hv hvb (intT_of_intOnly hi) (belowT_of_exprBelow hb) hsrc
  obtain ⟨m', hex', rfl⟩ := exec_of_execFrag_lift hex
  exact ⟨m', hex', hst, hlog, htime.trans (runAssign_time hsrc).symm⟩

/-- **lowerCall_sound_partial**: an instruction call whose arguments are arbitrarily complex integer
expressions: whenever the source call runs, the emitted code runs, logs exactly the same opcode with the
same argument values (after whatever was logged before), keeps the time, and leaves every variable below
the temp counter as it was. -/
theorem lowerCall_sound_partial (F : FloatOps) (I : Intrinsics) (db ab diff g mask opcode : Nat)
    (args : List SExpr) (code : List LStmt) (g' : Nat) (m msrc : Machine)
    (hm : maskOn mask diff = true) (hi : ∀ e ∈ args, IntOnly e) (hb : ∀ e ∈ args, exprBelow g e)
    (hs : IntStore m.store) (hsrc : runCall F diff m opcode args = .ok msrc)
    (h : lowerCall I db ab g mask opcode args = .ok (code, g')) :
    ∃ m', exec F diff m code = .ok m' ∧ m'.log = msrc.log ∧ m'.time = msrc.time ∧
      (∀ x, below g x → m'.store x = msrc.store x) := by
  unfold lowerCall at h
  rcases hl : lowerArgs I db ab mask g args with ⟨c, as, ds, g1⟩ | x | x <;> simp only [hl, reduceCtorEq] at h
  cases h
  obtain ⟨j', hex, _, hst, hlog, htime⟩ := temps_call (j := ⟨m, none⟩) hm (Nat.le_refl g) hs rfl (fun _ _ => rfl) rfl
    (lowerArgs_temps 0 m.time hi hl) (fun e he => intT_of_intOnly (hi e he)) (fun e he => belowT_of_exprBelow (hb e he)) hsrc
  obtain ⟨m', hex', rfl⟩ := exec_of_execFrag_lift (c := c ++ [.instr ⟨mask, .plain opcode, as⟩] ++ ds.reverse.map .free)
    (by rw [liftCode_append, liftCode_append]; exact hex)
  exact ⟨m', hex', hlog, htime.trans (runCall_time hsrc).symm, hst⟩

/-- **lowerTernary_sound**: the statement `v = c ? l : r` (integer condition of any shape, integer branches of any
complexity, `v` an integer variable below the temp counter): whenever the source statement runs, the emitted
fragment runs to its end without leaving, and every variable below the temp counter, the log and the time
are as after the source statement; its labels are fresh and pairwise different. -/
theorem lowerTernary_sound (F : FloatOps) (I : JIntrinsics) (db ab diff g lg : Nat) (t : Int) (mask : Nat) (v : VarRef)
    (c l r : SExpr) (code : List JStmt) (g' lg' : Nat) (s : JM) (msrc : Machine)
    (hm : maskOn mask diff = true) (hv : v.readTy = .int) (hvb : below g v.name)
    (hic : IntOnly c) (hil : IntOnly l) (hir : IntOnly r)
    (hbc : exprBelow g c) (hbl : exprBelow g l) (hbr : exprBelow g r)
    (hs : IntStore s.m.store) (ht : s.m.time = t)
    (hsrc : runAssign F diff s.m v .set (.ternary c l r) = .ok msrc)
    (h : lowerAssignJ I db ab g lg t mask v .set (.ternary c l r) = .ok (code, g', lg')) :
    (∀ x ∈ labelsOf code, lg ≤ x ∧ x < lg') ∧ (labelsOf code).Nodup ∧
    ∃ s', execFrag F diff .run code s = .ok (.fall, s') ∧ (∀ x, below g x → s'.m.store x = msrc.store x) ∧
      s'.m.log = msrc.log ∧ s'.m.time = msrc.time := by
  obtain ⟨_, _, hsh⟩ := (shapeAt _ _ _ _).set h
  obtain ⟨s', hex, _, hst, hlog, htime⟩ := lowerAssignT_sound (e := .ternary c l r) (j := s) (m := s.m)
    hm (Nat.le_refl g) hs ht (fun _ _ => rfl) rfl hv hvb ⟨intT_of_intOnly hic, intT_of_intOnly hil, intT_of_intOnly hir⟩
    ⟨belowT_of_exprBelow hbc, belowT_of_exprBelow hbl, belowT_of_exprBelow hbr⟩ hsrc h
  exact ⟨hsh.range, hsh.nodup, s', hex, hst, hlog, by rw [htime, runAssign_time hsrc, ht]⟩


/-- `AstVm::_run` on the statements the model has (`Lower.runStmtS` of `Model/BodySem.lean` is the same function:
`runStmtS_eq` in `Props/C02.lean`) -/
def runStmt (F : FloatOps) (diff : Nat) (m : Machine) : SStmt → Outcome Machine
  | .decl _ _ none => .ok m
  | .decl d ty (some e) => runAssign F diff m ⟨.loc d, none, ty⟩ .set e
  | .assign op v e => runAssign F diff m v op e
  | .call opcode args => runCall F diff m opcode args
  | .scopeEnd _ => .ok m
  | .other => .err errUnmodelled

def runBody (F : FloatOps) (diff : Nat) : Machine → List SStmt → Outcome Machine
  | m, [] => .ok m
  | m, s :: rest => match runStmt F diff m s with
    | .ok m' => runBody F diff m' rest
    | .err c => .err c
    | .panic p => .panic p

mutual
/-- a local replaced by the register `assign_registers` recorded for it -/
def renameArg (ρ : Def → Option Reg) : Arg → Arg
  | .loc d ty => match ρ d with
    | some r => .raw r ty
    | none => .loc d ty
  | .switch cs => .switch (renameArgs ρ cs)
  | a => a
def renameArgs (ρ : Def → Option Reg) : List Arg → List Arg
  | [] => []
  | a :: as => renameArg ρ a :: renameArgs ρ as
end

def renameStmt (ρ : Def → Option Reg) : LStmt → LStmt
  | .instr i => .instr { i with args := renameArgs ρ i.args }
  | s => s

def recordedReg (locals : List LocalInfo) (d : Def) : Option Reg :=
  (locals.find? (·.d == d)).map (·.reg)

/-- **C02 as stated** (NOT proved), for the statements the model has (declarations, all twelve assignment
operators, instruction calls; int and float expressions with casts, sigils and difficulty switches), for
every intrinsic table, every scratch pool (`h`), every store and difficulty, *after* register assignment:
the compiled body performs the same calls with the same argument values at the same time and leaves every
register the source mentions, and every register that is not general-purpose, as the source does.

The theorems are about the integer fragment: whole flat bodies with jumps, before and after register assignment
(`lowerBodyT_sound`, `lowerBody_assigned_sound` in `Props/C02.lean`).  Outside every theorem: (1) floats, casts and sigils
(needs "static type = dynamic type" for stores typed like their variables; `FloatOps` stay parameters; negated float
comparisons are unsound on NaN, `nan_negation_witness`); (2) difficulty switches in expressions (`lowerSwitch`,
`elaborate_diff_switches`); (3) `InitOK` for the fragments the compiler emits with labels of its own, a hypothesis of
`lowerBody_assigned_sound`.  `lowerCondJump_full` / `lowerTernary_full` state the same for conditions and ternaries;
the VM-against-VM search covers all of these. -/
def C02_full : Prop :=
  ∀ (F : FloatOps) (I : Intrinsics) (db ab : Nat) (h : Hooks) (firstTemp : Nat) (body : List SStmt)
    (code : List LStmt) (res : Regs.Result) (diff : Nat) (σ : Store) (msrc : Machine),
    lowerBody I db ab 255 firstTemp body = .ok code →
    assign .deep h (tyOfTable (typeTable code)) [] (code.map (toRegsStmt I)) = .ok res →
    runBody F diff ⟨σ, [], 0⟩ body = .ok msrc →
    ∃ m', exec F diff ⟨σ, [], 0⟩ (code.map (renameStmt (recordedReg res.locals))) = .ok m' ∧
      m'.log = msrc.log ∧ m'.time = msrc.time ∧
      ∀ r, (r ∈ mentioned (code.map (toRegsStmt I)) ∨ (r ∉ h.general .int ∧ r ∉ h.general .float)) →
        m'.store (.reg r) = msrc.store (.reg r)

/-! ### the hypotheses are satisfiable by non-trivial inputs -/

/-- every operator native -/
def allNative : Intrinsics := ⟨fun _ _ => some 1, fun _ _ => some 2, fun _ _ => some 3⟩
/-- only `=` and the binary operators: `-x`, `~x`, `a op= b` go through the fallbacks -/
def fallbacksOnly : Intrinsics :=
  ⟨fun op _ => if op = .set then some 1 else none, fun _ _ => some 2, fun _ _ => none⟩

def rA : VarRef := ⟨.reg 1000, none, .int⟩
def rB : VarRef := ⟨.reg 1001, some .int, .int⟩
/-- `A + B * -(A + 1)`: needs a temporary because the second operand uses the destination -/
def sampleExpr : SExpr :=
  .binop .add (.var rA) (.binop .mul (.var rB) (.unop .neg (.binop .add (.var rA) (.litI 1))))

theorem sampleExpr_int : IntOnly sampleExpr := by simp [sampleExpr, IntOnly, rA, rB, VarRef.readTy]
theorem sampleExpr_below : exprBelow 100 sampleExpr := by simp [sampleExpr, exprBelow, below, rA, rB]

example : IntOnly sampleExpr := sampleExpr_int
example : exprBelow 100 sampleExpr := sampleExpr_below
example : IntStore (fun _ => .int 7) := fun _ => ⟨7, rfl⟩

/-- some float operations (never consulted by integer expressions) -/
def someFloats : FloatOps :=
  ⟨fun a _ => a, fun a _ => a, fun a _ => a, fun a _ => a, fun a _ => a, fun a => a, fun _ _ => false, fun _ _ => false,
   fun _ _ => false, fun _ => 0, fun _ => 0, fun _ a => a⟩

/-- all hypotheses of `lowerSet_sound` / `lowerAssign_sound_partial` hold for `A = A + B * -(A + 1)` from the
store "everything is 7" on difficulty 0 under the full mask: the source value is 7 + 7 * -(8) = -49 -/
example : Ctx someFloats 0 100 255 rA sampleExpr ⟨fun _ => .int 7, [], 0⟩ (.int (-49)) :=
  ⟨by decide, rfl, trivial, sampleExpr_int, sampleExpr_below, fun _ => ⟨7, rfl⟩, by decide +kernel⟩

def codeLen : Outcome (List LStmt × Gen) → Option (Nat × Gen)
  | .ok (c, g) => some (c.length, g)
  | _ => none

/-- the lowering succeeds under both tables (`A = A + B * -(A+1)`); the fallback table needs no more
instructions (`-x` is one multiplication) and both use exactly one temporary -/
example : codeLen (lowerAssign allNative 255 0 100 255 rA .set sampleExpr) = some (6, 101) := by decide +kernel
example : codeLen (lowerAssign fallbacksOnly 255 0 100 255 rA .set sampleExpr) = some (6, 101) := by decide +kernel
example : codeLen (lowerAssign fallbacksOnly 255 0 100 255 rA .mul sampleExpr) = some (7, 101) := by decide +kernel
example : codeLen (lowerCall fallbacksOnly 255 0 100 255 200 [sampleExpr, .var rB, .unop .bnot (.var rA)]) =
    some (10, 102) := by decide +kernel

/-- what the code of a conditional jump guarantees: it is left by the jump to the target iff `taken`, else at
its end; variables below the temp counter, log and time are as before; its labels are fresh and distinct -/
structure CondSpec (F : FloatOps) (diff g lg : Nat) (tgt : Goto) (taken : Bool) (s : JM) (code : List JStmt)
    (g' lg' : Nat) : Prop where
  mono : g ≤ g'
  lmono : lg ≤ lg'
  labels : ∀ l ∈ labelsOf code, lg ≤ l ∧ l < lg'
  nodup : (labelsOf code).Nodup
  run : ∃ s', execFrag F diff .run code s = .ok (exitIf taken tgt, s') ∧
    (∀ x, below g x → s'.m.store x = s.m.store x) ∧ s'.m.log = s.m.log ∧ s'.m.time = s.m.time ∧ IntStore s'.m.store

theorem binop_int (F : FloatOps) (op : BinOp) (x y : Int32) : binop F op (.int x) (.int y) = binopInt op x y := rfl

/-- the condition of a jump statement is in the proved fragment -/
def CondOK (g : Nat) : JCond → Prop
  | .expr e => IntOnly e ∧ exprBelow g e
  | .predec v _ => v.readTy = .int

/-- `if|unless (--x) goto L` / `(--x != 0)` / `(--x > 0)`: `x` is decremented exactly once (wrapping), the
fragment is left by the jump iff the flavour's test of the NEW value says so -/
theorem lowerCountJmp_sound (F : FloatOps) (I : JIntrinsics) (diff lg : Nat) (t : Int) (mask : Nat) (kw : Kw) (v : VarRef)
    (k : CountKind) (tgt : Goto) (code : List JStmt) (lg' : Nat) (s : JM) (n : Int32)
    (hm : maskOn mask diff = true) (hv : v.readTy = .int) (hs : IntStore s.m.store) (hn : s.m.store v.name = .int n)
    (ht : s.m.time = t) (htl : tgt.l < lg)
    (h : lowerCountJmp I lg t mask kw v k tgt = .ok (code, lg')) :
    lg ≤ lg' ∧ (∀ l ∈ labelsOf code, lg ≤ l ∧ l < lg') ∧ (labelsOf code).Nodup ∧
    ∃ s', execFrag F diff .run code s = .ok (exitIf (kw.takes (k.test (n - 1))) tgt, s') ∧
      s'.m.store = upd s.m.store v.name (.int (n - 1)) ∧ s'.m.log = s.m.log ∧ s'.m.time = s.m.time := by
  have hrv := readArg_lowered F diff hs hv
  rw [hn] at hrv
  have hcj : ∀ tg : Goto, execFrag F diff .run [.countJmp mask k v.lowered tg.l tg.time] s =
      .ok (exitIf (k.test (n - 1)) tg, ⟨{ s.m with store := upd s.m.store v.name (.int (n - 1)) }, s.cmp⟩) := by
    intro tg
    cases htest : k.test (n - 1) <;> simp [execFrag, stepJ, hm, argVar_lowered, hrv, htest, exitIf]
  obtain ⟨hlg, hsh⟩ := shape_lowerCountJmp h
  refine ⟨hlg, hsh.range, hsh.nodup, ?_⟩
  revert h
  fun_cases lowerCountJmp I lg t mask kw v k tgt <;> intro h <;> cases h
  · exact ⟨_, hcj tgt, rfl, rfl, rfl⟩
  · -- `if (--x) goto skip; goto L; skip:`
    rename_i hj
    cases lowerJmp_ok hj
    refine ⟨_, execFrag_skip (t := t) (hcj ⟨lg, none⟩) hm (Nat.ne_of_gt htl), ?_⟩
    cases k.test (n - 1)
    · exact ⟨rfl, rfl, rfl⟩
    · exact ⟨rfl, rfl, ht.symm⟩

def CondOKT (g : Nat) : JCond → Prop
  | .expr e => IntT e ∧ belowT g e
  | .predec v _ => v.readTy = .int

theorem condOKT_of_condOK {g : Nat} : ∀ {c : JCond}, CondOK g c → CondOKT g c
  | .expr _, h => ⟨intT_of_intOnly h.1, belowT_of_exprBelow h.2⟩
  | .predec _ _, h => h

/-- `if|unless (c) goto L @ t` for `IntT` and counting conditions, executed from a state that agrees below `g0` (and on the
counter of a counting condition) with the store `σ` the source evaluates the condition in: the run that `lowerCondJump_sound`
speaks of, and the store stays a store of integers (counters and labels: `Lower.shape_lowerStmtJ`) -/
theorem lowerCondGoto_sound {F : FloatOps} {I : JIntrinsics} {db ab diff g0 g lg : Nat} {t : Int} {mask : Nat} {kw : Kw}
    {c : JCond} {tgt : Goto} {code : List JStmt} {g' lg' : Nat} {s : JM} {σ : Store} {taken : Bool} {σ' : Store}
    (hm : maskOn mask diff = true) (hg : g0 ≤ g) (hc : CondOKT g0 c) (hs : IntStore s.m.store) (ht : s.m.time = t)
    (htl : tgt.l < lg) (hst : ∀ x, below g0 x → s.m.store x = σ x)
    (hcv : ∀ v k, c = .predec v k → s.m.store v.name = σ v.name)
    (hsrc : evalCond F diff σ c = .ok (taken, σ'))
    (h : lowerCondGoto I db ab g lg t mask kw c tgt = .ok (code, g', lg')) :
    ∃ s', execFrag F diff .run code s = .ok (exitIf (kw.takes taken) tgt, s') ∧ IntStore s'.m.store ∧
      (∀ x, below g0 x → s'.m.store x = σ' x) ∧ s'.m.log = s.m.log ∧ s'.m.time = t := by
  cases c with
  | expr e =>
    obtain ⟨hi, hb⟩ := hc
    simp only [evalCond, ← evalS_frameT hi hb hst] at hsrc
    rcases hev : evalS F diff s.m.store e with val | x | x <;> simp only [hev, reduceCtorEq] at hsrc
    obtain ⟨v, rfl⟩ := evalS_intT hs hi hev
    simp only [Outcome.ok.injEq, Prod.mk.injEq] at hsrc
    obtain ⟨rfl, rfl⟩ := hsrc
    obtain ⟨s', hex, hframe, hlog, htime, hint⟩ :=
      lowerCondT_sound F I db ab diff _ g lg t mask kw e tgt code g' lg' s v hm hi (belowT_mono hi hg hb) hs hev ht htl h
    exact ⟨s', hex, hint, fun x hx => (hframe x (below_mono hg hx)).trans (hst x hx), hlog, htime.trans ht⟩
  | predec v k =>
    have hv : v.readTy = .int := hc
    have hvσ : evalS F diff σ (.var v) = .ok (s.m.store v.name) := by
      rw [← evalS_var F diff hs hv]; simp only [evalS, hcv v k rfl]
    simp only [evalCond, hvσ] at hsrc
    obtain ⟨n, hn⟩ := hs v.name
    simp only [hn, Outcome.ok.injEq, Prod.mk.injEq] at hsrc
    obtain ⟨rfl, rfl⟩ := hsrc
    simp only [lowerCondGoto] at h
    rcases hl : lowerCountJmp I lg t mask kw v k tgt with ⟨code', lg1⟩ | x | x <;>
      simp only [hl, reduceCtorEq] at h
    cases h
    obtain ⟨-, -, -, s', hex, hst', hlog, htime⟩ :=
      lowerCountJmp_sound F I diff lg t mask kw v k tgt _ _ s n hm hv hs hn ht htl hl
    exact ⟨s', hex, by rw [hst']; exact intStore_upd hs _ _, by rw [hst']; exact upd_agree hst _ _, hlog, htime.trans ht⟩

/-- **lowerCondJump_sound**: `if (c) goto L @ t` / `unless (c) goto L @ t` for every integer condition (all
comparison and logical operators, `!`, any nesting, operands of any complexity, plain integer expressions,
constants) and for the counting conditions `--x`, `--x != 0`, `--x > 0`, under every intrinsic table in which the
lowering succeeds (one conditional jump per comparison or the cmp + jmp pair; either counting jump), every
store of integers, difficulty and value of the two counters: the emitted fragment is left EITHER by a jump to
`L` (carrying the time `t` of the statement, if given) OR at its end; by the jump IFF the source statement
jumps (`evalCond`: condition non-zero for `if`, zero for `unless`; for `--x` the flavour's test of the
decremented value); every variable below the temp counter ends as the source leaves it (unchanged, except `x`
of `--x`, decremented exactly once); nothing is logged; the time is kept; the labels the fragment defines are
fresh (≥ the label counter) and pairwise different. -/
theorem lowerCondJump_sound (F : FloatOps) (I : JIntrinsics) (db ab diff g lg : Nat) (t : Int) (mask : Nat) (kw : Kw)
    (c : JCond) (tgt : Goto) (code : List JStmt) (g' lg' : Nat) (s : JM) (taken : Bool) (σ' : Store)
    (hm : maskOn mask diff = true) (hc : CondOK g c) (hs : IntStore s.m.store) (ht : s.m.time = t) (htl : tgt.l < lg)
    (hsrc : evalCond F diff s.m.store c = .ok (taken, σ'))
    (h : lowerCondGoto I db ab g lg t mask kw c tgt = .ok (code, g', lg')) :
    g ≤ g' ∧ lg ≤ lg' ∧ (∀ l ∈ labelsOf code, lg ≤ l ∧ l < lg') ∧ (labelsOf code).Nodup ∧
    ∃ s', execFrag F diff .run code s = .ok (exitIf (kw.takes taken) tgt, s') ∧
      (∀ x, below g x → s'.m.store x = σ' x) ∧ s'.m.log = s.m.log ∧ s'.m.time = s.m.time := by
  obtain ⟨hg, hl, hsh⟩ := shape_lowerStmtJ (st := .condGoto kw c tgt) h
  obtain ⟨s', hex, _, hst, hlog, htime⟩ :=
    lowerCondGoto_sound hm (Nat.le_refl g) (condOKT_of_condOK hc)
      hs ht htl (fun _ _ => rfl) (fun _ _ _ => rfl) hsrc h
  exact ⟨hg, hl, fun l hm => (hsh.range l hm).resolve_left List.not_mem_nil, hsh.nodup, s', hex, hst, hlog, htime.trans ht.symm⟩

/-- the same inside a whole lowered stream, for the program-counter machine `execJ` steps with (`Reach` is the
reflexive-transitive closure of its step function): if no label ≥ the label counter is defined before the
fragment, the machine started at the fragment either arrives at the statement after it (the source does not
jump) or at the place where the program defines `L`, with the time of the jump or of the label (the source
jumps) -/
theorem lowerCondJump_reach (F : FloatOps) (I : JIntrinsics) (db ab diff g lg : Nat) (t : Int) (mask : Nat) (kw : Kw)
    (c : JCond) (tgt : Goto) (code : List JStmt) (g' lg' : Nat) (s : JM) (taken : Bool) (σ' : Store) (pre post : List JStmt)
    (hm : maskOn mask diff = true) (hc : CondOK g c) (hs : IntStore s.m.store) (ht : s.m.time = t) (htl : tgt.l < lg)
    (hpre : ∀ l ∈ labelsOf pre, l < lg)
    (hsrc : evalCond F diff s.m.store c = .ok (taken, σ'))
    (h : lowerCondGoto I db ab g lg t mask kw c tgt = .ok (code, g', lg')) :
    ∃ s', (∀ x, below g x → s'.m.store x = σ' x) ∧ s'.m.log = s.m.log ∧ s'.m.time = s.m.time ∧
      (kw.takes taken = false → Reach F diff (pre ++ code ++ post) pre.length s (pre.length + code.length) s') ∧
      (kw.takes taken = true → ∀ i tl, findLabelJ (pre ++ code ++ post) tgt.l 0 = some (i, tl) →
        Reach F diff (pre ++ code ++ post) pre.length s i (s'.setTime (tgt.time.getD tl))) := by
  obtain ⟨_, _, hlab, hnd, s', hex, hframe, hlog, htime⟩ :=
    lowerCondJump_sound F I db ab diff g lg t mask kw c tgt code g' lg' s taken σ' hm hc hs ht htl hsrc h
  have hy : Hygienic pre code := ⟨hnd, fun l hl hp => Nat.lt_irrefl _ (Nat.lt_of_lt_of_le (hpre l hp) (hlab l hl).1)⟩
  refine ⟨s', hframe, hlog, htime, ?_, ?_⟩
  · intro hk
    rw [hk, exitIf_false] at hex
    exact execFrag_reach F diff pre code post hy code.length 0 s s' .fall rfl (Nat.zero_le _) hex
  · intro hk i tl hi
    rw [hk, exitIf_true] at hex
    exact execFrag_reach F diff pre code post hy code.length 0 s s' (.jump tgt.l tgt.time) rfl (Nat.zero_le _) hex i tl hi


mutual
def varRefs : SExpr → List VarRef
  | .var v => [v]
  | .unop _ e => varRefs e
  | .binop _ a b => varRefs a ++ varRefs b
  | .ternary c l r => varRefs c ++ varRefs l ++ varRefs r
  | .switch cs => varRefsList cs
  | _ => []
def varRefsList : List SExpr → List VarRef
  | [] => []
  | c :: cs => varRefs c ++ varRefsList cs
end

def tyOfRTy : RTy → Ty
  | .int => .int
  | .float => .float

/-- every variable of the condition holds a value of its own type and is below the temp counter -/
def CondTyped (σ : Store) (g : Nat) : JCond → Prop
  | .expr e => ∀ v ∈ varRefs e, (σ v.name).ty = tyOfRTy v.inherent ∧ below g v.name
  | .predec v _ => (σ v.name).ty = tyOfRTy v.inherent ∧ below g v.name

/-- float comparisons behave like an order (no NaN among the values compared): what `negate_comparison` needs -/
def FloatsOrdered (F : FloatOps) : Prop :=
  ∀ a b, F.le a b = !F.lt b a

/-- **conditional jumps as C02 states them** (NOT proved): ANY condition that the source evaluates - float
comparisons (given `FloatsOrdered`; `nan_negation_witness` shows that it cannot be dropped), casts and sigils,
difficulty switches and ternaries inside the condition -, from stores typed like their variables.
`lowerCondJump_sound` proves the integer fragment. -/
def lowerCondJump_full : Prop :=
  ∀ (F : FloatOps) (I : JIntrinsics) (db ab diff g lg : Nat) (t : Int) (mask : Nat) (kw : Kw) (c : JCond) (tgt : Goto)
    (code : List JStmt) (g' lg' : Nat) (s : JM) (taken : Bool) (σ' : Store),
    maskOn mask diff = true → FloatsOrdered F → CondTyped s.m.store g c → s.m.time = t → tgt.l < lg →
    evalCond F diff s.m.store c = .ok (taken, σ') →
    lowerCondGoto I db ab g lg t mask kw c tgt = .ok (code, g', lg') →
    ∃ s', execFrag F diff .run code s = .ok (exitIf (kw.takes taken) tgt, s') ∧
      (∀ x, below g x → s'.m.store x = σ' x) ∧ s'.m.log = s.m.log ∧ s'.m.time = s.m.time

/-- **ternaries as C02 states them** (NOT proved): `v op= e` for any assignment operator and any expression `e`
containing ternaries anywhere (in operands of operators, in conditions, in branches, in call arguments, in
difficulty switches), of either type.  `lowerAssignT_sound` proves it for integer expressions with ternaries at any
depth (`IntT`); `lowerTernary_sound` is the case `v = c ? l : r` without further ternaries, with the label facts. -/
def lowerTernary_full : Prop :=
  ∀ (F : FloatOps) (I : JIntrinsics) (db ab diff g lg : Nat) (t : Int) (mask : Nat) (v : VarRef) (op : AssignOp) (e : SExpr)
    (code : List JStmt) (g' lg' : Nat) (s : JM) (msrc : Machine),
    maskOn mask diff = true → FloatsOrdered F → CondTyped s.m.store g (.expr (.binop .add (.var v) e)) → s.m.time = t →
    runAssign F diff s.m v op e = .ok msrc →
    lowerAssignJ I db ab g lg t mask v op e = .ok (code, g', lg') →
    ∃ s', execFrag F diff .run code s = .ok (.fall, s') ∧ (∀ x, below g x → s'.m.store x = msrc.store x) ∧
      s'.m.log = msrc.log ∧ s'.m.time = msrc.time

/-! ### the hypotheses are satisfiable; the NaN witness -/

/-- a native conditional jump for every comparison, both counting jumps -/
def jNative : JIntrinsics := ⟨allNative, some 1, fun _ _ => some 4, fun _ => none, fun _ => none, fun _ => some 5⟩
/-- no single conditional jump: the cmp + jmp pair; arithmetic through the fallbacks; only `--x > 0` -/
def jTwoPart : JIntrinsics :=
  ⟨fallbacksOnly, some 1, fun _ _ => none, fun _ => some 6, fun _ => some 7, fun k => if k = .gt then some 5 else none⟩

/-- `(A < B * -(A + 1) && !(A == 3)) || B` -/
def sampleCond : SExpr :=
  .binop .lor
    (.binop .land (.binop .lt (.var rA) (.binop .mul (.var rB) (.unop .neg (.binop .add (.var rA) (.litI 1)))))
      (.unop .not (.binop .eq (.var rA) (.litI 3))))
    (.var rB)

theorem sampleCond_int : IntOnly sampleCond := by simp [sampleCond, IntOnly, rA, rB, VarRef.readTy]
theorem sampleCond_below : exprBelow 100 sampleCond := by simp [sampleCond, exprBelow, below, rA, rB]

example : IntOnly sampleCond := sampleCond_int
example : exprBelow 100 sampleCond := sampleCond_below
example : CondOK 100 (.expr sampleCond) :=
  ⟨sampleCond_int, sampleCond_below⟩
example : CondOK 100 (.predec rA .gt) := rfl

def shapeOf : Outcome (List JStmt × Gen × Nat) → Option (Nat × Gen × Nat)
  | .ok (c, g, lg) => some (c.length, g, lg)
  | _ => none

def exitOf : Outcome (Exit × JM) → Option Exit
  | .ok (e, _) => some e
  | _ => none

def takenOf : Outcome (Bool × Store) → Option Bool
  | .ok (b, _) => some b
  | _ => none

def codeOf : Outcome (List JStmt × Gen × Nat) → List JStmt
  | .ok (c, _, _) => c
  | _ => []

def all7 : JM := ⟨⟨fun _ => .int 7, [], 0⟩, none⟩

/-- the lowering succeeds under both tables and uses one temporary; `if` needs one skip label (for the `&&`),
`unless` two (the `||` is then the hard case as well) -/
example : shapeOf (lowerCondGoto jNative 255 0 100 1000 0 255 .kif (.expr sampleCond) ⟨7, none⟩) = some (10, 101, 1001) := by
  decide +kernel
example : shapeOf (lowerCondGoto jTwoPart 255 0 100 1000 0 255 .kunless (.expr sampleCond) ⟨7, some 30⟩) = some (15, 101, 1002) := by
  decide +kernel
/-- from the store "everything is 7" the condition is 7 (true): `if` jumps to label 7, `unless` falls through -/
example : takenOf (evalCond someFloats 0 all7.m.store (.expr sampleCond)) = some true := by decide +kernel
example : exitOf (execFrag someFloats 0 .run (codeOf (lowerCondGoto jNative 255 0 100 1000 0 255 .kif (.expr sampleCond) ⟨7, none⟩)) all7) =
    some (.jump 7 none) := by decide +kernel
example : exitOf (execFrag someFloats 0 .run (codeOf (lowerCondGoto jTwoPart 255 0 100 1000 0 255 .kunless (.expr sampleCond) ⟨7, some 30⟩)) all7) =
    some .fall := by decide +kernel
/-- `unless (--A > 0) goto 7` from A = 7: the counter becomes 6, no jump -/
example : exitOf (execFrag someFloats 0 .run (codeOf (lowerCondGoto jTwoPart 255 0 100 1000 0 255 .kunless (.predec rA .gt) ⟨7, none⟩)) all7) =
    some .fall := by decide +kernel
/-- `A = (A < B || !B) ? A / (B - 7) : A * B + 1` from "everything is 7": the condition is false, the first branch
(which divides by zero) is not evaluated -/
def sampleTernary : SExpr :=
  .ternary (.binop .lor (.binop .lt (.var rA) (.var rB)) (.unop .not (.var rB)))
    (.binop .div (.var rA) (.binop .sub (.var rB) (.litI 7)))
    (.binop .add (.binop .mul (.var rA) (.var rB)) (.litI 1))
example : shapeOf (lowerAssignJ jTwoPart 255 0 100 1000 0 255 rA .set sampleTernary) = some (15, 101, 1003) := by decide +kernel

def valueOf : Outcome Value → Option Int32
  | .ok (.int n) => some n
  | _ => none
example : valueOf (evalS someFloats 0 all7.m.store sampleTernary) = some 50 := by decide +kernel

def fA : VarRef := ⟨.reg 1010, none, .float⟩
def fB : VarRef := ⟨.reg 1011, none, .float⟩
/-- every register holds the bit pattern of a quiet NaN.  The witness below does not look at the bits: `someFloats` answers
`false` to every float comparison, which is how comparisons with a NaN operand behave -/
def allNaN : JM := ⟨⟨fun _ => .float 0x7FC00000, [], 0⟩, none⟩

/-- **the NaN witness**: `unless (A > B) goto 7` under float operations for which `A > B` and `A <= B` are both false (as
they are when an operand is a NaN; `someFloats` says so of all operands): the source jumps (`A > B` is false), the
emitted `if (A <= B) goto 7` does not.  So `FloatsOrdered` cannot be dropped from `lowerCondJump_full`; this is the open
finding `float-comparison-negated-by-compiler-sees-nan`. -/
theorem nan_negation_witness :
    takenOf (evalCond someFloats 0 allNaN.m.store (.expr (.binop .gt (.var fA) (.var fB)))) = some false ∧
    Kw.kunless.takes false = true ∧
    exitOf (execFrag someFloats 0 .run
      (codeOf (lowerCondGoto jNative 255 0 100 1000 0 255 .kunless (.expr (.binop .gt (.var fA) (.var fB))) ⟨7, none⟩)) allNaN) =
      some .fall := by
  refine ⟨by decide +kernel, rfl, by decide +kernel⟩

/-- **a jump instruction without a time argument loses the explicit time** (`JumpArgOrder::Loc`, e.g. TH06 ANM
`ins_5`): `goto L @ t` and `goto L` are encoded identically, so the written instruction cannot behave like the
source `goto L @ t` unless `t` happens to be the time of `L`.  `populate_time_args` drops the time without a
diagnostic (finding `explicit-jump-time-dropped-when-jump-has-no-time-argument`); the theorems above are about
the lowered stream BEFORE this encoding, where the time is still there. -/
theorem loc_order_drops_time (l : Nat) (t : Int) : jumpArgs .loc l (some t) = jumpArgs .loc l none := rfl

/-- with a time argument the two are different instructions (so the loss is specific to `Loc`) -/
example : jumpArgs .locTime 3 (some 10) ≠ jumpArgs .locTime 3 none := by simp [jumpArgs]

end TruthModel.C02
