import TruthModel.Lemmas.FmtLayout
import TruthModel.Model.FmtStmt
/-
C08, layout of statements (`Model/FmtStmt.lean` `rKind`).  `T` reads off a formatter state what the
parser sees of the output so far; every writer appends to it the tokens the printer (`printKind`)
gives, whatever the width.  The only failure is the formatter's assertion on labels, which a label
without calls cannot trip.
-/
namespace TruthModel.C08
open TruthModel TruthModel.Fmt TruthModel.FmtExpr TruthModel.FmtStmt

attribute [simp] tk
attribute [local simp] docs_toks args_toks tokTexts_append tokTexts_cons

@[simp] theorem ct_ofList_nil : ct (XDocs.ofList []) = [] := rfl
@[simp] theorem ct_ofList_cons (d : XDoc) (r : List XDoc) : ct (XDocs.ofList (d :: r)) = ct (.cons d (XDocs.ofList r)) := rfl

theorem tokTexts_singleton (t : Tok) : tokTexts [t] = [.tok (tokChars t)] := rfl

@[simp] theorem jumpDocs_ct (j : Jump) : ct (jumpDocs j) = tokTexts (jumpToks j) := by
  cases j with
  | brk => simp [jumpDocs, jumpToks]
  | goto d t => cases t <;> simp [jumpDocs, jumpToks]

@[simp] theorem diffDocs_ct (d : Option (List Char)) : ct (diffDocs d) = tokTexts (diffToks d) := by
  cases d <;> simp [diffDocs, diffToks]

/-- the documents write the comma before a variable, the tokens after the one before it -/
@[simp] theorem declDocs_ct (vars : List (Var × Option Expr)) (first : Bool) :
    ct (declDocs vars first) = tokTexts ((if first || vars.isEmpty then [] else [tComma]) ++ declToks vars) := by
  fun_induction declDocs vars first with
  | case1 first => simp [declToks]
  | case2 v rest first ih => simp [declToks, ih, apply_ite ct, apply_ite tokTexts]
  | case3 v e rest first ih => simp [declToks, ih, apply_ite ct, apply_ite tokTexts]

@[simp] theorem asyncDocs_ct (as : Async) : ct (asyncDocs as) = tokTexts (asyncToks as) := by
  cases as <;> simp [asyncDocs, asyncToks]

@[simp] theorem clobberDocs_ct (clb : Option Var) : ct (clobberDocs clb) = tokTexts (clobberToks clb) := by
  cases clb <;> simp [clobberDocs, clobberToks]

@[simp] theorem condDocs_ct (kw : Tok) (c : Expr) :
    ct (condDocs kw c) = .tok (tokChars kw) :: .tok (tokChars tLp) :: (tokTexts (printE true c) ++ [.tok (tokChars tRp)]) := by
  simp [condDocs]

def T (st : FSt) : List Piece := commaTok (ess st.l.out)

theorem T_docs (tw : Nat) (ds : XDocs) (st : FSt) : T (st.docs tw ds) = T st ++ ct ds :=
  (congrArg commaTok (xblkSeq_ess tw ds st.l)).trans (commaTok_append ..)

theorem T_tok (t : Tok) (st : FSt) : T (st.tok t) = T st ++ [.tok (tokChars t)] :=
  (congrArg commaTok (ess_xw st.l _)).trans (commaTok_append ..)

theorem T_nextLine (st : FSt) : T st.nextLine = T st := by
  unfold FSt.nextLine
  split
  · rfl
  · exact congrArg commaTok (ess_newline st.l)

theorem T_openB (st : FSt) : T st.openB = T st ++ [.tok (tokChars tLbrace)] := by
  unfold FSt.openB
  exact (T_nextLine (st.tok tLbrace)).trans (T_tok tLbrace st)

theorem T_closeB (st : FSt) : T st.closeB = T st ++ [.tok (tokChars tRbrace)] :=
  T_tok tRbrace { st with l := { st.l with indent := st.l.indent - 4 } }

theorem T_label (tw : Nat) (ds : XDocs) (st st' : FSt) (h : st.label tw ds = .ok st') : T st' = T st ++ ct ds := by
  unfold FSt.label at h
  by_cases hf : st.l.fresh = true
  · rw [if_pos hf] at h
    dsimp only at h
    split at h
    · cases h
      exact (T_nextLine _).trans (T_docs tw ds { st with l := { st.l with fresh := false, col := 0 } })
    · cases h
  · rw [if_neg hf] at h
    cases h
    exact (congrArg commaTok ((ess_xw _ .space).trans (List.append_nil _))).trans (T_docs tw ds st)

theorem ok_of_match {o : Outcome FSt} {F : FSt → Outcome FSt} {st' : FSt}
    (h : (match o with | .ok st1 => F st1 | other => other) = .ok st') : ∃ st1, o = .ok st1 ∧ F st1 = .ok st' := by
  cases o with
  | ok st1 => exact ⟨st1, rfl, h⟩
  | err c => cases h
  | panic c => cases h

/-- for the statements that end in a braced block (`ih`: the block's items, written after `openB`) -/
theorem T_braced {st0 st1 : FSt} {ts : List Tok} (ih : T st1 = T st0.openB ++ tokTexts ts) :
    T st1.closeB = T st0 ++ tokTexts (braces ts) := by
  rw [T_closeB, ih, T_openB, braces, tokTexts_cons, tokTexts_append, tokTexts_singleton, List.append_assoc,
    List.append_assoc]
  rfl

/-- for the statements that are one run of documents (`h` is `rKind tw k st = .ok st'` unfolded) -/
theorem T_of_docs {tw : Nat} {ds : XDocs} {st st' : FSt} {ts : List Tok} (h : Outcome.ok (st.docs tw ds) = .ok st')
    (hd : ct ds = tokTexts ts) : T st' = T st ++ tokTexts ts := by
  cases h
  rw [T_docs, hd]

mutual
theorem rKind_toks (tw : Nat) : ∀ (k : Kind) (st st' : FSt), rKind tw k st = .ok st' → T st' = T st ++ tokTexts (printKind k) := by
  intro k st st' h
  cases k with
  | ret oe =>
    cases oe with
    | none => exact T_of_docs h rfl
    | some e => exact T_of_docs h (by simp [printKind])
  | condChain kw c b ch =>
    obtain ⟨st1, hR, h⟩ := ok_of_match h
    rw [rChain_toks tw ch _ _ h, T_braced (rItems_toks tw b _ _ hR), T_docs]
    simp [printKind]
  | loop b | while_ c b | times clb n b =>
    obtain ⟨st1, hR, h⟩ := ok_of_match h
    cases h
    rw [T_braced (rItems_toks tw b _ _ hR), T_docs]
    simp [printKind]
  | doWhile b c =>
    obtain ⟨st1, hR, h⟩ := ok_of_match h
    cases h
    rw [T_docs, T_braced (rItems_toks tw b _ _ hR), T_docs]
    simp [printKind]
  | block b =>
    obtain ⟨st1, hR, h⟩ := ok_of_match h
    cases h
    exact T_braced (rItems_toks tw b _ _ hR)
  | callSub atSym as fn args =>
    exact T_of_docs h (by simp [printKind, apply_ite ct, apply_ite tokTexts])
  | label n | absTime t | relTime d =>
    obtain ⟨st1, hR, h⟩ := ok_of_match h
    cases h
    refine (T_label tw _ _ _ hR).trans ?_
    simp [printKind]
  | interrupt e =>
    obtain ⟨st1, hR, h⟩ := ok_of_match h
    cases h
    have : T (if st.prevInt then st else st.nextLine) = T st := by
      cases st.prevInt
      · exact T_nextLine st
      · rfl
    refine ((T_label tw _ _ _ hR).trans (congrArg (· ++ _) this)).trans ?_
    simp [printKind]
  | _ => exact T_of_docs h (by simp [printKind])
theorem rItems_toks (tw : Nat) : ∀ (b : Block) (st st' : FSt), rItems tw b st = .ok st' → T st' = T st ++ tokTexts (printStmts b) := by
  intro b st st' h
  cases b with
  | nil =>
    cases h
    exact (List.append_nil _).symm
  | cons d k b =>
    obtain ⟨st1, hR, h⟩ := ok_of_match h
    rw [rItems_toks tw b _ _ h, T_nextLine, rKind_toks tw k _ _ hR, T_docs, diffDocs_ct]
    simp [printStmts]
theorem rChain_toks (tw : Nat) : ∀ (c : Chain) (st st' : FSt), rChain tw c st = .ok st' → T st' = T st ++ tokTexts (printChain c) := by
  intro c st st' h
  cases c with
  | nil =>
    cases h
    exact (List.append_nil _).symm
  | els b =>
    obtain ⟨st1, hR, h⟩ := ok_of_match h
    cases h
    rw [T_braced (rItems_toks tw b _ _ hR), T_docs]
    simp [printChain]
  | elif kw c b ch =>
    obtain ⟨st1, hR, h⟩ := ok_of_match h
    rw [rChain_toks tw ch _ _ h, T_braced (rItems_toks tw b _ _ hR), T_docs]
    simp [printChain]
end

theorem ok_of_pieces {o : Outcome FSt} {f : FSt → List Piece} {ps : List Piece}
    (h : (match o with | .ok st => .ok (f st) | .err c => .err c | .panic p => .panic p) = Outcome.ok ps) :
    ∃ st, o = .ok st ∧ f st = ps := by
  cases o with
  | ok st => exact ⟨st, rfl, Outcome.ok.inj h⟩
  | err c => cases h
  | panic c => cases h

/-- **layout of a statement changes only white space, line breaks and trailing commas**: at every
width at which the formatter does not trip its label assertion, the laid-out pieces contain exactly
the tokens of `printStmt s` (the tokens `stmt_print_parse` is about) -/
theorem stmt_layout_tokens (w : Nat) (s : Stmt) (ps : List Piece) (h : renderStmtPieces w s = .ok ps) :
    commaTok (ess ps) = tokTexts (printStmt s) := by
  obtain ⟨st, hR, rfl⟩ := ok_of_pieces h
  rw [printStmt, tokTexts_append, ← diffDocs_ct]
  exact (rKind_toks (w - 1) s.kind _ _ hR).trans (congrArg (· ++ _) (T_docs ..))

theorem block_layout_tokens (w : Nat) (b : Block) (ps : List Piece) (h : renderBlockPieces w b = .ok ps) :
    commaTok (ess ps) = tokTexts (printBlock b) := by
  obtain ⟨st, hR, rfl⟩ := ok_of_pieces h
  exact T_braced (rItems_toks (w - 1) b _ _ hR)

theorem stmt_layout_width_independent (w w' : Nat) (s : Stmt) (ps ps' : List Piece)
    (h : renderStmtPieces w s = .ok ps) (h' : renderStmtPieces w' s = .ok ps') : commaTok (ess ps) = commaTok (ess ps') := by
  rw [stmt_layout_tokens w s ps h, stmt_layout_tokens w' s ps' h']

theorem block_layout_width_independent (w w' : Nat) (b : Block) (ps ps' : List Piece)
    (h : renderBlockPieces w b = .ok ps) (h' : renderBlockPieces w' b = .ok ps') : commaTok (ess ps) = commaTok (ess ps') := by
  rw [block_layout_tokens w b ps h, block_layout_tokens w' b ps' h']

/-! ## when the label assertion cannot fire

The formatter's only panic on statements is a line break inside a label written in the margin;
a line break needs an argument list.  A statement whose interrupt labels and relative time labels
contain no call is therefore printed at every width. -/

mutual
def noCall : Expr → Bool
  | .ternary c l r => noCall c && noCall l && noCall r
  | .binop a _ b => noCall a && noCall b
  | .unop _ x => noCall x
  | .call _ _ _ => false
  | .diffSwitch cs => noCallCs cs
  | _ => true
def noCallCs : Cases → Bool
  | .nil => true
  | .blank cs => noCallCs cs
  | .some e cs => noCall e && noCallCs cs
end

mutual
def flatD : XDoc → Bool
  | .tok _ => true
  | .sp => true
  | .args _ => false
  | .seq ds => flatDs ds
def flatDs : XDocs → Bool
  | .nil => true
  | .cons d ds => flatD d && flatDs ds
end

theorem nlCount_append (a b : List Piece) : nlCount (a ++ b) = nlCount a + nlCount b := by
  rw [nlCount, List.filter_append, List.length_append]
  rfl

theorem nlCount_xw (st : LSt) (p : Piece) (hp : nlCount [p] = 0) : nlCount (xw st p).out = nlCount st.out := by
  unfold xw
  cases st.fresh
  · exact (nlCount_append st.out [p]).trans (congrArg _ hp)
  · exact (nlCount_append st.out [.pad st.indent, p]).trans (congrArg _ hp)

mutual
theorem xblk_flat (tw : Nat) : ∀ (d : XDoc) (st : LSt), flatD d = true → nlCount (xblk tw d st).out = nlCount st.out := by
  intro d st h
  cases d with
  | tok k | sp => exact nlCount_xw st _ rfl
  | args items => cases h
  | seq ds => exact xblkSeq_flat tw ds st h
theorem xblkSeq_flat (tw : Nat) : ∀ (ds : XDocs) (st : LSt), flatDs ds = true → nlCount (xblkSeq tw ds st).out = nlCount st.out := by
  intro ds st h
  cases ds with
  | nil => rfl
  | cons d ds =>
    have h := Bool.and_eq_true_iff.1 h
    exact (xblkSeq_flat tw ds _ h.2).trans (xblk_flat tw d st h.1)
end

theorem flat_append (a b : XDocs) : flatDs (a.append b) = (flatDs a && flatDs b) := by
  fun_induction XDocs.append a b with
  | case1 b => rfl
  | case2 d ds b ih => rw [flatDs, flatDs, ih, Bool.and_assoc]

theorem flat_append' {a b : XDocs} (ha : flatDs a = true) (hb : flatDs b = true) : flatDs (a.append b) = true := by
  rw [flat_append, ha, hb]; rfl

theorem flat_optSp (b : Bool) : flatDs (if b = true then XDocs.cons .sp .nil else .nil) = true := by
  cases b <;> rfl

theorem flat_ofToks (l : List Tok) : flatDs (XDocs.ofToks l) = true := by
  induction l with
  | nil => rfl
  | cons t r ih => exact ih

theorem flat_wrapD (sup : Bool) (ds : XDocs) (h : flatDs ds = true) : flatDs (wrapD sup ds) = true := by
  cases sup
  · exact flat_append' h rfl
  · exact h

mutual
theorem exprDocs_flat : ∀ (e : Expr) (sup : Bool), noCall e = true → flatDs (exprDocs sup e) = true := by
  intro e sup h
  cases e with
  | ternary c l r =>
    have h := Bool.and_eq_true_iff.1 h
    have h1 := Bool.and_eq_true_iff.1 h.1
    exact flat_wrapD _ _ (flat_append' (exprDocs_flat c false h1.1)
      (flat_append' (exprDocs_flat l false h1.2) (exprDocs_flat r false h.2)))
  | binop a op b =>
    have h := Bool.and_eq_true_iff.1 h
    exact flat_wrapD _ _ (flat_append' (exprDocs_flat a false h.1) (exprDocs_flat b false h.2))
  | unop op x =>
    rw [exprDocs]
    split
    · exact flat_wrapD _ _ (exprDocs_flat x false h)
    · exact flat_append' (exprDocs_flat x true h) rfl
  | call name ps as => cases h
  | diffSwitch cs => exact flat_wrapD _ _ (flat_append' (flat_optSp _) (flat_append' (caseDocs_flat cs h) (flat_optSp _)))
  | litString s => rfl
  | _ => exact flat_ofToks _
theorem caseDocs_flat : ∀ (cs : Cases), noCallCs cs = true → flatDs (caseDocs cs) = true := by
  intro cs h
  cases cs with
  | nil => rfl
  | blank cs => exact caseDocsT_flat cs h
  | some e cs =>
    have h := Bool.and_eq_true_iff.1 h
    exact flat_append' (exprDocs_flat e false h.1) (caseDocsT_flat cs h.2)
theorem caseDocsT_flat : ∀ (cs : Cases), noCallCs cs = true → flatDs (caseDocsT cs) = true := by
  intro cs h
  cases cs with
  | nil => rfl
  | blank cs => exact caseDocsT_flat cs h
  | some e cs =>
    have h := Bool.and_eq_true_iff.1 h
    exact flat_append' (exprDocs_flat e false h.1) (caseDocsT_flat cs h.2)
end

theorem label_ok (tw : Nat) (ds : XDocs) (st : FSt) (h : flatDs ds = true) : ∃ st', st.label tw ds = .ok st' := by
  unfold FSt.label
  cases st.l.fresh
  · exact ⟨_, rfl⟩
  · exact ⟨_, if_pos (xblkSeq_flat tw ds _ h)⟩

mutual
/-- the interrupt labels and relative time labels of the statement contain no call -/
def FlatK : Kind → Bool
  | .condChain _ _ b rest => FlatB b && FlatC rest
  | .loop b => FlatB b
  | .while_ _ b => FlatB b
  | .doWhile b _ => FlatB b
  | .times _ _ b => FlatB b
  | .block b => FlatB b
  | .interrupt e => noCall e
  | .relTime d => noCall d
  | _ => true
def FlatB : Block → Bool
  | .nil => true
  | .cons _ k rest => FlatK k && FlatB rest
def FlatC : Chain → Bool
  | .nil => true
  | .els b => FlatB b
  | .elif _ _ b rest => FlatB b && FlatC rest
end

theorem match_ok {o : Outcome FSt} {F : FSt → Outcome FSt} (h : ∃ st1, o = .ok st1) (hF : ∀ st1, ∃ st', F st1 = .ok st') :
    ∃ st', (match o with | .ok st1 => F st1 | other => other) = .ok st' := by
  obtain ⟨st1, rfl⟩ := h
  exact hF st1

mutual
theorem rKind_ok (tw : Nat) : ∀ (k : Kind) (st : FSt), FlatK k = true → ∃ st', rKind tw k st = .ok st' := by
  intro k st h
  cases k with
  | ret oe => cases oe <;> exact ⟨_, rfl⟩
  | condChain kw c b ch =>
    have h := Bool.and_eq_true_iff.1 h
    exact match_ok (rItems_ok tw b _ h.1) fun _ => rChain_ok tw ch _ h.2
  | loop b | while_ c b | doWhile b c | times clb n b | block b =>
    exact match_ok (rItems_ok tw b _ h) fun _ => ⟨_, rfl⟩
  | label n => exact match_ok (label_ok tw _ _ rfl) fun _ => ⟨_, rfl⟩
  | interrupt e | relTime e =>
    exact match_ok (label_ok tw _ _ (flat_append' (exprDocs_flat e false h) rfl)) fun _ => ⟨_, rfl⟩
  | absTime t => exact match_ok (label_ok tw _ _ (flat_append' (flat_ofToks _) rfl)) fun _ => ⟨_, rfl⟩
  | _ => exact ⟨_, rfl⟩
theorem rItems_ok (tw : Nat) : ∀ (b : Block) (st : FSt), FlatB b = true → ∃ st', rItems tw b st = .ok st' := by
  intro b st h
  cases b with
  | nil => exact ⟨_, rfl⟩
  | cons d k b =>
    have h := Bool.and_eq_true_iff.1 h
    exact match_ok (rKind_ok tw k _ h.1) fun _ => rItems_ok tw b _ h.2
theorem rChain_ok (tw : Nat) : ∀ (c : Chain) (st : FSt), FlatC c = true → ∃ st', rChain tw c st = .ok st' := by
  intro c st h
  cases c with
  | nil => exact ⟨_, rfl⟩
  | els b => exact match_ok (rItems_ok tw b _ h) fun _ => ⟨_, rfl⟩
  | elif kw c b ch =>
    have h := Bool.and_eq_true_iff.1 h
    exact match_ok (rItems_ok tw b _ h.1) fun _ => rChain_ok tw ch _ h.2
end

theorem stmt_renders (w : Nat) (s : Stmt) (h : FlatK s.kind = true) : ∃ ps, renderStmtPieces w s = .ok ps := by
  obtain ⟨st, hst⟩ := rKind_ok (w - 1) s.kind (FSt.init.docs (w - 1) (diffDocs s.diff)) h
  exact ⟨st.l.out, by simp only [renderStmtPieces, hst]⟩

theorem block_renders (w : Nat) (b : Block) (h : FlatB b = true) : ∃ ps, renderBlockPieces w b = .ok ps := by
  obtain ⟨st, hst⟩ := rItems_ok (w - 1) b FSt.init.openB h
  exact ⟨st.closeB.l.out, by simp only [renderBlockPieces, hst]⟩

end TruthModel.C08
