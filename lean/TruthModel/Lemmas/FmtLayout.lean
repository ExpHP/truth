import TruthModel.Model.FmtExpr
/-
C08, layout of nested lists (`Model/Fmt.lean` `blk`) and of expressions (`Model/FmtExpr.lean` `xblk`).
The inline-vs-block decision of `fmt_comma_separated` (`try_inline`, `backtrack_inline_if_long`) changes
only white space and the trailing comma: `ess` keeps what the parser sees of the output (tokens and
separating commas; the grammar's `SeparatedTrailing` also accepts the trailing comma of the block style,
which `ess` drops), and at every width `ess` of the output is the token sequence of the document, for
an expression the tokens of `printExpr`.  `xblk` is `blk` again with sequences, `(` `)` for the brackets and
columns counted in bytes (`xw`) instead of characters (`LSt.write`); the second part of the file repeats the
first for it.  The statement layer rests on the second part and on the five lemmas that both parts use (`ess_append`,
`ess_newline`, `ess_sep`, `ess_with_indent`, `some_of_match`); the rest of the first part serves `layout_tokens` and the
driver's `layout` command.
-/
namespace TruthModel.C08
open TruthModel TruthModel.Fmt

theorem ess_append (a b : List Piece) : ess (a ++ b) = ess a ++ ess b := List.filter_append ..

theorem ess_write (st : LSt) (p : Piece) : ess (st.write p).out = ess st.out ++ ess [p] := by
  unfold LSt.write
  cases st.fresh
  · exact ess_append st.out [p]
  · exact ess_append st.out [.pad st.indent, p]

theorem ess_newline (st : LSt) : ess st.newline.out = ess st.out :=
  (ess_append st.out [.nl]).trans (List.append_nil _)

/-- the comma after the last item of the block style is layout -/
theorem ess_sep (last : Bool) : ess [if last then .tcomma else .comma] = if last then [] else [.comma] := by
  cases last <;> rfl

/-- a stage that may ask for a line break, then a continuation: both succeeded -/
theorem some_of_match {o : Option LSt} {F : LSt → Option LSt} {st' : LSt}
    (h : (match o with | none => none | some st1 => F st1) = some st') : ∃ st1, o = some st1 ∧ F st1 = some st' := by
  cases o with
  | none => cases h
  | some st1 => exact ⟨st1, rfl, h⟩

mutual
theorem inl_ess (tw : Nat) : ∀ (d : Doc) (st st' : LSt), inl tw d st = some st' →
    ess st'.out = ess st.out ++ d.toks := by
  intro d st st' h
  cases d with
  | atom s =>
    cases h
    exact ess_write st (.tok s)
  | list op cl items =>
    obtain ⟨st1, h1, h⟩ := some_of_match h
    cases (Option.ite_none_left_eq_some.1 h).2
    rw [ess_write, inlItems_ess tw items true _ _ h1, ess_write, List.append_assoc, List.append_assoc]
    rfl
theorem inlItems_ess (tw : Nat) : ∀ (ds : Docs) (first : Bool) (st st' : LSt), inlItems tw ds first st = some st' →
    ess st'.out = ess st.out ++ ds.toks first := by
  intro ds first st st' h
  cases ds with
  | nil =>
    cases h
    exact (List.append_nil _).symm
  | cons d ds =>
    obtain ⟨st1, h1, h⟩ := some_of_match h
    rw [inlItems_ess tw ds false _ _ (Option.ite_none_left_eq_some.1 h).2, inl_ess tw d _ _ h1, Docs.toks]
    cases first
    · show ess ((st.write .comma).write .space).out ++ _ ++ _ = _
      rw [ess_write, ess_write, List.append_assoc, List.append_assoc, List.append_assoc]
      rfl
    · exact List.append_assoc ..
end

/-- the tokens of an item list, a separator after every item but the last (as the block style writes them) -/
def toksSep : Docs → List Piece
  | .nil => []
  | .cons d ds => d.toks ++ (if ds.isNil then [] else [.comma]) ++ toksSep ds

theorem toks_false (ds : Docs) : ds.toks false = if ds.isNil then [] else .comma :: ds.toks true := by
  cases ds <;> rfl

theorem toks_true (ds : Docs) : ds.toks true = toksSep ds := by
  fun_induction toksSep ds with
  | case1 => rfl
  | case2 d ds ih =>
    rw [Docs.toks, toks_false, ih, if_pos rfl]
    cases ds with
    | nil => exact (List.append_nil _).symm
    | cons d' ds' => exact (List.append_assoc d.toks [.comma] _).symm

theorem ess_with_indent (st : LSt) (n : Nat) : ess ({ st with indent := n }).out = ess st.out := rfl

mutual
theorem blk_ess (tw : Nat) : ∀ (d : Doc) (st : LSt), ess (blk tw d st).out = ess st.out ++ d.toks := by
  intro d st
  cases d with
  | atom s => exact ess_write st (.tok s)
  | list op cl items =>
    rw [blk]
    split
    · rename_i st' h
      exact inl_ess tw _ _ _ h
    · rw [ess_write, ess_with_indent, blkItems_ess tw items, ess_with_indent, ess_newline, ess_write, Doc.toks, toks_true,
        List.append_assoc, List.append_assoc]
      rfl
theorem blkItems_ess (tw : Nat) : ∀ (ds : Docs) (st : LSt), ess (blkItems tw ds st).out = ess st.out ++ toksSep ds := by
  intro ds st
  cases ds with
  | nil => exact (List.append_nil _).symm
  | cons d ds =>
    rw [blkItems, blkItems_ess tw ds, ess_newline, ess_write, blk_ess tw d, ess_sep, toksSep, List.append_assoc,
      List.append_assoc, List.append_assoc]
end

/-- **layout changes only whitespace and trailing commas** -/
theorem layout_tokens (w : Nat) (d : Doc) : ess (renderPieces w d) = d.toks :=
  blk_ess (w - 1) d LSt.init

theorem layout_width_independent (w w' : Nat) (d : Doc) : ess (renderPieces w d) = ess (renderPieces w' d) := by
  rw [layout_tokens, layout_tokens]

example : render 6 (.list ['['] [']'] (.cons (.atom ['1', '0']) (.cons (.atom ['2', '3']) .nil))) = "[\n    10,\n    23,\n]".toList := by
  rw [String.toList_ofList]; decide +kernel
example : render 9 (.list ['['] [']'] (.cons (.atom ['1', '0']) (.cons (.atom ['2', '3']) .nil))) = "[10, 23]".toList := by
  rw [String.toList_ofList]; decide +kernel

open TruthModel.FmtExpr

theorem ess_xw (st : LSt) (p : Piece) : ess (xw st p).out = ess st.out ++ ess [p] := by
  unfold xw
  cases st.fresh
  · exact ess_append st.out [p]
  · exact ess_append st.out [.pad st.indent, p]

mutual
theorem xinl_ess (tw : Nat) : ∀ (d : XDoc) (st st' : LSt), xinl tw d st = some st' →
    ess st'.out = ess st.out ++ d.toks := by
  intro d st st' h
  cases d with
  | tok k | sp =>
    cases h
    exact ess_xw st _
  | args items =>
    obtain ⟨st1, h1, h⟩ := some_of_match h
    cases (Option.ite_none_left_eq_some.1 h).2
    rw [ess_xw, xinlItems_ess tw items true _ _ h1, ess_xw, List.append_assoc, List.append_assoc]
    rfl
  | seq ds => exact xinlSeq_ess tw ds st st' h
theorem xinlItems_ess (tw : Nat) : ∀ (ds : XDocs) (first : Bool) (st st' : LSt), xinlItems tw ds first st = some st' →
    ess st'.out = ess st.out ++ ds.toksItems first := by
  intro ds first st st' h
  cases ds with
  | nil =>
    cases h
    exact (List.append_nil _).symm
  | cons d ds =>
    obtain ⟨st1, h1, h⟩ := some_of_match h
    rw [xinlItems_ess tw ds false _ _ (Option.ite_none_left_eq_some.1 h).2, xinl_ess tw d _ _ h1, XDocs.toksItems]
    cases first
    · show ess (xw (xw st .comma) .space).out ++ _ ++ _ = _
      rw [ess_xw, ess_xw, List.append_assoc, List.append_assoc, List.append_assoc]
      rfl
    · exact List.append_assoc ..
theorem xinlSeq_ess (tw : Nat) : ∀ (ds : XDocs) (st st' : LSt), xinlSeq tw ds st = some st' →
    ess st'.out = ess st.out ++ ds.toksSeq := by
  intro ds st st' h
  cases ds with
  | nil =>
    cases h
    exact (List.append_nil _).symm
  | cons d ds =>
    obtain ⟨st1, h1, h⟩ := some_of_match h
    rw [xinlSeq_ess tw ds _ _ h, xinl_ess tw d _ _ h1]
    exact List.append_assoc ..
end

def xtoksSep : XDocs → List Piece
  | .nil => []
  | .cons d ds => d.toks ++ (if ds.isNil then [] else [.comma]) ++ xtoksSep ds

theorem toksItems_false (ds : XDocs) :
    ds.toksItems false = if ds.isNil then [] else .comma :: ds.toksItems true := by
  cases ds <;> rfl

theorem toksItems_true (ds : XDocs) : ds.toksItems true = xtoksSep ds := by
  fun_induction xtoksSep ds with
  | case1 => rfl
  | case2 d ds ih =>
    rw [XDocs.toksItems, toksItems_false, ih, if_pos rfl]
    cases ds with
    | nil => exact (List.append_nil _).symm
    | cons d' ds' => exact (List.append_assoc d.toks [.comma] _).symm

mutual
theorem xblk_ess (tw : Nat) : ∀ (d : XDoc) (st : LSt), ess (xblk tw d st).out = ess st.out ++ d.toks := by
  intro d st
  cases d with
  | tok k | sp => exact ess_xw st _
  | args items =>
    rw [xblk]
    split
    · rename_i st' h
      exact xinl_ess tw _ _ _ h
    · rw [ess_xw, ess_with_indent, xblkItems_ess tw items, ess_with_indent, ess_newline, ess_xw, XDoc.toks, toksItems_true,
        List.append_assoc, List.append_assoc]
      rfl
  | seq ds => exact xblkSeq_ess tw ds st
theorem xblkItems_ess (tw : Nat) : ∀ (ds : XDocs) (st : LSt), ess (xblkItems tw ds st).out = ess st.out ++ xtoksSep ds := by
  intro ds st
  cases ds with
  | nil => exact (List.append_nil _).symm
  | cons d ds =>
    rw [xblkItems, xblkItems_ess tw ds, ess_newline, ess_xw, xblk_ess tw d, ess_sep, xtoksSep, List.append_assoc,
      List.append_assoc, List.append_assoc]
theorem xblkSeq_ess (tw : Nat) : ∀ (ds : XDocs) (st : LSt), ess (xblkSeq tw ds st).out = ess st.out ++ ds.toksSeq := by
  intro ds st
  cases ds with
  | nil => exact (List.append_nil _).symm
  | cons d ds =>
    rw [xblkSeq, xblkSeq_ess tw ds, xblk_ess tw d]
    exact List.append_assoc ..
end

/-- **layout of an expression changes only white space and trailing commas** -/
theorem expr_layout_tokens (w : Nat) (e : Expr) : ess (renderExprPieces w e) = (exprDocs false e).toksSeq :=
  xblkSeq_ess (w - 1) (exprDocs false e) LSt.init

theorem expr_layout_width_independent (w w' : Nat) (e : Expr) :
    ess (renderExprPieces w e) = ess (renderExprPieces w' e) := by
  rw [expr_layout_tokens, expr_layout_tokens]

/-- a separating comma as the token it is -/
def commaTok (ps : List Piece) : List Piece :=
  ps.map fun p => match p with
    | .comma => .tok [',']
    | p => p

def tokTexts (l : List Tok) : List Piece := l.map fun t => .tok (tokChars t)

theorem commaTok_append (a b : List Piece) : commaTok (a ++ b) = commaTok a ++ commaTok b := List.map_append
theorem tokTexts_append (a b : List Tok) : tokTexts (a ++ b) = tokTexts a ++ tokTexts b := List.map_append
theorem tokTexts_cons (t : Tok) (b : List Tok) : tokTexts (t :: b) = .tok (tokChars t) :: tokTexts b := rfl
@[simp] theorem tokTexts_nil : tokTexts [] = [] := rfl
@[simp] theorem commaTok_nil : commaTok [] = [] := rfl

/-- the tokens a run of documents denotes, separating commas as tokens -/
def ct (ds : XDocs) : List Piece := commaTok ds.toksSeq

theorem ct_cons (d : XDoc) (ds : XDocs) : ct (.cons d ds) = commaTok d.toks ++ ct ds := commaTok_append ..

@[simp] theorem ct_nil : ct .nil = [] := rfl
@[simp] theorem ct_cons_tok (t : Tok) (ds : XDocs) : ct (.cons (.tok t) ds) = .tok (tokChars t) :: ct ds := ct_cons ..
@[simp] theorem ct_cons_sp (ds : XDocs) : ct (.cons .sp ds) = ct ds := ct_cons ..

@[simp] theorem ct_append (a b : XDocs) : ct (a.append b) = ct a ++ ct b := by
  fun_induction XDocs.append a b with
  | case1 b => rfl
  | case2 d ds b ih => rw [ct_cons, ct_cons, ih, List.append_assoc]

@[simp] theorem ct_ofToks (l : List Tok) : ct (XDocs.ofToks l) = tokTexts l := by
  induction l with
  | nil => rfl
  | cons t r ih => exact (ct_cons_tok t _).trans (congrArg _ ih)

theorem ct_wrapD (sup : Bool) {ds : XDocs} {l : List Tok} (h : ct ds = tokTexts l) :
    ct (wrapD sup ds) = tokTexts (wrap sup l) := by
  cases sup
  · show ct (.cons (.tok tLp) (ds.append (.cons (.tok tRp) .nil))) = tokTexts (tLp :: (l ++ [tRp]))
    rw [ct_cons_tok, ct_append, h, tokTexts_cons, tokTexts_append]
    rfl
  · exact h

@[simp] theorem ct_spTokSp (t : Tok) (rest : XDocs) : ct (spTokSp t rest) = .tok (tokChars t) :: ct rest :=
  (ct_cons_sp _).trans ((ct_cons_tok ..).trans (congrArg _ (ct_cons_sp _)))

theorem commaTok_seq (ds : XDocs) : commaTok (XDoc.seq ds).toks = ct ds := rfl

@[simp] theorem ct_cons_args (items ds : XDocs) :
    ct (.cons (.args items) ds) = .tok (tokChars tLp) :: (commaTok (xtoksSep items) ++ .tok (tokChars tRp) :: ct ds) := by
  rw [ct_cons, XDoc.toks, toksItems_true]
  show _ :: (commaTok (_ ++ [_]) ++ _) = _
  rw [commaTok_append, List.append_assoc]
  rfl

theorem ct_optSp (b : Bool) : ct (if b = true then XDocs.cons .sp .nil else .nil) = [] := by
  cases b <;> rfl

theorem commaTok_sep (b : Bool) :
    commaTok (if b = true then [] else [.comma]) = tokTexts (if b = true then [] else [tComma]) := by
  cases b <;> rfl

theorem argDocs_isNil (as : Exprs) : (argDocs as).isNil = as.isNil := by cases as <;> rfl
theorem itemDocs_isNil (ps : Pseudos) (rest : XDocs) : (itemDocs ps rest).isNil = (ps.isNil && rest.isNil) := by
  cases ps <;> rfl

mutual
theorem docs_toks : ∀ (e : Expr) (sup : Bool), ct (exprDocs sup e) = tokTexts (printE sup e) := by
  intro e sup
  cases e with
  | ternary c l r =>
    refine ct_wrapD sup ?_
    simp only [ct_append, ct_spTokSp, docs_toks c false, docs_toks l false, docs_toks r false, tokTexts_append, tokTexts_cons]
  | binop a op b =>
    refine ct_wrapD sup ?_
    simp only [ct_append, ct_spTokSp, docs_toks a false, docs_toks b false, tokTexts_append, tokTexts_cons]
  | unop op x =>
    rw [exprDocs, printE]
    split
    · exact ct_wrapD sup (by rw [ct_cons_tok, docs_toks x false, tokTexts_cons])
    · simp only [ct_cons_tok, ct_append, ct_nil, docs_toks x true, tokTexts_append, tokTexts_cons, tokTexts_nil]
  | call name ps as =>
    have h := items_toks ps (argDocs as) (printArgs as) as.isNil (args_toks as) (argDocs_isNil as)
    rw [exprDocs, printE, ct_cons_tok, ct_cons_args, h, tokTexts_cons, tokTexts_cons, tokTexts_append]
    rfl
  | diffSwitch cs =>
    refine ct_wrapD sup ?_
    rw [ct_append, ct_append, ct_optSp, ct_optSp, List.nil_append, List.append_nil]
    exact cases_toks cs
  | litString s => rfl
  | _ => exact ct_ofToks _
theorem args_toks : ∀ (as : Exprs), commaTok (xtoksSep (argDocs as)) = tokTexts (printArgs as) := by
  intro as
  cases as with
  | nil => rfl
  | cons e es =>
    rw [argDocs, xtoksSep, printArgs, argDocs_isNil, commaTok_append, commaTok_append, tokTexts_append, tokTexts_append,
      commaTok_sep, args_toks es, List.append_assoc]
    exact congrArg (· ++ _) (docs_toks e false)
theorem items_toks : ∀ (ps : Pseudos) (rest : XDocs) (t : List Tok) (b : Bool),
    commaTok (xtoksSep rest) = tokTexts t → rest.isNil = b →
    commaTok (xtoksSep (itemDocs ps rest)) = tokTexts (printItems ps b t) := by
  intro ps rest t b h hb
  cases ps with
  | nil => exact h
  | cons k e ps =>
    rw [itemDocs, xtoksSep, printItems, itemDocs_isNil, hb, commaTok_append, commaTok_append, commaTok_sep,
      items_toks ps rest t b h hb, List.append_assoc]
    simp only [commaTok_seq, ct_cons_tok, docs_toks e false, tokTexts_cons, tokTexts_append, List.cons_append]
theorem cases_toks : ∀ (cs : Cases), commaTok (caseDocs cs).toksSeq = tokTexts (printCases cs) := by
  intro cs
  cases cs with
  | nil => rfl
  | blank cs => exact casesT_toks cs
  | some e cs =>
    have h := casesT_toks cs
    rw [← ct] at h ⊢
    rw [caseDocs, printCases, ct_append, docs_toks e false, h, tokTexts_append]
theorem casesT_toks : ∀ (cs : Cases), commaTok (caseDocsT cs).toksSeq = tokTexts (printCasesT cs) := by
  intro cs
  cases cs with
  | nil => rfl
  | blank cs => exact (ct_spTokSp ..).trans (congrArg _ (casesT_toks cs))
  | some e cs =>
    have h := casesT_toks cs
    rw [← ct] at h ⊢
    rw [caseDocsT, printCasesT, ct_spTokSp, ct_append, docs_toks e false, h, tokTexts_cons, tokTexts_append]
end

/-- **C08, expressions at every width**: whatever the target width, the tokens of the laid-out
expression are the tokens `printExpr e` that `expr_print_parse` is about. -/
theorem expr_layout_printExpr (w : Nat) (e : Expr) :
    commaTok (ess (renderExprPieces w e)) = tokTexts (printExpr e) := by
  rw [expr_layout_tokens]
  exact docs_toks e false

end TruthModel.C08
