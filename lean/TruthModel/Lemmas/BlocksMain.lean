import TruthModel.Lemmas.BlocksSim
/-
C06: the two inductions on `Big`: the VM's time at block ends (`Big.time`, every mode) and the
simulation by the flat machine (`sim`, modes `some k`), with its instance for a script body.
-/
namespace TruthModel.Blocks

theorem Big.time {m : Mode} {cfg : Cfg} {st : St} {r : Out} (h : Big m cfg st r) : SimT cfg st r := by
  induction h with
  | nil lt st => intro hle _ st' hr; cases hr; exact hle
  | simple lt s ss st st0 st1 r hw he _ ih =>
    obtain ⟨f, _, _, htime, hend, hmono⟩ := simple_flat he
    intro hle hm st' hr
    have h0 : st0.time = stmtTime lt s := wait_time_of_le hw (Int.le_trans hle (hmono lt hm.1))
    exact ih (by rw [htime, h0, hend]; exact Int.le_refl _) hm.2 st' hr
  | brk | cbrkT | blockBrk | blkBrk | chainElsBrk | chainTBrk => intro _ _ st' hr; cases hr
  | cbrkF lt isIf c ss st st0 r hw _ _ ih =>
    intro hle hm st' hr
    exact ih (Int.le_of_eq (wait_time_of_le hw hle)) hm.2 st' hr
  | block lt b ss st st0 st1 r hw _ _ ihb ihs =>
    intro hle hm st' hr
    have h1 := ihb (Int.le_of_eq (wait_time_of_le hw hle)) hm.1 st1 rfl
    exact ihs (Int.le_of_eq h1) hm.2 st' hr
  | blk lt b st st0 st1 st2 hw _ hw2 ih =>
    intro hle hm st' hr
    cases hr
    exact wait_time_of_le hw2 (ih (Int.le_of_eq (wait_time_of_le hw hle)) hm st1 rfl)
  | cond lt ch ss st st0 r _ _ ih => intro _ hm st' hr; exact ih hm.1 hm.2 st' hr
  | chainNone lt ss st r _ ih => intro _ hm st' hr; exact ih (Int.le_refl _) hm st' hr
  | chainEls lt b ss st st1 r _ _ _ ihs | chainT lt isIf c thn rest ss st st1 r _ _ _ _ ihs =>
    intro _ hm st' hr; exact ihs (Int.le_refl _) hm st' hr
  | chainF lt isIf c thn rest ss st r _ _ ih => intro hmc hm st' hr; exact ih hmc.2 hm st' hr
  | iter lt s j ss st st1 r _ _ ihb iha =>
    intro hle hmb hms st' hr
    exact iha (Int.le_of_eq (ihb hle hmb st1 rfl)) hmb hms st' hr
  | iterBrk lt s j ss st st1 r _ _ _ ihs => intro _ _ hms st' hr; exact ihs (Int.le_refl _) hms st' hr
  -- entering a loop: the first iteration starts at the statement's time
  | loop lt b ss st st0 r hw _ ih | doWhile lt c b ss st st0 r hw _ ih | whileT lt c b ss st st0 r hw _ _ ih =>
    intro hle hm st' hr; exact ih (Int.le_of_eq (wait_time_of_le hw hle)) hm.1 hm.2 st' hr
  | timesP lt count b ss st st0 r _ _ _ ih | timesSP lt x count b ss st st0 r _ _ _ ih =>
    intro _ hm st' hr; exact ih (Int.le_refl _) hm.1 hm.2 st' hr
  -- not entering it: the time is set to the end time
  | whileF lt c b ss st st0 r _ _ _ ih | timesZ lt count b ss st st0 r _ _ _ ih
  | timesNeg lt count b ss st st0 r _ _ _ _ ih | timesSZ lt x count b ss st st0 r _ _ _ ih =>
    intro _ hm st' hr; exact ih (Int.le_refl _) hm.2 st' hr
  -- one more iteration: the time is set back to the start time
  | againLoop lt b j ss st r _ ih | againDoT lt c b j ss st r _ _ ih | againWhT lt c b j ss st r _ _ ih
  | againTimesN lt count b j ss st r _ _ ih | againTimesS lt x count b j ss st r _ _ _ _ ih =>
    intro _ hmb hms st' hr; exact ih (Int.le_refl _) hmb hms st' hr
  -- leaving the loop after the body: the time stays at the end time
  | againDoF lt c b j ss st r _ _ ih | againWhF lt c b j ss st r _ _ ih | againTimesNEnd lt count b j ss st r _ _ ih
  | againTimesSEnd lt x count b j ss st r _ _ _ ih =>
    intro hle _ hms st' hr; exact ih hle hms st' hr

theorem int32_pred_pos (j : Int32) (h : 0 < j) (h1 : j - 1 ≠ 0) : 0 < j - 1 := by
  rw [Int32.lt_iff_toInt_lt] at h ⊢
  have hne : (j - 1).toInt ≠ (0 : Int32).toInt := fun e => h1 (Int32.toInt_inj.1 e)
  rw [Int32.toInt_sub] at hne ⊢
  have hj := Int32.toInt_lt j
  have h0 : (0 : Int32).toInt = 0 := by decide
  have h1' : (1 : Int32).toInt = 1 := by decide
  rw [h0] at h hne ⊢
  rw [h1'] at hne ⊢
  rw [Int.bmod_def] at hne ⊢
  omega

theorem ne_not_of_eq {a b : Bool} (h : a = b) : a ≠ !b := by
  rw [h]; cases b <;> exact Bool.noConfusion

section
variable {k : CJ} {P : List AF} (hnd : (labelsOf P).Nodup)
include hnd

/-- from the end of a taken branch to the code after the chain: when no link follows, the link's own
label and the chain's end label stand here; otherwise the `goto` lands on the chain's end label -/
theorem exec_gotoEnd {brk ve n' l : Nat} {tE : Int} {rest : Chain} {ss : List Stmt} {post : List AF} {st : St}
    {tm : Nat → Int32}
    (hat : gotoEnd tE ve rest ++ (tE, .label l) :: chainPos k brk ve n' tE rest ss post <:+ P)
    (ht : st.time = tE) :
    ExecS P (gotoEnd tE ve rest ++ (tE, .label l) :: chainPos k brk ve n' tE rest ss post) ⟨st, tm⟩
      ((chainRest k brk ve n' tE rest ss).1 ++ post) ⟨st.setTime (endC tE rest), tm⟩ := by
  by_cases hr : rest = .none
  · subst hr
    rw [show st.setTime (endC tE .none) = st from St.setTime_self ht]
    exact (ExecS.label_here ht).trans (ExecS.label_here ht)
  · have hg : gotoEnd tE ve rest = [(tE, .goto ve)] := by
      cases rest with
      | none => exact absurd rfl hr
      | _ => rfl
    rw [hg] at hat ⊢
    have hj := jumpS_suffix hnd (A := (tE, .goto ve) :: (tE, .label l) :: (desugarC k brk ve n' tE rest).1) hat ⟨st, tm⟩
    exact (ExecS.jump (eff_goto (wait_self ht)) hj).trans (ExecS.label_here rfl)

variable {brk n : Nat} {lt : Int} {s : Stmt} {ss : List Stmt} {post : List AF} {r : Out}
  (hl : s.isLoop = true) (hat : (desugarL k brk n lt (s :: ss)).1 ++ post <:+ P)
include hl hat

theorem again_back {st st1 : St} {tm tm1 : Nat → Int32}
    (heff : effect (endL lt s.body, (lay k n lt s).jmp) ⟨st, tm⟩ =
      some (⟨st1, tm1⟩, some (lay k n lt s).lp))
    (hfr : Frame n (desugarL k brk n lt (s :: ss)).2 tm tm1)
    (ih : Reach P brk n (desugarL k brk n lt (s :: ss)).2 (bodyPos k brk n lt s ss post) post ⟨st1.setTime lt, tm1⟩ r) :
    Reach P brk n (desugarL k brk n lt (s :: ss)).2 (jmpPos k brk n lt s ss post) post ⟨st, tm⟩ r :=
  Reach.prefix ((ExecS.jump heff (jump_lp hl hat hnd _)).trans (ExecS.label_here rfl)) hfr ih

omit hnd hat

theorem again_exit {st st1 : St} {tm tm1 : Nat → Int32}
    (heff : effect (endL lt s.body, (lay k n lt s).jmp) ⟨st, tm⟩ = some (⟨st1, tm1⟩, none))
    (hfr : Frame n (desugarL k brk n lt (s :: ss)).2 tm tm1) (ht : st1.time = endL lt s.body)
    (ih : Reach P brk (desugarB k n (lay k n lt s).nb lt s.body).2 (restCode k brk n lt s ss).2
      ((restCode k brk n lt s ss).1 ++ post) post ⟨st1, tm1⟩ r) :
    Reach P brk n (desugarL k brk n lt (s :: ss)).2 (jmpPos k brk n lt s ss post) post ⟨st, tm⟩ r :=
  Reach.prefix (ExecS.next heff) hfr (exit_tail hl ht ih)

end

/-- Every run of the structured interpreter is simulated by the flat machine, wherever the code
stands in a program with distinct labels.  The cases follow the rules of `Big`; a construct's
sub-runs are simulated at the positions of their code (suffixes of `P`), jumps are resolved by `jumpS_suffix`. -/
theorem sim (k : CJ) {P : List AF} (hnd : (labelsOf P).Nodup) {cfg : Cfg} {st : St} {r : Out}
    (h : Big (some k) cfg st r) : SimE k P cfg st r := by
  induction h with
  | nil lt st =>
    intro brk n post tm _ _ _
    exact ⟨tm, Frame.refl _ _ _, ExecS.refl _ _⟩
  | simple lt s ss st st0 st1 r hw he _ ih =>
    obtain ⟨f, hcode, heff, htime, hend, hmono⟩ := simple_flat he
    intro brk n post tm hat hle hm
    have h0 : st0.time = stmtTime lt s := wait_time_of_le hw (Int.le_trans hle (hmono lt hm.1))
    rw [desugarL_cons_single (hcode k brk n lt) ss] at hat ⊢
    exact Reach.prefix' (ExecS.next (heff _ _ _ hw))
      (ih brk n post tm hat.next (by rw [htime, h0, hend]; exact Int.le_refl _) hm.2)
  | brk lt ss st st0 hw =>
    intro brk n post tm _ _ _
    rw [desugarL_cons_single (a := (lt, .goto brk)) rfl ss]
    exact ⟨tm, Frame.refl _ _ _, fun J fsJ hj => ExecS.jump (eff_goto hw) hj⟩
  | cbrkT lt isIf c ss st st0 hw hc =>
    intro brk n post tm _ _ _
    rw [desugarL_cons_single (a := (lt, .cjmp isIf c brk)) rfl ss]
    exact ⟨tm, Frame.refl _ _ _, fun J fsJ hj => ExecS.jump (eff_cjmp_yes hw hc) hj⟩
  | cbrkF lt isIf c ss st st0 r hw hc _ ih =>
    intro brk n post tm hat hle hm
    rw [desugarL_cons_single (a := (lt, .cjmp isIf c brk)) rfl ss] at hat ⊢
    exact Reach.prefix' (ExecS.next (eff_cjmp_no hw hc))
      (ih brk n post tm hat.next (Int.le_of_eq (wait_time_of_le hw hle)) hm.2)
  | block lt b ss st st0 st1 r hw hb _ ihb ihs =>
    intro brk n post tm hat hle hm
    have h0 := wait_time_of_le hw hle
    have h1 : st1.time = endL lt b := hb.time (Int.le_of_eq h0) hm.1 st1 rfl
    rw [desugarL_block] at hat ⊢
    rw [List.append_assoc] at hat ⊢
    refine Reach.seq (ihb brk n _ tm st hat (Int.le_of_eq h0) hm.1 (by rw [hw, wait_idem hw]))
      (fun tm1 _ => ihs brk _ post tm1 hat.drop (Int.le_of_eq h1) hm.2)
      (Nat.le_refl _) (freshL k brk _ _ ss).le (freshB k brk n lt b).le (Nat.le_refl _)
  | blockBrk lt b ss st st0 st1 hw _ ihb =>
    intro brk n post tm hat hle hm
    rw [desugarL_block] at hat ⊢
    rw [List.append_assoc] at hat ⊢
    exact Reach.brk_of
      (ihb brk n _ tm st hat (Int.le_of_eq (wait_time_of_le hw hle)) hm.1 (by rw [hw, wait_idem hw]))
      (Nat.le_refl _) (freshL k brk _ _ ss).le
  | blk lt b st st0 st1 st2 hw _ hw2 ih =>
    intro brk n post tm stf hat hle hm hwf
    rw [desugarB_append] at hat ⊢
    obtain ⟨tm', hf, hx⟩ := ih brk n _ tm hat.next (Int.le_of_eq (wait_time_of_le hw hle)) hm
    exact ⟨tm', hf, (ExecS.next (eff_nop (hwf.trans hw))).trans (hx.trans (ExecS.next (eff_nop hw2)))⟩
  | blkBrk lt b st st0 st1 hw _ ih =>
    intro brk n post tm stf hat hle hm hwf
    rw [desugarB_append] at hat ⊢
    obtain ⟨tm', hf, hx⟩ := ih brk n _ tm hat.next (Int.le_of_eq (wait_time_of_le hw hle)) hm
    exact ⟨tm', hf, fun J fsJ hj => (ExecS.next (eff_nop (hwf.trans hw))).trans (hx J fsJ hj)⟩
  | cond lt ch ss st st0 r hw _ ih =>
    intro brk n post tm hat hle hm
    rw [desugarL_cond] at hat ⊢
    rw [List.append_assoc] at hat ⊢
    exact (ih brk n (n + 1) post tm st hat hm.1 hm.2
      (by rw [hw, St.setTime_self (wait_time_of_le hw hle)])).mono (Nat.le_succ n) (Nat.le_refl _)
  | chainNone lt ss st r _ ih =>
    intro brk ve n post tm stf hat _ hm hwf
    exact Reach.prefix' (ExecS.next (eff_label hwf)) (ih brk n post tm hat.next (Int.le_refl _) hm)
  | chainEls lt b ss st st1 r hb _ ihb ihs =>
    intro brk ve n post tm stf hat hmc hm hwf
    have h1 : st1.time = endL lt b := hb.time (Int.le_refl _) hmc st1 rfl
    refine Reach.seq (ihb brk n _ tm stf hat (Int.le_refl _) hmc (by rw [hwf, wait_setTime]))
      (fun tm1 _ => ?_) (Nat.le_refl _) (freshL k brk _ _ ss).le (freshB k brk n lt b).le (Nat.le_refl _)
    have := ihs brk _ post tm1 hat.drop.next (Int.le_refl _) hm
    rw [St.setTime_self h1] at this
    exact Reach.prefix' (ExecS.label_here h1) this
  | chainElsBrk lt b ss st st1 _ ihb =>
    intro brk ve n post tm stf hat hmc hm hwf
    exact Reach.brk_of (ihb brk n _ tm stf hat (Int.le_refl _) hmc (by rw [hwf, wait_setTime]))
      (Nat.le_refl _) (freshL k brk _ _ ss).le
  | chainT lt isIf c thn rest ss st st1 r hcond hb _ ihb ihs =>
    intro brk ve n post tm stf hat hmc hm hwf
    have h1 : st1.time = endL lt thn := hb.time (Int.le_refl _) hmc.1 st1 rfl
    rw [chainRest_elif]
    rw [chainPos_elif] at hat ⊢
    have hT := (freshB k brk (n + 1) lt thn).le
    have hC := (freshC k brk ve (desugarB k brk (n + 1) lt thn).2 (endL lt thn) rest).le
    have hR := (freshL k brk (desugarC k brk ve (desugarB k brk (n + 1) lt thn).2 (endL lt thn) rest).2
      (endC (endL lt thn) rest) ss).le
    refine Reach.prefix' (ExecS.next (eff_cjmp_no hwf (ne_not_of_eq hcond))) ?_
    refine Reach.seq (ihb brk (n + 1) _ tm (st.setTime lt) hat.next (Int.le_refl _) hmc.1 rfl) (fun tm1 _ => ?_)
      (Nat.le_succ n) (Nat.le_trans hC hR) (Nat.le_trans (Nat.le_succ n) (Nat.le_trans hT hC)) (Nat.le_refl _)
    have hat2 := hat.next.drop
    exact Reach.prefix' (exec_gotoEnd hnd hat2 h1) (ihs brk _ post tm1 hat2.drop.next.drop.next (Int.le_refl _) hm)
  | chainTBrk lt isIf c thn rest ss st st1 hcond _ ihb =>
    intro brk ve n post tm stf hat hmc hm hwf
    rw [chainRest_elif]
    rw [chainPos_elif] at hat ⊢
    have hC := (freshC k brk ve (desugarB k brk (n + 1) lt thn).2 (endL lt thn) rest).le
    have hR := (freshL k brk (desugarC k brk ve (desugarB k brk (n + 1) lt thn).2 (endL lt thn) rest).2
      (endC (endL lt thn) rest) ss).le
    exact Reach.prefix' (ExecS.next (eff_cjmp_no hwf (ne_not_of_eq hcond)))
      (Reach.brk_of (ihb brk (n + 1) _ tm (st.setTime lt) hat.next (Int.le_refl _) hmc.1 rfl)
        (Nat.le_succ n) (Nat.le_trans hC hR))
  | chainF lt isIf c thn rest ss st r hcond _ ih =>
    intro brk ve n post tm stf hat hmc hm hwf
    rw [chainRest_elif]
    rw [chainPos_elif] at hat ⊢
    have hT := (freshB k brk (n + 1) lt thn).le
    have hj := jumpS_suffix hnd (A := (lt, .cjmp (!isIf) c n) :: ((desugarB k brk (n + 1) lt thn).1 ++ gotoEnd (endL lt thn) ve rest))
      (by rw [List.cons_append, List.append_assoc]; exact hat) ⟨st.setTime lt, tm⟩
    have hcj : c.evalB (st.setTime lt).regs = !isIf := Bool.eq_not_of_ne hcond
    exact Reach.prefix' ((ExecS.jump (eff_cjmp_yes hwf hcj) hj).trans (ExecS.label_here rfl))
      ((ih brk ve _ post tm (st.setTime (endL lt thn)) hat.next.drop.drop.next hmc.2 hm (wait_setTime _ _)).mono
        (Nat.le_trans (Nat.le_succ n) hT) (Nat.le_refl _))
  | iter lt s j ss st st1 r hb _ ihb iha =>
    intro hl brk n post tm hat hle hmb hms hcnt
    have hc := loop_le k brk n lt s ss hl
    refine Reach.seq (brk1 := n) (ihb n _ _ tm st (at_body hl hat) hle hmb rfl)
      (fun tm1 hfr => iha hl brk n post tm1 hat (hb.time hle hmb st1 rfl) hmb hms (hcnt.frame hfr hc.cnt_nb))
      hc.n_nb hc.body_end (Nat.le_refl _) (Nat.le_refl _)
  | iterBrk lt s j ss st st1 r _ _ ihb ihs =>
    intro hl brk n post tm hat hle hmb hms hcnt
    have hc := loop_le k brk n lt s ss hl
    obtain ⟨tm1, hfr, hx⟩ := ihb n _ _ tm st (at_body hl hat) hle hmb rfl
    have hgo := hx _ _ (jump_le hl hat hnd ⟨st1, tm1⟩)
    exact Reach.prefix (hgo.trans (ExecS.label_here rfl)) (hfr.mono hc.n_nb hc.body_end)
      ((ihs brk _ post tm1 (at_rest hl hat) (Int.le_refl _) hms).mono hc.n_body
        (Nat.le_of_eq (loop_snd k brk n lt s ss hl).symm))
  | loop lt b ss st st0 r hw _ ih | doWhile lt c b ss st st0 r hw _ ih =>
    intro brk n post tm hat hle hm
    have := ih rfl brk n post tm hat (Int.le_of_eq (wait_time_of_le hw hle)) hm.1 hm.2 trivial
    rw [loop_code k brk n lt _ ss post rfl]
    exact Reach.prefix' (ExecS.next (eff_label hw)) this
  | againLoop lt b j ss st r _ ih =>
    intro hl brk n post tm hat ht hmb hms hcnt
    exact again_back hnd hl hat (eff_goto (wait_self ht)) (Frame.refl _ _ _)
      (ih hl brk n post tm hat (Int.le_refl _) hmb hms hcnt)
  | againDoT lt c b j ss st r hc _ ih | againWhT lt c b j ss st r hc _ ih =>
    intro hl brk n post tm hat ht hmb hms hcnt
    exact again_back hnd hl hat (eff_cjmp_yes (wait_self ht) hc) (Frame.refl _ _ _)
      (ih hl brk n post tm hat (Int.le_refl _) hmb hms hcnt)
  | againDoF lt c b j ss st r hc _ ih | againWhF lt c b j ss st r hc _ ih =>
    intro hl brk n post tm hat ht hmb hms hcnt
    exact again_exit hl (eff_cjmp_no (wait_self ht) (ne_not_of_eq hc)) (Frame.refl _ _ _) ht
      (ih brk _ post tm (at_rest hl hat) (Int.le_of_eq ht) hms)
  | whileT lt c b ss st st0 r hw hc _ ih =>
    intro brk n post tm hat hle hm
    have h0 := wait_time_of_le hw hle
    have := ih rfl brk n post tm hat (Int.le_of_eq h0) hm.1 hm.2 trivial
    rw [loop_code k brk n lt _ ss post rfl]
    exact Reach.prefix' ((ExecS.next (eff_cjmp_no hw (ne_not_of_eq hc))).trans (ExecS.label_here h0)) this
  | whileF lt c b ss st st0 r hw hc _ ih =>
    intro brk n post tm hat hle hm
    have hl : (Stmt.while_ c b).isLoop = true := rfl
    have hj := jump_tail hl hat hnd (z := n + 1) (tl := []) rfl ⟨st0, tm⟩
    rw [loop_code k brk n lt _ ss post hl]
    exact Reach.prefix' (ExecS.jump (eff_cjmp_yes hw hc) hj)
      (exit_tail hl rfl (ih brk _ post tm (at_rest hl hat) (Int.le_refl _) hm.2))
  | timesNeg lt count b ss st st0 r hm' _ _ _ _ => cases hm'
  | timesZ lt count b ss st st0 r hw hz _ ih =>
    intro brk n post tm hat hle hm
    have h0 := wait_time_of_le hw hle
    have hl : (Stmt.times none count b).isLoop = true := rfl
    have hj := jump_tail hl hat hnd (z := n + 2) (tl := [(endL lt b, .scopeEnd (n + 1))]) rfl
      ⟨st0, fun j => if j = n + 1 then count.eval st0.regs else tm j⟩
    rw [loop_code k brk n lt _ ss post hl]
    exact Reach.prefix
      (((ExecS.next (eff_decl hw)).trans (ExecS.next (eff_assign_tmp (wait_self h0)))).trans
        (exec_zeroTest_jump h0 hz ((if_pos rfl).trans hz) hj))
      (Frame.counter hl tm _)
      (exit_tail hl rfl (ih brk _ post _ (at_rest hl hat) (Int.le_refl _) hm.2))
  | timesP lt count b ss st st0 r hw hp _ ih =>
    intro brk n post tm hat hle hm
    have h0 := wait_time_of_le hw hle
    have hl : (Stmt.times none count b).isLoop = true := rfl
    have hne : count.eval st0.regs ≠ 0 := fun e => by rw [e] at hp; exact absurd hp (by decide)
    have := ih hl brk n post (fun j => if j = n + 1 then count.eval st0.regs else tm j) hat (Int.le_refl _) hm.1 hm.2
      ⟨if_pos rfl, hp⟩
    rw [St.setTime_self h0] at this
    rw [loop_code k brk n lt _ ss post hl]
    exact Reach.prefix
      ((((ExecS.next (eff_decl hw)).trans (ExecS.next (eff_assign_tmp (wait_self h0)))).trans
        (exec_zeroTest_skip h0 (by simp [FS.get, hne]))).trans (ExecS.label_here h0))
      (Frame.counter hl tm _) this
  | againTimesN lt count b j ss st r hne _ ih =>
    intro hl brk n post tm hat ht hmb hms hcnt
    have hpos := int32_pred_pos j hcnt.2 hne
    refine again_back hnd hl hat (tm1 := fun i => if i = n + 1 then j - 1 else tm i) ?_
      (Frame.counter hl tm _)
      (ih hl brk n post _ hat (Int.le_refl _) hmb hms ⟨if_pos rfl, hpos⟩)
    rw [show (lay k n lt (.times none count b)).jmp =
      .cntjmp k (.tmp (n + 1)) (n + 3) from rfl, eff_cntjmp_tmp (wait_self ht), hcnt.1,
      test_true_of_ne k _ hne (fun _ => hpos)]
    rfl
  | againTimesNEnd lt count b j ss st r hz _ ih =>
    intro hl brk n post tm hat ht hmb hms hcnt
    refine again_exit hl (tm1 := fun i => if i = n + 1 then j - 1 else tm i) ?_
      (Frame.counter hl tm _) ht
      (ih brk _ post _ (at_rest hl hat) (Int.le_of_eq ht) hms)
    rw [show (lay k n lt (.times none count b)).jmp =
      .cntjmp k (.tmp (n + 1)) (n + 3) from rfl, eff_cntjmp_tmp (wait_self ht), hcnt.1, hz, test_zero]
    rfl
  | timesSZ lt x count b ss st st0 r hw hz _ ih =>
    intro brk n post tm hat hle hm
    have h0 := wait_time_of_le hw hle
    have hl : (Stmt.times (some x) count b).isLoop = true := rfl
    have hj := jump_tail hl hat hnd (z := n + 1) (tl := []) rfl ⟨st0.setReg x 0, tm⟩
    have hassign := eff_assign_reg (tm := tm) (r := x) (e := count) hw
    rw [hz] at hassign
    rw [loop_code k brk n lt _ ss post hl]
    exact Reach.prefix'
      ((ExecS.next hassign).trans (exec_zeroTest_jump (σ := st0.regs) h0 hz (if_pos rfl) hj))
      (exit_tail hl rfl (ih brk _ post tm (at_rest hl hat) (Int.le_refl _) hm.2))
  | timesSP lt x count b ss st st0 r hw hp _ ih =>
    intro brk n post tm hat hle hm
    have h0 := wait_time_of_le hw hle
    have hl : (Stmt.times (some x) count b).isLoop = true := rfl
    have := ih hl brk n post tm hat (Int.le_refl _) hm.1 hm.2 trivial
    rw [St.setTime_self (show (st0.setReg x (count.eval st0.regs)).time = lt from h0)] at this
    rw [loop_code k brk n lt _ ss post hl]
    exact Reach.prefix'
      (((ExecS.next (eff_assign_reg hw)).trans
        (exec_zeroTest_skip (show (st0.setReg x (count.eval st0.regs)).time = lt from h0)
          (by simp [FS.get, St.setReg, hp]))).trans (ExecS.label_here h0)) this
  | againTimesS lt x count b j ss st r hmin hne hgt _ ih =>
    intro hl brk n post tm hat ht hmb hms hcnt
    refine again_back hnd hl hat (st1 := st.setReg x (st.regs x - 1)) ?_ (Frame.refl _ _ _)
      (ih hl brk n post tm hat (Int.le_refl _) hmb hms trivial)
    rw [show (lay k n lt (.times (some x) count b)).jmp =
      .cntjmp k (.reg x) (n + 2) from rfl, eff_cntjmp_reg (wait_self ht),
      test_true_of_ne k _ hne (fun e => hgt (by rw [e]))]
    rfl
  | againTimesSEnd lt x count b j ss st r hmin hz _ ih =>
    intro hl brk n post tm hat ht hmb hms hcnt
    refine again_exit hl (st1 := st.setReg x 0) ?_ (Frame.refl _ _ _) ht
      (ih brk _ post tm (at_rest hl hat) (Int.le_of_eq ht) hms)
    rw [show (lay k n lt (.times (some x) count b)).jmp =
      .cntjmp k (.reg x) (n + 2) from rfl, eff_cntjmp_reg (wait_self ht), hz, test_zero]
    rfl

theorem sim_body (k : CJ) (prog : List Stmt) {st : St} {r : Out} (h : Big (some k) (.blk 0 prog) st r)
    (hmono : MonoL 0 prog) (ht : st.time ≤ 0) (tm : Nat → Int32) :
    Reach (desugarA k prog) 0 0 (desugarB k 0 0 0 prog).2 (desugarA k prog) [] ⟨st, tm⟩ r := by
  have hs := sim k (P := desugarA k prog) (freshB k 0 0 0 prog).nodup h 0 0 [] tm st
  rw [List.append_nil] at hs
  exact hs (List.suffix_refl _) ht hmono rfl

end TruthModel.Blocks
