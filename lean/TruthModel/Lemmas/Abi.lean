import TruthModel.Model.Abi
import TruthModel.Lemmas.Digits
namespace TruthModel.Abi

theorem leBytes_length (n x : Nat) : (leBytes n x).length = n := by
  induction n generalizing x with
  | zero => rfl
  | succ n ih => simp [leBytes, ih]

theorem leNat_leBytes (n x : Nat) : leNat (leBytes n x) = x % 256 ^ n := by
  induction n generalizing x with
  | zero => simp [leBytes, leNat, Nat.mod_one]
  | succ n ih =>
    simp only [leBytes, leNat, ih]
    rw [Digits.toNat_ofNat_mod, Nat.pow_succ, Nat.mul_comm (256 ^ n) 256, Nat.mod_mul]

theorem leNat_lt (bs : Bytes) : leNat bs < 256 ^ bs.length := by
  induction bs with
  | nil => exact Nat.one_pos
  | cons b bs ih =>
    rw [leNat, List.length_cons, Nat.pow_succ, Nat.mul_comm _ 256]
    exact Nat.lt_of_lt_of_le (Nat.add_lt_add_right b.toNat_lt _)
      (by rw [Nat.add_comm, ← Nat.mul_succ]; exact Nat.mul_le_mul_left 256 ih)

theorem leBytes_leNat (bs : Bytes) : leBytes bs.length (leNat bs) = bs := by
  induction bs with
  | nil => rfl
  | cons b bs ih =>
    obtain ⟨e0, e1⟩ := Digits.digit_cons b.toNat (leNat bs) b.toNat_lt
    rw [List.length_cons, leNat, leBytes, e0, e1, ih, UInt8.ofNat_toNat]

theorem field_not_short (n x : Nat) (tl : Bytes) : ¬ (leBytes n x ++ tl).length < n := by
  rw [List.length_append, leBytes_length]; exact Nat.not_lt.mpr (Nat.le_add_right _ _)

theorem field_take (n x : Nat) (tl : Bytes) : (leBytes n x ++ tl).take n = leBytes n x :=
  List.take_left' (leBytes_length n x)

theorem field_drop (n x : Nat) (tl : Bytes) : (leBytes n x ++ tl).drop n = tl :=
  List.drop_left' (leBytes_length n x)

theorem zeros_length (k : Nat) : (zeros k).length = k := List.length_replicate

theorem zeros_any (k : Nat) : (zeros k).any (· != 0) = false := by
  simp [zeros]

theorem zeros_leNat (n : Nat) : leNat (zeros n) = 0 := by
  induction n with
  | zero => rfl
  | succ n ih =>
    show (0 : UInt8).toNat + 256 * leNat (zeros n) = 0
    rw [ih]; rfl

theorem leNat_eq_zero (bs : Bytes) (h : leNat bs = 0) : bs = zeros bs.length := by
  induction bs with
  | nil => rfl
  | cons b bs ih =>
    obtain ⟨hb, hr⟩ := Nat.add_eq_zero_iff.mp h
    have hr : leNat bs = 0 := (Nat.mul_eq_zero.mp hr).resolve_left (by decide)
    have : b = 0 := UInt8.toNat_inj.mp hb
    rw [this, List.length_cons, ih hr, zeros_length]
    rfl

/-! `toSigned n` and `wrapTo n` are inverse on the range of an `n`-byte field, for every width; the
decimal bounds in `fitsInt` and `i32Range` are these ranges for `n = 1, 2, 4`. -/

theorem two_pow_bits (n : Nat) : 2 ^ (8 * n) = 256 ^ n := Nat.pow_mul 2 8 n

theorem two_pow_bits_le_half {n m : Nat} (h : n < m) : 2 ^ (8 * n) ≤ 2 ^ (8 * m - 1) :=
  Nat.pow_le_pow_right (by decide) (Nat.le_sub_one_of_lt (Nat.mul_lt_mul_of_pos_left h (by decide)))

theorem wrapTo_lt (n : Nat) (v : Int) : wrapTo n v < 256 ^ n :=
  two_pow_bits n ▸ Digits.twos_lt (8 * n) v

theorem leNat_leBytes_wrapTo (n : Nat) (v : Int) : leNat (leBytes n (wrapTo n v)) = wrapTo n v := by
  rw [leNat_leBytes, Nat.mod_eq_of_lt (wrapTo_lt n v)]

theorem toSigned_wrapTo (n : Nat) (hn : 0 < n) (v : Int)
    (h1 : -((2 ^ (8 * n - 1) : Nat) : Int) ≤ v) (h2 : v < ((2 ^ (8 * n - 1) : Nat) : Int)) :
    toSigned n (wrapTo n v) = v :=
  Digits.signed_twos (8 * n) (Nat.mul_pos (by decide) hn) v h1 h2 rfl

theorem toSigned_wrapTo_unsigned (n m : Nat) (hnm : n < m) (v : Int)
    (h1 : 0 ≤ v) (h2 : v < ((2 ^ (8 * n) : Nat) : Int)) :
    toSigned m (wrapTo n v) = v := by
  unfold toSigned wrapTo
  rw [Int.emod_eq_of_lt h1 h2,
    if_pos ((Int.toNat_lt h1).mpr (Int.lt_of_lt_of_le h2 (Int.ofNat_le.mpr (two_pow_bits_le_half hnm))))]
  exact Int.toNat_of_nonneg h1

theorem wrapTo_toSigned (n m : Nat) (hnm : n ≤ m) (x : Nat) (hx : x < 2 ^ (8 * n)) :
    wrapTo n (toSigned m x) = x := by
  have hdvd : 2 ^ (8 * m) = 2 ^ (8 * n) * 2 ^ (8 * (m - n)) := by
    rw [← Nat.pow_add, ← Nat.mul_add, Nat.add_sub_cancel' hnm]
  unfold toSigned wrapTo
  split
  · rw [Int.emod_eq_of_lt (Int.natCast_nonneg x) (Int.ofNat_lt.mpr hx), Int.toNat_natCast]
  · rw [hdvd, Int.natCast_mul, Int.sub_eq_add_neg, ← Int.mul_neg, Int.add_mul_emod_self_left,
      Int.emod_eq_of_lt (Int.natCast_nonneg x) (Int.ofNat_lt.mpr hx), Int.toNat_natCast]

theorem toSigned_range (n : Nat) (hn : 0 < n) (x : Nat) (hx : x < 2 ^ (8 * n)) :
    -((2 ^ (8 * n - 1) : Nat) : Int) ≤ toSigned n x ∧ toSigned n x < ((2 ^ (8 * n - 1) : Nat) : Int) := by
  unfold toSigned
  rw [← Nat.two_pow_pred_mul_two (Nat.mul_pos (by decide) hn)] at hx ⊢
  split
  · exact ⟨Int.le_trans (Int.neg_nonpos_of_nonneg (Int.natCast_nonneg _)) (Int.natCast_nonneg _),
      Int.ofNat_lt.mpr ‹_›⟩
  · omega

theorem IntW.bytes_pos (w : IntW) : 0 < w.bytes := by cases w <;> decide
theorem IntW.bytes_le (w : IntW) : w.bytes ≤ 4 := by cases w <;> decide
theorem IntW.bytes_lt (w : IntW) (hw : w ≠ .w4) : w.bytes < 4 := by
  cases w with
  | w1 => decide
  | w2 => decide
  | w4 => exact absurd rfl hw

theorem i32Range_iff {v : Int} :
    i32Range v = true ↔ -((2 ^ (8 * 4 - 1) : Nat) : Int) ≤ v ∧ v < ((2 ^ (8 * 4 - 1) : Nat) : Int) := by
  simp [i32Range]

theorem fitsInt_signed {w : IntW} {v : Int} :
    fitsInt w true v = true ↔
      -((2 ^ (8 * w.bytes - 1) : Nat) : Int) ≤ v ∧ v < ((2 ^ (8 * w.bytes - 1) : Nat) : Int) := by
  cases w <;> simp [fitsInt, i32Range, IntW.bytes]

theorem fitsInt_unsigned {w : IntW} (hw : w ≠ .w4) {v : Int} :
    fitsInt w false v = true ↔ 0 ≤ v ∧ v < ((2 ^ (8 * w.bytes) : Nat) : Int) := by
  cases w with
  | w1 => simp [fitsInt, IntW.bytes]
  | w2 => simp [fitsInt, IntW.bytes]
  | w4 => exact absurd rfl hw

theorem i32_roundtrip (v : Int) (hr : i32Range v = true) : toSigned 4 (wrapTo 4 v) = v :=
  have := i32Range_iff.mp hr
  toSigned_wrapTo 4 (by decide) v this.1 this.2

theorem int_roundtrip (w : IntW) (signed : Bool) (v : Int)
    (h : fitsInt w signed v = true) (hr : i32Range v = true) :
    (if signed then toSigned w.bytes (wrapTo w.bytes v) else toSigned 4 (wrapTo w.bytes v)) = v := by
  cases signed with
  | true =>
    have := fitsInt_signed.mp h
    exact toSigned_wrapTo w.bytes w.bytes_pos v this.1 this.2
  | false =>
    by_cases hw : w = .w4
    · subst hw; exact i32_roundtrip v hr
    · have := (fitsInt_unsigned hw).mp h
      exact toSigned_wrapTo_unsigned w.bytes 4 (w.bytes_lt hw) v this.1 this.2

theorem arg0_roundtrip (v : Int) (h : fitsInt .w2 true v = true) :
    toSigned 2 (wrapTo 2 v) = v :=
  have := fitsInt_signed.mp h
  toSigned_wrapTo 2 (by decide) v this.1 this.2

theorem wrap_of_read (w : IntW) (signed : Bool) (x : Nat) (hx : x < 256 ^ w.bytes) :
    wrapTo w.bytes (if signed then toSigned w.bytes x else toSigned 4 x) = x := by
  rw [← two_pow_bits] at hx
  cases signed with
  | true => exact wrapTo_toSigned _ _ (Nat.le_refl _) x hx
  | false => exact wrapTo_toSigned _ _ w.bytes_le x hx

theorem fits_of_read (w : IntW) (signed : Bool) (x : Nat) (hx : x < 256 ^ w.bytes) :
    (w != .w4 && !fitsInt w signed (if signed then toSigned w.bytes x else toSigned 4 x)) = false := by
  rw [← two_pow_bits] at hx
  by_cases hw : w = .w4
  · subst hw; rfl
  · suffices h : fitsInt w signed (if signed then toSigned w.bytes x else toSigned 4 x) = true by
      rw [h, Bool.not_true, Bool.and_false]
    cases signed with
    | true => exact fitsInt_signed.mpr (toSigned_range _ w.bytes_pos x hx)
    | false =>
      have : toSigned 4 x = x := if_pos (Nat.lt_of_lt_of_le hx (two_pow_bits_le_half (w.bytes_lt hw)))
      exact (fitsInt_unsigned hw).mpr
        (by rw [if_neg Bool.false_ne_true, this]; exact ⟨Int.natCast_nonneg x, Int.ofNat_lt.mpr hx⟩)

theorem xor_cancel (b k : UInt8) : (b ^^^ k) ^^^ k = b := by
  rw [UInt8.xor_assoc, UInt8.xor_self, UInt8.xor_zero]

theorem xor_involutive (m : ByteMask) (bs : Bytes) : applyMask m (applyMask m bs) = bs := by
  induction bs generalizing m with
  | nil => rfl
  | cons b bs ih => simp [applyMask, xor_cancel, ih]

theorem applyMask_length (m : ByteMask) (bs : Bytes) : (applyMask m bs).length = bs.length := by
  induction bs generalizing m with
  | nil => rfl
  | cons b bs ih => simp [applyMask, ih]

theorem findIdx_nul (s t : Bytes) (h : s.contains 0 = false) :
    (s ++ 0 :: t).findIdx (· == 0) = s.length := by
  induction s with
  | nil => rfl
  | cons b s ih =>
    rw [List.contains_cons, Bool.or_eq_false_iff] at h
    have hb : (b == 0) = false := by rw [BEq.comm]; exact h.1
    rw [List.cons_append, List.findIdx_cons, hb, cond_false, ih h.2, List.length_cons]

theorem trimFirstNul_append (s t : Bytes) (warn : Bool) (h : s.contains 0 = false) :
    trimFirstNul (s ++ 0 :: t) warn =
      (s, if warn && t.any (· != 0) then ["string will be truncated at first null"] else []) := by
  simp [trimFirstNul, findIdx_nul s t h]

theorem trimFirstNul_nul (s t : Bytes) (warn : Bool) (h : s.contains 0 = false)
    (ht : warn = true → t.any (· != 0) = false) : trimFirstNul (s ++ 0 :: t) warn = (s, []) := by
  rw [trimFirstNul_append s t warn h]
  cases warn with
  | false => rfl
  | true => rw [ht rfl]; rfl

theorem trim_after_pad (s : Bytes) (k : Nat) (warn : Bool) (h : s.contains 0 = false) :
    trimFirstNul (s ++ 0 :: zeros k) warn = (s, []) :=
  trimFirstNul_nul s _ warn h fun _ => zeros_any k

theorem getLast?_append_zeros_succ (t : Bytes) (k : Nat) : (t ++ zeros (k + 1)).getLast? = some 0 := by
  simp [zeros, List.replicate_succ', ← List.append_assoc]

theorem dropWhile_zeros_append (k : Nat) (l : Bytes) : (zeros k ++ l).dropWhile (· == 0) = l.dropWhile (· == 0) := by
  induction k with
  | zero => simp [zeros]
  | succ k ih =>
    simp only [zeros, List.replicate_succ, List.cons_append] at ih ⊢
    rw [List.dropWhile_cons_of_pos (by simp)]
    exact ih

theorem not_mem_of_contains {t : Bytes} (h : t.contains 0 = false) : (0 : UInt8) ∉ t := by
  simpa using h

theorem contains_of_not_mem {t : Bytes} (h : (0 : UInt8) ∉ t) : t.contains 0 = false := by
  simpa using h

theorem stripTrailingZeros_append_zeros (t : Bytes) (k : Nat) (h0 : t.contains 0 = false) :
    stripTrailingZeros (t ++ zeros k) = t := by
  unfold stripTrailingZeros
  have hz : (zeros k).reverse = zeros k := by simp [zeros]
  rw [List.reverse_append, hz, dropWhile_zeros_append]
  have : t.reverse.dropWhile (· == 0) = t.reverse := by
    cases hr : t.reverse with
    | nil => rfl
    | cons a r =>
      have ha : a ∈ t := by rw [← List.mem_reverse, hr]; exact List.mem_cons_self ..
      have hne : a ≠ 0 := by
        intro h; subst h
        exact not_mem_of_contains h0 ha
      rw [List.dropWhile_cons_of_neg (by simp [hne])]
  rw [this, List.reverse_reverse]

theorem nullPad_shape (bs : Nat) (hb : bs ≠ 0) (s : Bytes) :
    ∃ z k, nullPad bs s = s ++ zeros z ∧ 1 ≤ z ∧ z ≤ bs ∧ s.length + z = k * bs := by
  have hr := Nat.mod_lt (s.length + 1) (Nat.pos_of_ne_zero hb)
  have hdm := Nat.div_add_mod (s.length + 1) bs
  rw [Nat.mul_comm] at hdm
  simp only [nullPad]
  generalize (s.length + 1) % bs = r at hr hdm ⊢
  generalize (s.length + 1) / bs = q at hdm
  by_cases h0 : r = 0
  · rw [if_pos h0, Nat.add_sub_cancel_left]
    exact ⟨1, q, rfl, Nat.le_refl _, Nat.pos_of_ne_zero hb, by rw [← hdm, h0, Nat.add_zero]⟩
  · rw [if_neg h0, ← hdm, Nat.add_right_comm, Nat.add_sub_cancel]
    obtain ⟨r', rfl⟩ := Nat.exists_eq_succ_of_ne_zero h0
    have hr' : r' < bs := Nat.lt_of_succ_lt hr
    have hn : s.length = q * bs + r' := (Nat.succ.inj hdm).symm
    refine ⟨bs - r', q + 1, by rw [hn, Nat.add_sub_add_left], Nat.sub_pos_of_lt hr', Nat.sub_le _ _, ?_⟩
    rw [hn, Nat.add_assoc, Nat.add_sub_cancel' (Nat.le_of_lt hr'), Nat.add_mul, Nat.one_mul]

/-- the pending furigana bytes a `furibug` string parameter appends behind its terminator (none otherwise) -/
def fbOf (st : EncState) (furibug : Bool) : Bytes := if furibug then st.getD [] else []
/-- the terminator written behind the text: a NUL, except in a `nulless` fixed buffer -/
def nulOf (size : StrSize) : Bytes := match size with | .fixed _ true => [] | _ => [0]

theorem fbOf_length (st : EncState) (furibug : Bool) :
    (fbOf st furibug).length = if furibug then (st.getD []).length else 0 := by
  cases furibug <;> rfl

theorem strBody_eq (st : EncState) (size : StrSize) (furibug : Bool) (s : Bytes) :
    (strBody st size furibug s).1 = s ++ nulOf size ++ fbOf st furibug := by
  unfold strBody fbOf nulOf
  cases furibug <;> cases st <;> split <;> simp

theorem strPad_form {size : StrSize} {e2 e3 : Bytes} (h : strPad size e2 = .ok e3) :
    ∃ k, e3 = e2 ++ zeros k ∧
      (match size with
       | .fixed len _ => e3.length = len
       | .toBlobEnd bs | .pascal bs => k ≤ bs ∧ e3.length % bs = 0) := by
  have block : ∀ bs, (if bs = 0 then Outcome.panic "attempt to calculate the remainder with a divisor of zero"
      else if e2.length % bs != 0 then .ok (nullPad bs e2) else .ok e2) = .ok e3 →
      ∃ k, e3 = e2 ++ zeros k ∧ k ≤ bs ∧ e3.length % bs = 0 := by
    intro bs h
    have hbs : bs ≠ 0 := fun h0 => by rw [if_pos h0] at h; cases h
    rw [if_neg hbs] at h
    by_cases hm : (e2.length % bs != 0) = true
    · rw [if_pos hm] at h
      cases h
      obtain ⟨z, k, hz, _, hle, hk⟩ := nullPad_shape bs hbs e2
      exact ⟨z, hz, hle, by rw [hz, List.length_append, zeros_length, hk, Nat.mul_mod_left]⟩
    · rw [if_neg hm] at h
      cases h
      exact ⟨0, (List.append_nil _).symm, Nat.zero_le _, by simpa using hm⟩
  cases size with
  | fixed len nl =>
    simp only [strPad] at h
    split at h
    · cases h
    · rename_i hle
      cases h
      exact ⟨_, rfl, by rw [List.length_append, zeros_length]; exact Nat.add_sub_cancel' (Nat.not_lt.mp hle)⟩
  | toBlobEnd bs | pascal bs => exact block bs h

theorem encodeStr_eq (st : EncState) (size : StrSize) (mask : ByteMask) (furibug : Bool) (s : Bytes) :
    encodeStr st size mask furibug s =
      (strPad size (s ++ nulOf size ++ fbOf st furibug)).bind fun e3 =>
        .ok ((match size with | .pascal _ => leBytes 4 e3.length | _ => []) ++ applyMask mask e3,
          if furibug && s.head? == some 0x7C then some (applyMask mask e3)
          else (strBody st size furibug s).2) := by
  rw [← strBody_eq]
  unfold encodeStr
  generalize strBody st size furibug s = sb
  obtain ⟨e2, st1⟩ := sb
  cases h : strPad size e2 <;> simp only [h, Outcome.bind, applyMask_length]
  rfl

theorem encodeStr_too_large (st : EncState) (len : Nat) (nulless : Bool) (mask : ByteMask)
    (furibug : Bool) (s : Bytes)
    (h : s.length + (if nulless then 0 else 1) + (if furibug then (st.getD []).length else 0) > len) :
    encodeStr st (.fixed len nulless) mask furibug s = .err "string argument too large for buffer" := by
  have hgt : (s ++ nulOf (.fixed len nulless) ++ fbOf st furibug).length > len := by
    rw [List.length_append, List.length_append, fbOf_length]
    cases nulless <;> simp only [nulOf, List.length_cons, List.length_nil] <;> simpa using h
  rw [encodeStr_eq]
  simp only [strPad, hgt, if_true, Outcome.bind]

/-- on `prefix ++ e4 ++ tl` the decoder reads exactly `e4` when `e4` has the length the size kind announces;
what is left to show is what `trimFirstNul` makes of the unmasked `e4` -/
theorem decodeStr_framed (size : StrSize) (mask : ByteMask) (furibug : Bool) (e4 tl s : Bytes) (w : List String)
    (hlen : match size with
      | .fixed len _ => e4.length = len
      | .toBlobEnd _ => tl = []
      | .pascal _ => e4.length < 256 ^ 4)
    (ht : trimFirstNul (match (generalizing := false) size with
      | .fixed _ true => if (applyMask mask e4).contains 0 then applyMask mask e4 else applyMask mask e4 ++ [0]
      | _ => applyMask mask e4) (!furibug) = (s, w)) :
    decodeStr size mask furibug
      ((match (generalizing := false) size with | .pascal _ => leBytes 4 e4.length | _ => []) ++ e4 ++ tl) =
      .ok (s, w, tl) := by
  have hnot : ¬ (e4 ++ tl).length < e4.length := by
    rw [List.length_append]; exact Nat.not_lt.mpr (Nat.le_add_right _ _)
  cases size with
  | fixed len nl =>
    subst hlen
    cases nl <;> simp only [] at ht <;>
      simp only [decodeStr, List.nil_append, hnot, if_false, List.take_left, List.drop_left, ht]
  | toBlobEnd bs =>
    subst hlen
    simp only [decodeStr, List.nil_append, List.append_nil, Nat.lt_irrefl, if_false, List.take_length,
      List.drop_length, ht]
  | pascal bs =>
    simp only [decodeStr, List.append_assoc, field_not_short, if_false, field_take, field_drop, leNat_leBytes,
      Nat.mod_eq_of_lt hlen, hnot, List.take_left, List.drop_left, ht]

/-- what the decoder trims, on what the encoder padded (`furibug` also switches the warning off) -/
theorem trim_decoded (st : EncState) (size : StrSize) (furibug : Bool) (s : Bytes) (k : Nat)
    (hs : s.contains 0 = false)
    (hq : ∀ len, size = .fixed len true → fbOf st furibug = []) :
    trimFirstNul
      (match (generalizing := false) size with
       | .fixed _ true =>
         if (s ++ nulOf size ++ fbOf st furibug ++ zeros k).contains 0
         then s ++ nulOf size ++ fbOf st furibug ++ zeros k
         else s ++ nulOf size ++ fbOf st furibug ++ zeros k ++ [0]
       | _ => s ++ nulOf size ++ fbOf st furibug ++ zeros k) (!furibug) = (s, []) := by
  have withNul : trimFirstNul (s ++ [0] ++ fbOf st furibug ++ zeros k) (!furibug) = (s, []) := by
    rw [List.append_assoc, List.append_assoc]
    refine trimFirstNul_nul s _ _ hs fun hf => ?_
    have : furibug = false := by simpa using hf
    subst this
    exact zeros_any k
  rcases size with ⟨len, _ | _⟩ | bs | bs
  · exact withNul
  · simp only [nulOf, hq len rfl, List.append_nil]
    -- the decoder supplies the NUL a full `nulless` buffer lacks
    cases k with
    | zero =>
      have hc : (s ++ zeros 0).contains 0 = false := by rw [zeros, List.replicate_zero, List.append_nil]; exact hs
      rw [hc, if_neg (by decide), List.append_assoc]
      exact trim_after_pad s 0 _ hs
    | succ k =>
      have hc : (s ++ zeros (k + 1)).contains 0 = true :=
        List.contains_iff_mem.mpr (List.mem_append_right _ List.mem_cons_self)
      rw [hc, if_pos rfl]
      exact trim_after_pad s k _ hs
  · exact withNul
  · exact withNul

/-- the `u32` prefix holds the length: `strLayoutOk` leaves room for a whole block of padding -/
theorem pascal_fits {st : EncState} {bs : Nat} {furibug : Bool} {s : Bytes} {k : Nat}
    (hok : strLayoutOk st (.pascal bs) furibug s = true) (hk : k ≤ bs) :
    (s ++ nulOf (.pascal bs) ++ fbOf st furibug ++ zeros k).length < 256 ^ 4 := by
  simp only [strLayoutOk, Bool.and_eq_true, decide_eq_true_eq, ← fbOf_length] at hok
  simp only [List.length_append, zeros_length, nulOf, List.length_cons, List.length_nil]
  omega

/-- one string argument is read back from the front of whatever follows (nothing may follow a
string that reads to the end of the blob) -/
theorem str_roundtrip {st : EncState} {size : StrSize} {mask : ByteMask} {furibug : Bool} {s : Bytes}
    (hattr : Enc.strAttrsOk (.str size mask furibug) = true)
    (hok : strLayoutOk st size furibug s = true) :
    ∃ out st2, encodeStr st size mask furibug s = .ok (out, st2) ∧
      ∀ tl, (∀ bs, size = .toBlobEnd bs → tl = []) → decodeStr size mask furibug (out ++ tl) = .ok (s, [], tl) := by
  have hok' := hok
  simp only [strLayoutOk, Bool.and_eq_true, Bool.not_eq_true', ← fbOf_length] at hok
  obtain ⟨hs, hfit⟩ := hok
  have hq : ∀ len, size = .fixed len true → fbOf st furibug = [] := by
    intro len hsz
    subst hsz
    have : furibug = false := by simpa [Enc.strAttrsOk] using hattr
    subst this; rfl
  have hbody : (s ++ nulOf size ++ fbOf st furibug).length =
      s.length + (nulOf size).length + (fbOf st furibug).length := by
    rw [List.length_append, List.length_append]
  have hpad : ∃ e3, strPad size (s ++ nulOf size ++ fbOf st furibug) = .ok e3 := by
    cases size with
    | fixed len nl =>
      have hle : ¬ (s ++ nulOf (.fixed len nl) ++ fbOf st furibug).length > len := by
        rw [hbody, show (nulOf (.fixed len nl)).length = if nl then 0 else 1 by cases nl <;> rfl]
        exact Nat.not_lt.mpr (of_decide_eq_true hfit)
      exact ⟨_, if_neg hle⟩
    | toBlobEnd bs | pascal bs =>
      have : bs ≠ 0 := bne_iff_ne.mp hattr
      simp only [strPad, this, if_false]
      split <;> exact ⟨_, rfl⟩
  obtain ⟨e3, hp⟩ := hpad
  obtain ⟨k, hk, hlen⟩ := strPad_form hp
  refine ⟨_, _, by rw [encodeStr_eq, hp]; rfl, fun tl htl => ?_⟩
  rw [← applyMask_length mask e3]
  refine decodeStr_framed size mask furibug (applyMask mask e3) tl s [] ?_ ?_
  · rw [applyMask_length]
    rcases size with ⟨len, nl⟩ | bs | bs
    · exact hlen
    · exact htl bs rfl
    · rw [hk]
      exact pascal_fits hok' hlen.1
  · rw [xor_involutive, hk]
    exact trim_decoded st size furibug s k hs hq

def Enc.isBlobEnd : Enc → Bool
  | .str (.toBlobEnd _) _ _ => true
  | _ => false

theorem arg_roundtrip {st : EncState} {e : Enc} {a : Arg} (hattr : e.strAttrsOk = true)
    (hok : argOk st e a = true) :
    (a.isReg = true → e.alwaysImmediate = false) ∧
    ∃ bytes st1, encodeOne st e a = .ok (bytes, st1) ∧
      ∀ tl arg0, (e.isBlobEnd = true → tl = []) →
        decodeOne e (bytes ++ tl) a.isReg arg0 = .ok (a, [], tl, arg0) := by
  revert hok
  fun_cases argOk st e a with
  | case1 w signed imm v reg =>
    intro hok
    simp only [Bool.and_eq_true, Bool.not_eq_true', Bool.and_eq_false_iff] at hok
    obtain ⟨⟨hfit, hr⟩, himm⟩ := hok
    refine ⟨fun h => himm.resolve_left (by simp [Arg.isReg] at h; simp [h]),
      leBytes w.bytes (wrapTo w.bytes v), st, ?_, fun tl arg0 _ => ?_⟩
    · simp only [encodeOne, expectInt, hfit, Bool.not_true, Bool.and_false, Bool.false_eq_true, if_false]
    · simp only [decodeOne, field_not_short, if_false, field_take, field_drop, leNat_leBytes_wrapTo,
        int_roundtrip w signed v hfit hr, Arg.isReg]
  | case2 v reg | case3 v reg =>
    intro hok
    simp only [Bool.and_eq_true, Bool.not_eq_true'] at hok
    refine ⟨fun h => by simp [Arg.isReg, hok.2] at h, _, st, rfl, fun tl arg0 _ => ?_⟩
    simp only [decodeOne, field_not_short, if_false, field_take, field_drop, leNat_leBytes_wrapTo,
      i32_roundtrip v hok.1, Arg.isReg]
  | case4 imm b reg =>
    intro hok
    refine ⟨fun h => ?_, _, st, rfl, fun tl arg0 _ => ?_⟩
    · simp only [Arg.isReg] at h; subst h; simpa [Enc.alwaysImmediate] using hok
    · simp only [decodeOne, field_not_short, if_false, field_take, field_drop, leNat_leBytes,
        Nat.mod_eq_of_lt b.toNat_lt, UInt32.ofNat_toNat, Arg.isReg]
  | case5 size mask furibug s =>
    intro hok
    obtain ⟨out, st2, he, hd⟩ := str_roundtrip hattr hok
    refine ⟨fun h => by simp [Arg.isReg] at h, out, st2, he, fun tl arg0 htl => ?_⟩
    simp only [decodeOne, hd tl (fun bs hsz => htl (by rw [hsz]; rfl))]
  | case6 => nofun

/-- the rule of `validate` the decoder loop needs, in the form the loop meets it: a `toBlobEnd` string is the last parameter -/
def blobEndLast : Abi → Bool
  | [] => true
  | e :: es => (!e.isBlobEnd || es.isEmpty) && blobEndLast es

theorem stateAfter_eq {st : EncState} {e : Enc} {a : Arg} {bytes : Bytes} {st1 : EncState}
    (h : encodeOne st e a = .ok (bytes, st1)) : stateAfter st e a = st1 := by
  simp [stateAfter, h]

theorem isPadding_of_isArg0 {e : Enc} (h0 : e.isArg0 = true) : e.isPadding = false := by
  cases e <;> first | rfl | cases h0

theorem fitsInt_zero (w : IntW) (s : Bool) : fitsInt w s 0 = true := by
  cases w <;> cases s <;> decide

theorem encodePlain_ok {st : EncState} {es : Abi} {as : List Arg} {a0 : Option Int} {raw : Raw} {w : List String}
    {st1 : EncState} (h : encodePlain st es as a0 = .ok (raw, w, st1)) :
    ∃ o, encLoop 0 es as st = .ok o ∧ raw = ⟨o.blob, o.mask % 65536, a0⟩ ∧ w = o.warnings ∧ st1 = o.st := by
  revert h
  fun_cases encodePlain st es as a0 with
  | case1 o ho => intro h; cases h; exact ⟨o, ho, rfl, rfl, rfl⟩
  | _ => exact nofun

theorem low_bit_add (m : Nat) : (if (m % 2 == 1) = true then 1 else 0) + 2 * (m / 2) = m := by
  have := Nat.mod_add_div m 2
  rcases Nat.mod_two_eq_zero_or_one m with h | h <;> rw [h] at this ⊢ <;> exact this

theorem filter_contributes_pad {e : Enc} (hp : e.isPadding = true) (es : Abi) :
    (e :: es).filter Enc.contributes = es.filter Enc.contributes :=
  List.filter_cons_of_neg (by simp [Enc.contributes, hp])

theorem filter_contributes_arg {e : Enc} (hp : ¬ e.isPadding = true) (es : Abi) :
    (e :: es).filter Enc.contributes = e :: es.filter Enc.contributes :=
  List.filter_cons_of_pos (by simpa [Enc.contributes] using hp)

/-- what `decLoop` makes of the encoder loop's output: every byte and mask bit consumed, no warning, padding
zero.  For every `arg0`: the header field is the caller's, the loop only passes it through. -/
def ReadsBack (es : Abi) (blob : Bytes) (mask : Nat) (args : List Arg) : Prop :=
  ∀ arg0, ∃ full, decLoop es blob mask arg0 = .ok ⟨full, [], [], 0, arg0⟩ ∧
    dropPadding es full = args ∧ nonzeroPadding es full = false

/-- with mask bits left for every remaining parameter, the decoder loop reads back what the encoder
loop wrote, consuming all bytes and all mask bits.  (`o.mask = 0` without registers is for an `arg0` head:
the decoder spends bit 0 on it, the encoder does not, `C12.decLoop_arg0`.) -/
theorem decLoop_encLoop (es : Abi) (k : Nat) (args : List Arg) (st : EncState)
    (hk : k + (es.filter Enc.contributes).length ≤ 16) (hattr : ∀ e ∈ es, e.strAttrsOk = true)
    (hbe : blobEndLast es = true) (hok : argsOkLoop st es args = true) :
    ∃ o, encLoop k es args st = .ok o ∧ o.warnings = [] ∧
      (args.any Arg.isReg = false → o.mask = 0) ∧ ReadsBack es o.blob o.mask args := by
  fun_induction argsOkLoop st es args generalizing k with
  | case1 st args =>
    rw [List.isEmpty_iff] at hok
    subst hok
    exact ⟨⟨[], 0, [], st⟩, rfl, rfl, fun _ => rfl, fun arg0 => ⟨[], rfl, rfl, rfl⟩⟩
  | case2 st e es args hp ih =>
    simp only [blobEndLast, Bool.and_eq_true] at hbe
    rw [filter_contributes_pad hp] at hk
    obtain ⟨o, ho, hw, hz, hd⟩ := ih k hk (List.forall_mem_cons.mp hattr).2 hbe.2 hok
    refine ⟨⟨zeros e.padWidth ++ o.blob, o.mask, o.warnings, o.st⟩, by simp only [encLoop, hp, if_true, ho],
      hw, hz, fun arg0 => ?_⟩
    obtain ⟨full, hdec, hdp, hnz⟩ := hd arg0
    have hl := zeros_length e.padWidth
    have hlen : ¬ (zeros e.padWidth ++ o.blob).length < e.padWidth := by
      rw [List.length_append, hl]; exact Nat.not_lt.mpr (Nat.le_add_right _ _)
    refine ⟨.int 0 false :: full, ?_, by simp only [dropPadding, hp, if_true, hdp],
      by simp only [nonzeroPadding, hp, hnz]; rfl⟩
    simp only [decLoop, hp, if_true, hlen, if_false, List.take_left' hl, List.drop_left' hl, hdec, zeros_leNat]
    rfl
  | case3 => cases hok
  | case4 st e es hp a as ih =>
    have hp' : e.isPadding = false := Bool.eq_false_iff.mpr hp
    simp only [blobEndLast, Bool.and_eq_true] at hbe
    rw [filter_contributes_arg hp, List.length_cons] at hk
    simp only [Bool.and_eq_true] at hok
    obtain ⟨hattre, hattr'⟩ := List.forall_mem_cons.mp hattr
    obtain ⟨hreg, bytes, st1, he, hdone⟩ := arg_roundtrip hattre hok.1
    rw [stateAfter_eq he] at hok ih
    obtain ⟨o, ho, hw, hz, hd⟩ := ih (k + 1) (by rw [Nat.add_right_comm]; exact hk) hattr' hbe.2 hok.2
    -- warning, mask bit and the flag the decoder reads from it are all determined by `a.isReg`
    obtain ⟨hwarn, hbit, hreg'⟩ : (e.alwaysImmediate && a.isReg) = false ∧
        (a.isReg && !e.alwaysImmediate) = a.isReg ∧
        (!e.alwaysImmediate && ((if a.isReg = true then 1 else 0) + 2 * o.mask) % 2 == 1) = a.isReg := by
      cases hr : a.isReg with
      | false => simp
      | true => simp [hreg hr]
    have hfull : (a.isReg && decide (16 ≤ k)) = false := by
      rw [decide_eq_false (Nat.not_le.mpr (Nat.lt_of_lt_of_le (Nat.lt_add_of_pos_right (Nat.succ_pos _)) hk)),
        Bool.and_false]
    refine ⟨⟨bytes ++ o.blob, (if a.isReg = true then 1 else 0) + 2 * o.mask, [], o.st⟩,
      by simp only [encLoop, hp', Bool.false_eq_true, if_false, hfull, he, ho, hwarn, hbit, hw, List.append_nil],
      rfl, fun hall => ?_, fun arg0 => ?_⟩
    · rw [List.any_cons, Bool.or_eq_false_iff] at hall
      rw [hall.1, hz hall.2]; rfl
    · obtain ⟨full, hdec, hdp, hnz⟩ := hd arg0
      have hdiv : ((if a.isReg = true then 1 else 0) + 2 * o.mask) / 2 = o.mask := by
        rw [Nat.add_mul_div_left _ _ (by decide : 0 < 2)]
        cases a.isReg <;> exact Nat.zero_add _
      have htl : e.isBlobEnd = true → o.blob = [] := by
        intro hb
        have : es = [] := by simpa [hb] using hbe.1
        subst this
        cases ho; rfl
      refine ⟨a :: full, ?_, by simp only [dropPadding, hp', Bool.false_eq_true, if_false, hdp],
        by simp only [nonzeroPadding, hp', Bool.false_and, Bool.false_or, hnz]⟩
      simp only [decLoop, hp', Bool.false_eq_true, if_false, hreg', hdone o.blob arg0 htl, hdiv, hdec, List.nil_append]

theorem blobEndLast_of_dropLast (abi : Abi) (h : abi.dropLast.any Enc.isBlobEnd = false) :
    blobEndLast abi = true := by
  induction abi with
  | nil => rfl
  | cons e es ih =>
    cases es with
    | nil => simp [blobEndLast]
    | cons e2 es2 =>
      simp only [List.dropLast_cons_cons, List.any_cons, Bool.or_eq_false_iff] at h
      simp only [blobEndLast, h.1, Bool.not_false, Bool.true_or, Bool.true_and]
      exact ih h.2

theorem validAbi_rules {abi : Abi} (h : validAbi abi = true) :
    (abi.drop 1).any Enc.isArg0 = false ∧ (abi.reverse.drop 1).any Enc.isBlobEnd = false ∧
      abi.all Enc.strAttrsOk = true ∧ (abi.filter (· == .jumpOffset)).length ≤ 1 := by
  simp only [validAbi, Bool.and_eq_true, Bool.not_eq_true', decide_eq_true_eq] at h
  obtain ⟨⟨⟨⟨⟨⟨ho, _⟩, _⟩, harg0⟩, hblob⟩, _⟩, hattr⟩ := h
  exact ⟨harg0, hblob, hattr, ho⟩

theorem validAbi_blobEndLast {abi : Abi} (h : validAbi abi = true) : blobEndLast abi = true := by
  apply blobEndLast_of_dropLast
  have hblob := (validAbi_rules h).2.1
  rwa [List.drop_one, List.tail_reverse, List.any_reverse] at hblob

theorem validAbi_arg0_tail (abi : Abi) (h : validAbi abi = true) :
    ∀ e ∈ abi.drop 1, e.isArg0 = false := by
  have harg0 := (validAbi_rules h).1
  intro e he
  cases hx : e.isArg0 with
  | false => rfl
  | true => rw [List.any_eq_true.mpr ⟨e, he, hx⟩] at harg0; cases harg0

theorem validAbi_strAttrs {abi : Abi} (h : validAbi abi = true) : ∀ e ∈ abi, e.strAttrsOk = true :=
  List.all_eq_true.mp (validAbi_rules h).2.2.1

def countO (es : Abi) : Nat := (es.filter (· == .jumpOffset)).length

theorem validAbi_countO {abi : Abi} (hv : validAbi abi = true) : countO abi ≤ 1 :=
  (validAbi_rules hv).2.2.2

theorem decompileCall_of_decLoop {abi : Abi} {raw : Raw} {full args : List Arg} {a0 : Option Int}
    (hd : decLoop abi raw.blob raw.mask raw.arg0 = .ok ⟨full, [], [], 0, a0⟩)
    (hdp : dropPadding abi full = args) (hnz : nonzeroPadding abi full = false) :
    decompileCall abi raw = .ok (args, []) := by
  simp [decompileCall, decodeArgs, hd, hdp, hnz]

theorem decompileCall_quiet {abi : Abi} {raw : Raw} {args : List Arg} (h : decompileCall abi raw = .ok (args, [])) :
    ∃ full, decodeArgs abi raw = .ok (full, []) ∧ dropPadding abi full = args ∧ nonzeroPadding abi full = false := by
  revert h
  fun_cases decompileCall abi raw with
  | case1 full w hd =>
    intro h
    injection h with h; injection h with h1 h2
    obtain ⟨rfl, hp⟩ := List.append_eq_nil_iff.mp h2
    refine ⟨full, hd, h1, ?_⟩
    cases hz : nonzeroPadding abi full with
    | false => rfl
    | true => rw [hz] at hp; cases hp
  | _ => exact nofun

/-! the signatures for which `encode (decode blob) = blob` is proved (`C12.encode_decode_partial`): no string
parameter (`strFree`), no `arg0` parameter (`noArg0`) -/

def Enc.isStr : Enc → Bool
  | .str .. => true
  | _ => false

def strFree (abi : Abi) : Bool := abi.all fun e => !Enc.isStr e
def noArg0 (abi : Abi) : Bool := abi.all fun e => !e.isArg0

/-- register bits only on parameters that can be registers, none beyond the last parameter
(a bit elsewhere is dropped by the decoder: silently on an immediate-only parameter, with the
"unused mask bits" warning beyond the end) -/
def maskOk : Abi → Nat → Bool
  | [], m => m == 0
  | e :: es, m =>
    if e.isPadding then maskOk es m
    else (!e.alwaysImmediate || m % 2 == 0) && maskOk es (m / 2)

theorem decodeOne_field {n : Nat} {rest : Bytes} {a0 : Option Int} {val : Nat → Arg}
    {a : Arg} {w : List String} {rest1 : Bytes} {a01 : Option Int}
    (hd : (if rest.length < n then Outcome.err notEnough
      else .ok (val (leNat (rest.take n)), ([] : List String), rest.drop n, a0)) = .ok (a, w, rest1, a01)) :
    a = val (leNat (rest.take n)) ∧ rest = rest.take n ++ rest1 ∧
      leBytes n (leNat (rest.take n)) = rest.take n ∧ leNat (rest.take n) < 256 ^ n := by
  have hlen : ¬ rest.length < n := fun hl => by rw [if_pos hl] at hd; cases hd
  rw [if_neg hlen] at hd
  cases hd
  have hl : (rest.take n).length = n := List.length_take_of_le (Nat.not_lt.mp hlen)
  have h1 := leBytes_leNat (rest.take n)
  have h2 := leNat_lt (rest.take n)
  rw [hl] at h1 h2
  exact ⟨rfl, (List.take_append_drop n rest).symm, h1, h2⟩

theorem encodeOne_decodeOne (st : EncState) {e : Enc} {rest : Bytes} {r : Bool} {a0 : Option Int}
    {a : Arg} {w : List String} {rest1 : Bytes} {a01 : Option Int}
    (hs : e.isStr = false) (h0 : e.isArg0 = false) (hp : e.isPadding = false)
    (hd : decodeOne e rest r a0 = .ok (a, w, rest1, a01)) :
    a.isReg = r ∧ ∃ bytes, rest = bytes ++ rest1 ∧ encodeOne st e a = .ok (bytes, st) := by
  cases e with
  | int iw signed z imm =>
    cases z with
    | true => cases h0
    | false =>
      obtain ⟨rfl, hrest, hfield, hx⟩ := decodeOne_field
        (val := fun x => .int (if signed then toSigned iw.bytes x else toSigned 4 x) r) hd
      refine ⟨rfl, _, hrest, ?_⟩
      simp only [encodeOne, expectInt, fits_of_read iw signed _ hx, Bool.false_eq_true, if_false,
        wrap_of_read iw signed _ hx, hfield]
  | jumpOffset | jumpTime =>
    obtain ⟨rfl, hrest, hfield, hx⟩ := decodeOne_field (val := fun x => .int (toSigned 4 x) r) hd
    refine ⟨rfl, _, hrest, ?_⟩
    simp only [encodeOne, expectInt, wrapTo_toSigned 4 4 (Nat.le_refl _) _ (two_pow_bits 4 ▸ hx), hfield]
  | padding wd => cases hp
  | float imm =>
    obtain ⟨rfl, hrest, hfield, hx⟩ := decodeOne_field (val := fun x => .float (UInt32.ofNat x) r) hd
    refine ⟨rfl, _, hrest, ?_⟩
    simp only [encodeOne, expectFloat, UInt32.toNat_ofNat_of_lt' hx, hfield]
  | str sz m f => cases hs

theorem padWidth_le (e : Enc) : e.padWidth ≤ 4 := by
  cases e with
  | padding wide => cases wide <;> decide
  | _ => exact Nat.zero_le _

theorem padding_zero (bs : Bytes) (hl : bs.length ≤ 4) (h : toSigned 4 (leNat bs) = 0) :
    bs = zeros bs.length := by
  apply leNat_eq_zero
  have hx : leNat bs < 2 ^ (8 * 4) := by
    rw [two_pow_bits]
    exact Nat.lt_of_lt_of_le (leNat_lt bs) (Nat.pow_le_pow_right (by decide) hl)
  have := wrapTo_toSigned 4 4 (Nat.le_refl _) _ hx
  rw [h] at this
  exact this.symm

/-- a blob that decodes, with zero padding and register bits only where they can be, is what the
encoder writes for the decoded arguments -/
theorem encLoop_decLoop (es : Abi) (k : Nat) (rest : Bytes) (mask : Nat) (a0 : Option Int) (o : DecOut)
    (st : EncState) (hk : mask < 2 ^ (16 - k))
    (hsf : strFree es = true) (hna : noArg0 es = true) (hd : decLoop es rest mask a0 = .ok o)
    (hnz : nonzeroPadding es o.args = false) (hm : maskOk es mask = true) :
    ∃ blob, rest = blob ++ o.rest ∧ encLoop k es (dropPadding es o.args) st = .ok ⟨blob, mask, [], st⟩ := by
  fun_induction decLoop es rest mask a0 generalizing k o with
  | case1 rest mask a0 =>
    cases hd
    simp only [maskOk, beq_iff_eq] at hm
    subst hm
    exact ⟨[], rfl, rfl⟩
  | case3 e es rest mask a0 hp hlen o2 h2 ih =>
    cases hd
    simp only [strFree, noArg0, List.all_cons, Bool.and_eq_true] at hsf hna
    simp only [nonzeroPadding, hp, Bool.true_and, Bool.or_eq_false_iff, bne_eq_false_iff_eq,
      Arg.int.injEq, and_true] at hnz
    simp only [maskOk, hp, if_true] at hm
    obtain ⟨blob, hrest, henc⟩ := ih k o2 hk hsf.2 hna.2 h2 hnz.2 hm
    have hl : (rest.take e.padWidth).length = e.padWidth := List.length_take_of_le (Nat.not_lt.mp hlen)
    have hz := padding_zero (rest.take e.padWidth) (by rw [hl]; exact padWidth_le e) hnz.1
    rw [hl] at hz
    refine ⟨zeros e.padWidth ++ blob, ?_, ?_⟩
    · rw [List.append_assoc, ← hz, ← hrest, List.take_append_drop]
    · simp only [dropPadding, hp, if_true, encLoop, henc]
  | case4 _ _ _ _ _ _ _ hne => exact (hne o hd).elim
  | case5 e es rest mask a0 hp a w rest1 a01 h1 o2 h2 ih =>
    cases hd
    simp only [strFree, noArg0, List.all_cons, Bool.and_eq_true, Bool.not_eq_true'] at hsf hna
    have hp' : e.isPadding = false := Bool.eq_false_iff.mpr hp
    simp only [nonzeroPadding, hp', Bool.false_and, Bool.false_or] at hnz
    simp only [maskOk, hp', Bool.false_eq_true, if_false, Bool.and_eq_true] at hm
    obtain ⟨hreg, bytes, hrest, henc1⟩ := encodeOne_decodeOne st hsf.1 hna.1 hp' h1
    -- a set bit lies below bit `16 - k`, so a register still has a mask bit to go to
    obtain ⟨hfull, hk1⟩ : (a.isReg && decide (16 ≤ k)) = false ∧ mask / 2 < 2 ^ (16 - (k + 1)) := by
      by_cases hk16 : 16 ≤ k
      · rw [Nat.sub_eq_zero_of_le hk16] at hk
        rw [Nat.lt_one_iff.mp hk, Nat.sub_eq_zero_of_le (Nat.le_succ_of_le hk16)]
        rw [Nat.lt_one_iff.mp hk] at hreg
        exact ⟨by rw [hreg]; simp, by decide⟩
      · have : 2 ^ (16 - k) = 2 * 2 ^ (16 - (k + 1)) :=
          (Nat.two_pow_pred_mul_two (Nat.sub_pos_of_lt (Nat.lt_of_not_le hk16))).symm.trans (Nat.mul_comm ..)
        exact ⟨by rw [decide_eq_false hk16, Bool.and_false], Nat.div_lt_of_lt_mul (this ▸ hk)⟩
    obtain ⟨blob, hrest2, henc⟩ := ih (k + 1) o2 hk1 hsf.2 hna.2 h2 hnz hm.2
    refine ⟨bytes ++ blob, by rw [hrest, hrest2, List.append_assoc], ?_⟩
    -- the flag read from the lowest mask bit is the bit written back
    have hbit : (if (a.isReg && !e.alwaysImmediate) = true then 1 else 0) + 2 * (mask / 2) = mask := by
      have hcond : (a.isReg && !e.alwaysImmediate) = (mask % 2 == 1) := by
        rw [hreg]
        cases hai : e.alwaysImmediate with
        | false => simp
        | true =>
          have : mask % 2 = 0 := by simpa [hai] using hm.1
          simp [this]
      rw [hcond]
      exact low_bit_add mask
    have hwarn : (e.alwaysImmediate && a.isReg) = false := by
      rw [hreg]; cases e.alwaysImmediate <;> rfl
    simp only [dropPadding, hp', Bool.false_eq_true, if_false, encLoop, hfull, henc1, henc, hbit, hwarn,
      List.nil_append]
  | case6 _ _ _ _ _ _ _ _ _ _ _ hne => exact (hne o hd).elim
  | case2 | case7 | case8 => cases hd

/-- what every decoded value looks like: the type of its encoding, a register only where the
encoding allows one, jump arguments are 32-bit immediates -/
def argWF : Enc → Arg → Bool
  | .jumpOffset, .int v r => i32Range v && !r
  | .jumpTime, .int v r => i32Range v && !r
  | .padding _, .int _ r => !r
  | .int _ _ _ imm, .int _ r => !(r && imm)
  | .float imm, .float _ r => !(r && imm)
  | .str .., .str _ => true
  | _, _ => false

def argsWF : Abi → List Arg → Bool
  | [], [] => true
  | e :: es, a :: as => argWF e a && argsWF es as
  | _, _ => false

theorem toSigned4_range (x : Nat) (hx : x < 256 ^ 4) : i32Range (toSigned 4 x) = true :=
  i32Range_iff.mpr (toSigned_range 4 (by decide) x (two_pow_bits 4 ▸ hx))

theorem leNat_take4_lt (rest : Bytes) : leNat (rest.take 4) < 256 ^ 4 :=
  Nat.lt_of_lt_of_le (leNat_lt (rest.take 4)) (Nat.pow_le_pow_right (by decide) (List.length_take_le 4 rest))

theorem not_reg_imm {r imm : Bool} (hr : imm = true → r = false) : (!(r && imm)) = true := by
  cases imm
  · exact congrArg (!·) (Bool.and_false r)
  · rw [hr rfl]; rfl

theorem decodeOne_spec {e : Enc} {rest : Bytes} {r : Bool} {a0 : Option Int} {a : Arg} {w : List String}
    {rest1 : Bytes} {a01 : Option Int} (hr : e.alwaysImmediate = true → r = false)
    (h : decodeOne e rest r a0 = .ok (a, w, rest1, a01)) :
    a.isReg = r ∧ argWF e a = true ∧ a01 = if e.isArg0 then none else a0 := by
  revert h
  fun_cases decodeOne e rest r a0 with
  | case2 | case9 | case11 => intro h; cases h; exact ⟨rfl, not_reg_imm hr, rfl⟩
  | case5 | case7 =>
    intro h; cases h
    exact ⟨rfl, by simp only [argWF, toSigned4_range _ (leNat_take4_lt rest), hr rfl]; rfl, rfl⟩
  | case12 => intro h; cases h; exact ⟨(hr rfl).symm, rfl, rfl⟩
  | _ => exact nofun

end TruthModel.Abi
