import TruthModel.Lemmas.Scope
/-
C10: every event is about one identifier occurrence, its key (`evKey`).  The keys of the specification's events are
the occurrences of the program in resolver order (`spec_key`); an event list whose keys are pairwise distinct and
not yet in the table runs through `applyEvents` without an assertion firing (`applyEvents_fresh`).
-/
namespace TruthModel.Scope

/-- what an event writes or reports: `some id` for the one primary event of occurrence `id`,
`none` for a fired assertion; redefinition diagnostics come on top of the declaration's own event -/
def evKey : Event → List (Option Nat)
  | .selfRes id => [some id]
  | .res id _ => [some id]
  | .err id _ => [some id]
  | .redef _ _ => []
  | .panic _ => [none]
  | .skipped id => [some id]

mutual
def exprIds : Expr → List Nat
  | .use u => [u.id]
  | .group es => exprsIds es
  | .call u args => u.id :: exprsIds args
  | .raw _ args => exprsIds args
def exprsIds : List Expr → List Nat
  | [] => []
  | e :: es => exprIds e ++ exprsIds es
end

def useIds (es : List Expr) : List Nat := exprsIds es

mutual
/-- identifier occurrences of a statement in the order the resolver handles them (the item
declarations of a block first, as they are pre-declared) -/
def stmtIds : Stmt → List Nat
  | .expr us => useIds us
  | .decl vars => vars.flatMap fun v => useIds v.init ++ [v.id]
  | .block b => (itemDecls b).map (·.2.1) ++ stmtsIds b
  | .func _ _ _ params body => params.map (·.1) ++ ((itemDecls body).map (·.2.1) ++ stmtsIds body)
  | .const vars => vars.flatMap fun v => useIds v.init
  | .script b => (itemDecls b).map (·.2.1) ++ stmtsIds b
  | .funcDecl _ _ _ params => params.map (·.1)
def stmtsIds : List Stmt → List Nat
  | [] => []
  | s :: ss => stmtIds s ++ stmtsIds ss
end

def blockIds (b : List Stmt) : List Nat := (itemDecls b).map (·.2.1) ++ stmtsIds b

def VEntry.clean : VEntry → Prop
  | .loc _ d => d ≠ .enumDummy
  | .item d => d ≠ .enumDummy
  | .blocked _ _ => True

/-- No program declaration is the enum-const dummy.  `finishVar` looks an `.ok .enumDummy` up again, by name, among
the enum consts; in a clean environment such a result can only come from the global enum-const rib, so an enum
owning the name exists (no assertion) and the name is not one a renaming touches. -/
def EnvClean (env : Env) : Prop := ∀ n e, env.vars n = some e → e.clean

theorem envClean_update (env : Env) (h : EnvClean env) (a : Name) (k : LocalKind) (id : Nat) :
    EnvClean { env with vars := update env.vars a (.loc k (.decl id)) } := by
  intro n e he
  simp only [update] at he
  split at he
  · cases he; simp [VEntry.clean]
  · exact h n e he

theorem envClean_hide (env : Env) (h : EnvClean env) (ik : ItemKind) : EnvClean (env.hide ik) := by
  intro n e he
  simp only [Env.hide] at he
  cases hv : env.vars n with
  | none => simp [hv] at he
  | some e0 =>
    simp only [hv, Option.map_some, Option.some.injEq] at he
    subst he
    have := h n e0 hv
    cases e0 <;> simp_all [hideEntry, VEntry.clean]

theorem envClean_withItems (env : Env) (h : EnvClean env) (ds : List (Ns × Nat × Name)) :
    EnvClean (env.withItems ds) := by
  intro n e he
  simp only [Env.withItems] at he
  cases hl : lastDecl ds .vars n with
  | none => simp only [hl] at he; exact h n e he
  | some id => simp only [hl, Option.some.injEq] at he; subst he; simp [VEntry.clean]

theorem envClean_empty : EnvClean Env.empty := by
  intro n e he; cases he

theorem enumOwners_ne_nil (g : Globals) (n : Name) (h : g.enumConsts.any (fun p => p.2 == n) = true) :
    g.enumOwners n ≠ [] := by
  unfold Globals.enumOwners
  obtain ⟨p, hp, hpn⟩ := List.any_eq_true.mp h
  have hmem : p.1 ∈ (g.enumConsts.filter fun p => p.2 == n).map (·.1) :=
    List.mem_map.mpr ⟨p, List.mem_filter.mpr ⟨hp, hpn⟩, rfl⟩
  intro hnil
  have : p.1 ∈ ((g.enumConsts.filter fun p => p.2 == n).map (·.1)).eraseDups := List.mem_eraseDups.mpr hmem
  rw [hnil] at this
  simp at this

theorem globalVar_dummy (g : Globals) (lang : Option Lang) (n : Name) (h : g.globalVar lang n = .ok .enumDummy) :
    g.enumConsts.any (fun p => p.2 == n) = true := by
  unfold Globals.globalVar at h
  by_cases h1 : g.enumConsts.any (fun p => p.2 == n) = true
  · exact h1
  · exfalso
    rw [if_neg h1] at h
    by_cases h2 : g.builtins.contains n = true
    · rw [if_pos h2] at h; cases h
    · rw [if_neg h2] at h
      cases lang with
      | none => cases h
      | some l =>
        simp only [] at h
        by_cases h3 : g.langs.contains l = true
        · rw [if_pos h3] at h
          cases hla : lastAlias g.regAliases l n <;> rw [hla] at h <;> cases h
        · rw [if_neg h3] at h; cases h

theorem lookupVar_dummy (g : Globals) (lang : Option Lang) (env : Env) (hc : EnvClean env) (n : Name)
    (h : lookupVar g lang env n = .ok .enumDummy) :
    env.vars n = none ∧ g.enumConsts.any (fun p => p.2 == n) = true := by
  unfold lookupVar at h
  cases hv : env.vars n with
  | none => rw [hv] at h; exact ⟨rfl, globalVar_dummy g lang n h⟩
  | some e =>
    have hcl := hc n e hv
    rw [hv] at h
    cases e with
    | loc k d | item d => cases h; exact absurd rfl hcl
    | blocked k ik => cases h

theorem specUse_key (g : Globals) (lang : Option Lang) (env : Env) (hc : EnvClean env) (u : Use) :
    evKey (specUse g lang env u) = [some u.id] := by
  unfold specUse
  cases u.enumQual with
  | some e =>
    simp only [resolveQualifiedEnumConst]
    split
    · split <;> rfl
    · rfl
  | none =>
  simp only []
  unfold specUseScoped
  cases u.ns with
  | funcs =>
    simp only []
    cases lookupFunc g lang env u.name <;> rfl
  | vars =>
    simp only []
    cases hl : lookupVar g lang env u.name with
    | error e => rfl
    | ok d =>
      cases d with
      | enumDummy =>
        have hne := enumOwners_ne_nil g u.name (lookupVar_dummy g lang env hc u.name hl).2
        simp only [finishVar, resolveUnqualifiedEnumConst]
        split
        · rfl
        · split
          · rename_i h; exact absurd h hne
          · rfl
          · rfl
      | decl id | regAlias l r | insAlias l r | enumConst e n | builtin n => rfl

theorem skip_key :
    (∀ (e : Expr), (skipExpr e).flatMap evKey = (exprIds e).map some) ∧
    (∀ (es : List Expr), (skipExprs es).flatMap evKey = (exprsIds es).map some) := by
  refine Expr.induct ?_ ?_ ?_ ?_ ?_ ?_
  · intro u; rfl
  · intro es ih; exact ih
  · intro u args ih
    simp only [skipExpr, exprIds, List.flatMap_cons, List.map_cons, evKey, List.singleton_append]
    rw [ih]
  · intro op args ih; exact ih
  · rfl
  · intro e es ihe ihes
    simp only [skipExprs, exprsIds, List.flatMap_append, List.map_append]
    rw [ihe, ihes]

theorem skipExprs_key : ∀ (es : List Expr), (skipExprs es).flatMap evKey = (exprsIds es).map some :=
  skip_key.2

theorem walk_key (g : Globals) (lang : Option Lang) (look : Use → Event) (hl : ∀ u, evKey (look u) = [some u.id]) :
    (∀ (e : Expr) (c : Option Name), (walkExpr g lang look c e).flatMap evKey = (exprIds e).map some) ∧
    (∀ (es : List Expr) (c : Option Name) (sig : Option Sig),
      (walkArgs g lang look c sig es).flatMap evKey = (exprsIds es).map some) := by
  refine Expr.induct ?_ ?_ ?_ ?_ ?_ ?_
  · intro u c
    simp only [walkExpr, exprIds, List.flatMap_cons, List.flatMap_nil, hl, List.map_cons]; rfl
  · intro es ih c; rw [walkExpr, ← walkArgs_none]; exact ih c none
  · intro u args ih c
    simp only [walkExpr, exprIds, List.flatMap_cons, List.map_cons, hl, List.singleton_append]
    rw [ih c]
  · intro op args ih c; exact ih c _
  · intro c sig; simp only [walkArgs, exprsIds]; rfl
  · intro e es ihe ihes c sig
    rw [exprsIds, List.map_append]
    match sig with
    | none => rw [walkArgs, List.flatMap_append, ihe c, ihes c none]
    | some [] => rw [walkArgs, List.flatMap_append, skip_key.1 e, ihes c (some [])]
    | some (pc :: ps) => rw [walkArgs, List.flatMap_append, ihe pc, ihes c (some ps)]

theorem specUses_key (g : Globals) (lang : Option Lang) (env : Env) (hc : EnvClean env) (c : Option Name)
    (es : List Expr) :
    (walkExprs g lang (specUse g lang env) c es).flatMap evKey = (useIds es).map some :=
  walkArgs_none g lang _ c es ▸ (walk_key g lang (specUse g lang env) (specUse_key g lang env hc)).2 es c none

theorem redef_key (b : Bool) (id : Nat) (noun : Noun) :
    (if b then [Event.redef id noun] else []).flatMap evKey = [] := by
  cases b <;> rfl

theorem declEvents_key (noun : Ns → Noun) : ∀ (ds : List (Ns × Nat × Name)) (seen : Ns → Name → Bool),
    (declEvents noun seen ds).flatMap evKey = (ds.map (·.2.1)).map some := by
  intro ds
  induction ds with
  | nil => intro seen; rfl
  | cons d ds ih =>
    intro seen
    obtain ⟨ns, id, n⟩ := d
    simp only [declEvents, List.flatMap_cons, List.flatMap_append, List.map_cons, evKey]
    rw [ih]
    rw [redef_key]; rfl

theorem specParams_key : ∀ (ps : List (Nat × Name)) (env : Env) (here : Name → Bool), EnvClean env →
    (specParams env here ps).2.flatMap evKey = (ps.map (·.1)).map some ∧ EnvClean (specParams env here ps).1 := by
  intro ps
  induction ps with
  | nil => intro env here hc; exact ⟨rfl, hc⟩
  | cons p ps ih =>
    intro env here hc
    have hc' := envClean_update env hc p.2 .param p.1
    obtain ⟨h1, h2⟩ := ih _ (fun n => decide (n = p.2) || here n) hc'
    simp only [specParams, List.flatMap_cons, List.flatMap_append, List.map_cons, evKey]
    refine ⟨?_, h2⟩
    rw [h1]
    rw [redef_key]; rfl

theorem envClean_specParams (ps : List (Nat × Name)) (env : Env) (here : Name → Bool) (hc : EnvClean env) :
    EnvClean (specParams env here ps).1 := (specParams_key ps env here hc).2

theorem specDeclVars_key (g : Globals) (lang : Option Lang) : ∀ (vars : List DeclVar) (env : Env)
    (here : Name → Bool), EnvClean env →
    (specDeclVars g lang env here vars).2.flatMap evKey =
        (vars.flatMap fun v => useIds v.init ++ [v.id]).map some ∧
      EnvClean (specDeclVars g lang env here vars).1.1 := by
  intro vars
  induction vars with
  | nil => intro env here hc; exact ⟨rfl, hc⟩
  | cons v vs ih =>
    intro env here hc
    have hc' := envClean_update env hc v.name .local v.id
    obtain ⟨h1, h2⟩ := ih _ (fun n => decide (n = v.name) || here n) hc'
    simp only [specDeclVars, List.flatMap_cons, List.flatMap_append, List.map_append, evKey]
    refine ⟨?_, h2⟩
    rw [h1, specUses_key g lang env hc none]
    rw [redef_key]; rfl

def KeyStmtsOK (g : Globals) (ss : List Stmt) : Prop :=
  ∀ (lang : Option Lang) (env : Env) (here : Name → Bool), EnvClean env →
    (specStmts g lang env here ss).flatMap evKey = (stmtsIds ss).map some

def KeyStmtOK (g : Globals) (s : Stmt) : Prop :=
  ∀ (lang : Option Lang) (env : Env) (here : Name → Bool), EnvClean env →
    (specStmt g lang env here s).2.flatMap evKey = (stmtIds s).map some ∧
      EnvClean (specStmt g lang env here s).1.1

theorem specBlock_key (g : Globals) (b : List Stmt) (h : KeyStmtsOK g b) (lang : Option Lang) (env : Env)
    (hc : EnvClean env) : (specBlock g lang env b).flatMap evKey = (blockIds b).map some := by
  unfold specBlock blockIds
  simp only [List.flatMap_append, List.map_append]
  rw [declEvents_key, h lang _ _ (envClean_withItems env hc _)]

theorem constInits_key (g : Globals) (env : Env) (hc : EnvClean env) (vars : List DeclVar) :
    (vars.flatMap fun v => walkExprs g none (specUse g none env) none v.init).flatMap evKey =
      (vars.flatMap fun v => useIds v.init).map some := by
  induction vars with
  | nil => rfl
  | cons v vs ih =>
    simp only [List.flatMap_cons, List.flatMap_append, List.map_append]
    rw [ih, specUses_key g none env hc none]

theorem spec_key (g : Globals) : (∀ (s : Stmt), KeyStmtOK g s) ∧ (∀ (ss : List Stmt), KeyStmtsOK g ss) := by
  refine Stmt.induct ?_ ?_ ?_ ?_ ?_ ?_ ?_ ?_ ?_
  · intro us lang env here hc
    exact ⟨specUses_key g lang env hc none us, hc⟩
  · intro vars lang env here hc
    exact specDeclVars_key g lang vars env here hc
  · intro b ih lang env here hc
    exact ⟨specBlock_key g b ih lang env hc, hc⟩
  · intro id name qual params body ih lang env here hc
    obtain ⟨h1, h2⟩ := specParams_key params (env.hide .function) (fun _ => false) (envClean_hide env hc _)
    rw [specStmt_func, stmtIds, List.flatMap_append, List.map_append, h1, specBlock_key g body ih _ _ h2]
    exact ⟨rfl, hc⟩
  · intro vars lang env here hc
    exact ⟨constInits_key g _ (envClean_hide env hc _) vars, hc⟩
  · intro b ih lang env here hc
    exact ⟨specBlock_key g b ih _ env hc, hc⟩
  · intro id name qual params lang env here hc
    simp only [specStmt, stmtIds]
    refine ⟨?_, hc⟩
    induction params with
    | nil => rfl
    | cons p ps ih => simp only [List.map_cons, List.flatMap_cons, evKey, List.singleton_append, ih]
  · intro lang env here _
    rfl
  · intro s ss ihs ihss lang env here hc
    obtain ⟨h1, h2⟩ := ihs lang env here hc
    have h3 := ihss lang _ (specStmt g lang env here s).1.2 h2
    simp only [specStmts, stmtsIds, List.flatMap_append, List.map_append]
    rw [h1, h3]

theorem specStmt_key (g : Globals) (s : Stmt) : KeyStmtOK g s := (spec_key g).1 s
theorem specStmts_key (g : Globals) (ss : List Stmt) : KeyStmtsOK g ss := (spec_key g).2 ss

theorem envClean_specStmt (g : Globals) (s : Stmt) (lang : Option Lang) (env : Env) (here : Name → Bool)
    (hc : EnvClean env) : EnvClean (specStmt g lang env here s).1.1 := (specStmt_key g s lang env here hc).2

def Event.writes : Event → Option Def
  | .selfRes id => some (.decl id)
  | .res _ d => some d
  | _ => none

theorem evKey_cases (e : Event) :
    (evKey e = [] ∧ ∀ t es, applyEvents t (e :: es) = applyEvents t es) ∨ evKey e = [none] ∨
      ∃ id, evKey e = [some id] := by
  cases e with
  | redef id noun => exact Or.inl ⟨rfl, fun _ _ => rfl⟩
  | panic s => exact Or.inr (Or.inl rfl)
  | selfRes id | res id d | err id c | skipped id => exact Or.inr (Or.inr ⟨id, rfl⟩)

def writeTo (t : Table) (id : Nat) : Option Def → Table
  | some d => (id, d) :: t
  | none => t

theorem lookup_writeTo_ne {j id : Nat} (h : j ≠ id) (t : Table) (w : Option Def) :
    (writeTo t id w).lookup j = t.lookup j := by
  cases w with
  | none => rfl
  | some d => simp only [writeTo, List.lookup, beq_false_of_ne h]

theorem lookup_writeTo_self {id : Nat} {t : Table} (h : t.lookup id = none) (w : Option Def) :
    (writeTo t id w).lookup id = w := by
  cases w with
  | none => exact h
  | some d => simp only [writeTo, List.lookup, beq_self_eq_true]

theorem applyEvents_primary {e : Event} {id : Nat} (he : evKey e = [some id]) (es : List Event) {t : Table}
    (hf : t.lookup id = none) : applyEvents t (e :: es) = applyEvents (writeTo t id e.writes) es := by
  cases e with
  | redef _ _ | panic _ => cases he
  | selfRes i | res i d => cases he; simp only [applyEvents, record, hf, Event.writes, writeTo]
  | err i c | skipped i => rfl

theorem applyEvents_fresh : ∀ (evs : List Event) (ids : List Nat) (t : Table),
    evs.flatMap evKey = ids.map some → ids.Nodup → (∀ i ∈ ids, t.lookup i = none) →
    ∃ t', applyEvents t evs = .ok t' ∧ (∀ i, i ∉ ids → t'.lookup i = t.lookup i) ∧
      ∀ e ∈ evs, ∀ id, evKey e = [some id] → t'.lookup id = e.writes := by
  intro evs
  induction evs with
  | nil => intro ids t _ _ _; exact ⟨t, rfl, fun _ _ => rfl, fun _ h => nomatch h⟩
  | cons e es ih =>
    intro ids t hk hn ht
    rw [List.flatMap_cons] at hk
    rcases evKey_cases e with ⟨h0, hstep⟩ | hp | ⟨id, hid⟩
    · rw [h0, List.nil_append] at hk
      obtain ⟨t', h1, h2, h3⟩ := ih ids t hk hn ht
      refine ⟨t', by rw [hstep]; exact h1, h2, fun e' he' id' hk' => ?_⟩
      rcases List.mem_cons.1 he' with rfl | he'
      · rw [h0] at hk'; cases hk'
      · exact h3 e' he' id' hk'
    · rw [hp] at hk
      cases ids <;> cases hk
    · rw [hid] at hk
      cases ids with
      | nil => cases hk
      | cons i is =>
        obtain ⟨hi, hk2⟩ := List.cons.inj hk
        cases hi
        obtain ⟨hnot, hn⟩ := List.nodup_cons.1 hn
        have hf := ht id List.mem_cons_self
        have hne : ∀ j ∈ is, j ≠ id := fun j hj e => hnot (e ▸ hj)
        obtain ⟨t', h1, h2, h3⟩ := ih is (writeTo t id e.writes) hk2 hn (fun j hj => by
          rw [lookup_writeTo_ne (hne j hj)]; exact ht j (List.mem_cons_of_mem _ hj))
        refine ⟨t', by rw [applyEvents_primary hid es hf]; exact h1, fun j hj => ?_, fun e' he' id' hk' => ?_⟩
        · rw [h2 j (fun h => hj (List.mem_cons_of_mem _ h)),
            lookup_writeTo_ne (fun e => hj (by rw [e]; exact List.mem_cons_self))]
        · rcases List.mem_cons.1 he' with rfl | he'
          · rw [hid] at hk'; cases hk'; rw [h2 id hnot, lookup_writeTo_self hf]
          · exact h3 e' he' id' hk'

end TruthModel.Scope
