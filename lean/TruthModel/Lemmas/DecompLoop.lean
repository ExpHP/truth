/-
C07: `decompile_loop`, for both halves (`Props/C07` and `DecompLoopSem` argue over the same scan).  The pass is one forward scan; it is followed along the scan (`loopScan_prefix_ind`), one
step at a time (`loopStep_ok`).  On a flat block the scan keeps `LInv` (`idx[m]` is where `out[m]` came from), under which a
step has one shape (`loopStep_shape`): `l: body; goto l` becomes `l: loop { body }`.
-/
import TruthModel.Lemmas.Decomp
namespace TruthModel.Decomp
open List

theorem jmpInfo_consumable {ss : Block} {rc : Nat → Nat} {s : Stmt} {j : JmpInfo} (h : jmpInfo ss rc s = some j)
    (ht : j.time = none) : Consumable s := by
  rcases jmpInfo_some h with ⟨d, hs, _⟩ | ⟨c, d, hs, _⟩
  · left; exact ⟨d, by rw [hs, ht]⟩
  · right; exact ⟨c, d, by rw [hs, ht]⟩

theorem Consumable.not_label {dl l} (h : Consumable (.atom dl (.label l))) : False := by
  rcases h with ⟨d, h⟩ | ⟨c, d, h⟩ <;> cases h

theorem shouldLoop_spec {ints idx : List Nat} {src : Nat} {j : JmpInfo} {pos : Nat}
    (h : shouldLoop ints idx src j = some pos) :
    j.time = none ∧ idx[pos]? = some j.dest ∧ ints.any (fun k => j.dest ≤ k && k < src) = false := by
  unfold shouldLoop at h
  obtain ⟨ht, h⟩ := Option.ite_none_left_eq_some.mp h
  obtain ⟨-, h⟩ := Option.ite_none_left_eq_some.mp h
  split at h
  · cases h
  · rename_i pos' hfind
    obtain ⟨hany, h⟩ := Option.ite_none_left_eq_some.mp h
    cases h
    refine ⟨Option.not_isSome_iff_eq_none.mp ht, ?_, Bool.eq_false_iff.mpr hany⟩
    rw [List.findIdx?_eq_some_iff_getElem] at hfind
    obtain ⟨hlt, hp, _⟩ := hfind
    have : idx[pos] = j.dest := beq_iff_eq.mp hp
    rw [← this]; exact List.getElem?_eq_getElem hlt

theorem makeLoop_refs {ss : Block} {rc : Nat → Nat} {s : Stmt} {j : JmpInfo} (h : jmpInfo ss rc s = some j) (i : Nat) :
    (makeLoop i j.kind).refs <+ s.refs := by
  rcases jmpInfo_some h with ⟨d, hs, hk, _⟩ | ⟨c, d, hs, hk, _⟩
  · rw [hk]; exact List.nil_sublist _
  · rw [hk, hs]; exact List.sublist_append_left _ _

theorem loopStep_ok {ss : Block} {ints : List Nat} {st st' : ScanState} {i : Nat} {s : Stmt}
    (h : loopStep ss ints st i s = .ok st') :
    st' = ⟨st.out ++ [s], st.idx ++ [i]⟩ ∨
    ∃ j pos, jmpInfo ss (fun _ => 0) s = some j ∧ shouldLoop ints (st.idx ++ [i]) i j = some pos ∧ pos < st.out.length ∧
      st' = ⟨st.out.take (pos + 1) ++ [.node (makeLoop i j.kind) (st.out.drop (pos + 1))],
             (st.idx ++ [i]).take (pos + 1) ++ [i]⟩ := by
  unfold loopStep at h
  dsimp only at h
  split at h
  · cases h; left; rfl
  · rename_i j hj
    split at h
    · cases h; left; rfl
    · rename_i pos hpos
      split at h
      · cases h
      · rename_i r revBody hrev
        cases h
        right
        -- the popped statement is the scanned one, the rest of the drained part is the body
        have hdrop : (st.out ++ [s]).drop (pos + 1) = revBody.reverse ++ [r] := by
          have := congrArg List.reverse hrev
          simpa using this
        have hlt : pos < st.out.length := by
          have := congrArg List.length hdrop
          simp only [List.length_drop, List.length_append, List.length_cons, List.length_nil, List.length_reverse] at this
          exact Nat.lt_of_add_lt_add_right (Nat.lt_of_sub_pos (Nat.lt_of_lt_of_eq (Nat.succ_pos _) this.symm))
        rw [List.drop_append_of_le_length hlt] at hdrop
        refine ⟨j, pos, hj, hpos, hlt, ?_⟩
        rw [List.take_append_of_le_length hlt, (List.append_inj' hdrop rfl).1]

theorem loopScan_append {ss : Block} {ints : List Nat} (xs ys : List Stmt) (i : Nat) (st : ScanState) :
    loopScan ss ints (xs ++ ys) i st =
      match loopScan ss ints xs i st with
      | .ok st1 => loopScan ss ints ys (i + xs.length) st1
      | .err e => .err e
      | .panic p => .panic p := by
  fun_induction loopScan ss ints xs i st with
  | case1 i st => rfl
  | case2 s rest i st st' hs ih =>
    simp only [List.cons_append, loopScan, hs, ih, List.length_cons, Nat.add_assoc, Nat.add_comm 1]
  | case3 s rest i st e hs => simp only [List.cons_append, loopScan, hs]
  | case4 s rest i st p hs => simp only [List.cons_append, loopScan, hs]

theorem loopScan_prefix_ind {ss : Block} {ints : List Nat} {P : Nat → ScanState → Prop} (h0 : P 0 ⟨[], []⟩)
    (hstep : ∀ n st st' (hn : n < ss.length), P n st → loopStep ss ints st n ss[n] = .ok st' → P (n + 1) st')
    (n : Nat) (st : ScanState) (hn : n ≤ ss.length) (h : loopScan ss ints (ss.take n) 0 ⟨[], []⟩ = .ok st) : P n st := by
  induction n generalizing st with
  | zero =>
    simp only [List.take_zero, loopScan] at h; cases h
    exact h0
  | succ n ih =>
    have hlt : n < ss.length := hn
    rw [List.take_succ_eq_append_getElem hlt, loopScan_append] at h
    obtain ⟨st1, h1, h⟩ := bindScan.inv h
    rw [List.length_take_of_le (Nat.le_of_lt hlt), Nat.zero_add] at h
    obtain ⟨st2, h2, h⟩ := bindScan.inv h
    cases h
    exact hstep n st1 st hlt (ih st1 (Nat.le_of_lt hlt) h1) h2

theorem decompileLoop_ok {ss a : Block} (h : decompileLoop ss = .ok a) :
    ∃ st, loopScan ss (interruptIndices ss) (ss.take ss.length) 0 ⟨[], []⟩ = .ok st ∧ a = st.out := by
  obtain ⟨st, hst, h⟩ := bindScan.inv h
  cases h
  exact ⟨st, by rw [List.take_length]; exact hst, rfl⟩

theorem decompileLoop_step {β} {f : Option String × Atom → Option β} (hf : Good0 f) (rc : Nat → Nat) {ss a : Block}
    (h : decompileLoop ss = .ok a) : Step f rc ss a ∧ labelsL a = labelsL ss := by
  obtain ⟨st, hst, rfl⟩ := decompileLoop_ok h
  have := loopScan_prefix_ind (P := fun n st => Step f rc (ss.take n) st.out ∧ labelsL st.out = labelsL (ss.take n))
    ⟨Step.rfl, rfl⟩ ?_ ss.length st (Nat.le_refl _) hst
  · rwa [List.take_length] at this
  · intro n st st' hn ⟨ih, ihl⟩ hs
    show Step f rc (ss.take (n + 1)) st'.out ∧ labelsL st'.out = labelsL (ss.take (n + 1))
    rw [List.take_succ_eq_append_getElem hn]
    have hpush : Step f rc (ss.take n ++ [ss[n]]) (st.out ++ [ss[n]]) := Step.append ih Step.rfl
    rcases loopStep_ok hs with rfl | ⟨j, pos, hj, hpos, -, rfl⟩
    · exact ⟨hpush, by rw [labelsL_append, labelsL_append, ihl]⟩
    · -- what stands behind `pos` and the jump are folded into the node that stands for the jump
      obtain ⟨hf1, hf2⟩ := Step.fold (rc := rc) hf (makeLoop_refs hj n) (jmpInfo_consumable hj (shouldLoop_spec hpos).1)
        (List.append_nil (st.out.drop (pos + 1))).symm
      have h1 := (List.take_append_drop (pos + 1) st.out).symm
      rw [h1, List.append_assoc] at hpush
      refine ⟨hpush.trans (Step.append Step.rfl hf1), ?_⟩
      rw [labelsL_append, hf2, ← labelsL_append, ← List.append_assoc, ← h1, labelsL_append, labelsL_append, ihl]

/-- invariant of the loop scan: `idx[m]` is the original position of `out[m]`, for a loop node that of the jump it was made of.  `sorted` is also why the model may look the
label up with `findIdx?` where `should_decompile_loop` uses `binary_search`: on a sorted list without repetitions they find the
same entry -/
structure LInv (ss : Block) (i : Nat) (st : ScanState) : Prop where
  len : st.idx.length = st.out.length
  sorted : st.idx.Pairwise (· < ·)
  bound : ∀ k ∈ st.idx, k < i
  orig : ∀ (m : Nat) (d : Option String) (a : Atom) (k : Nat), st.out[m]? = some (.atom d a) → st.idx[m]? = some k →
    ss[k]? = some (.atom d a)
  jumps : ∀ (m : Nat) (kd : Kind) (b : List Stmt) (k : Nat), st.out[m]? = some (.node kd b) → st.idx[m]? = some k →
    ∃ s, ss[k]? = some s ∧ Consumable s
  nodes : TopOnly st.out

theorem LInv.nil (ss : Block) : LInv ss 0 ⟨[], []⟩ :=
  ⟨rfl, by simp, by simp, by simp, by simp, by intro k b h; simp at h⟩

theorem getElem?_take_snoc_pair {α β} {xs : List α} {ys : List β} (hlen : ys.length = xs.length) (n : Nat) {x : α} {y : β}
    {m : Nat} {a : α} {b : β} (ha : (xs.take n ++ [x])[m]? = some a) (hb : (ys.take n ++ [y])[m]? = some b) :
    (xs[m]? = some a ∧ ys[m]? = some b) ∨ (a = x ∧ b = y) := by
  have hlen' : (ys.take n).length = (xs.take n).length := by rw [List.length_take, List.length_take, hlen]
  by_cases hlt : m < (xs.take n).length
  · have hn : m < n := Nat.lt_of_lt_of_le hlt (List.length_take_le n xs)
    rw [List.getElem?_append_left hlt, List.getElem?_take_of_lt hn] at ha
    rw [List.getElem?_append_left (hlen' ▸ hlt), List.getElem?_take_of_lt hn] at hb
    exact .inl ⟨ha, hb⟩
  · have hm : m = (xs.take n).length := by
      have h := (List.getElem?_eq_some_iff.mp ha).1
      rw [List.length_append, List.length_singleton] at h
      exact Nat.le_antisymm (Nat.le_of_lt_succ h) (Nat.le_of_not_lt hlt)
    subst hm
    rw [List.getElem?_concat_length] at ha
    rw [← hlen', List.getElem?_concat_length] at hb
    exact .inr ⟨(Option.some.inj ha).symm, (Option.some.inj hb).symm⟩

theorem LInv.snoc {ss : Block} {i : Nat} {st : ScanState} (h : LInv ss i st) (n : Nat) (x : Stmt)
    (hatom : ∀ d a, x = .atom d a → ss[i]? = some (.atom d a))
    (hnode : ∀ kd b, x = .node kd b → (∃ s, ss[i]? = some s ∧ Consumable s) ∧ IntFree b) :
    LInv ss (i + 1) ⟨st.out.take n ++ [x], st.idx.take n ++ [i]⟩ := by
  have hlen : (st.idx.take n).length = (st.out.take n).length := by rw [List.length_take, List.length_take, h.len]
  have hb : ∀ k ∈ st.idx.take n, k < i := fun k hk => h.bound k (List.mem_of_mem_take hk)
  refine ⟨by simp [hlen], ?_, ?_, ?_, ?_, ?_⟩
  · rw [List.pairwise_append]
    exact ⟨h.sorted.sublist (List.take_sublist _ _), by simp, fun a ha b hb' => by
      cases List.mem_singleton.mp hb'; exact hb a ha⟩
  · intro k hk
    rcases List.mem_append.mp hk with hk | hk
    · exact Nat.lt_succ_of_lt (hb k hk)
    · cases List.mem_singleton.mp hk; exact Nat.lt_succ_self _
  · intro m d a k hm hk
    rcases getElem?_take_snoc_pair h.len n hm hk with ⟨hm, hk⟩ | ⟨hx, rfl⟩
    · exact h.orig m d a k hm hk
    · exact hatom d a hx.symm
  · intro m kd b k hm hk
    rcases getElem?_take_snoc_pair h.len n hm hk with ⟨hm, hk⟩ | ⟨hx, rfl⟩
    · exact h.jumps m kd b k hm hk
    · exact (hnode kd b hx.symm).1
  · intro kd b hkb
    rcases List.mem_append.mp hkb with hkb | hkb
    · exact h.nodes kd b (List.mem_of_mem_take hkb)
    · exact (hnode kd b (List.mem_singleton.mp hkb).symm).2

theorem loopStep_inv {ss : Block} {st st' : ScanState} {i : Nat} {d a}
    (hinv : LInv ss i st) (hs : ss[i]? = some (.atom d a))
    (h : loopStep ss (interruptIndices ss) st i (.atom d a) = .ok st') : LInv ss (i + 1) st' := by
  have hlen := hinv.len
  rcases loopStep_ok h with rfl | ⟨j, pos, hjmp, hsl, hpos, rfl⟩
  · have := hinv.snoc st.out.length (.atom d a) (fun _ _ hx => by cases hx; exact hs) (fun _ _ hx => by cases hx)
    rwa [List.take_length, ← hlen, List.take_length] at this
  · obtain ⟨htime, hidx, hany⟩ := shouldLoop_spec hsl
    have hpos' : pos < st.idx.length := hlen ▸ hpos
    rw [List.take_append_of_le_length hpos']
    rw [List.getElem?_append_left hpos'] at hidx
    refine hinv.snoc (pos + 1) _ (fun _ _ hx => by cases hx) (fun kd b hx => ?_)
    cases hx
    refine ⟨⟨_, hs, jmpInfo_consumable hjmp htime⟩, ?_⟩
    -- the new body: the statements strictly between the label and the jump
    intro p hp
    obtain ⟨x, hx, hpx⟩ := mem_atomsL.mp hp
    obtain ⟨t, ht, hxt⟩ := List.getElem_of_mem hx
    rw [List.length_drop] at ht
    have hxo : st.out[pos + 1 + t]? = some x := by
      rw [← List.getElem?_drop, List.getElem?_eq_getElem (by rw [List.length_drop]; exact ht), hxt]
    cases x with
    | node k' b' => exact hinv.nodes k' b' (List.mem_of_getElem? hxo) p hpx
    | atom d' a' =>
      simp only [atoms_atom, List.mem_singleton] at hpx
      subst hpx
      have hm : pos + 1 + t < st.idx.length := by rw [hlen, Nat.add_comm]; exact Nat.add_lt_of_lt_sub ht
      have hgt : j.dest < st.idx[pos + 1 + t] := by
        have := List.pairwise_iff_getElem.mp hinv.sorted pos (pos + 1 + t) hpos' hm
          (Nat.lt_of_lt_of_le (Nat.lt_succ_self pos) (Nat.le_add_right _ t))
        rw [List.getElem?_eq_getElem hpos'] at hidx
        rwa [Option.some.inj hidx] at this
      exact not_int_of_any_false hany (hinv.orig _ d' a' _ hxo (List.getElem?_eq_getElem hm)) (Nat.le_of_lt hgt)
        (hinv.bound _ (List.getElem_mem hm))

def Flat (ss : Block) : Prop := ∀ s ∈ ss, ∃ d a, s = Stmt.atom d a

theorem loopScan_flat_ind {ss : Block} (hflat : Flat ss) {P : Nat → ScanState → Prop} (h0 : P 0 ⟨[], []⟩)
    (hstep : ∀ n st st' d a, ss[n]? = some (.atom d a) → LInv ss n st → P n st →
      loopStep ss (interruptIndices ss) st n (.atom d a) = .ok st' → P (n + 1) st')
    (n : Nat) (st : ScanState) (hn : n ≤ ss.length)
    (h : loopScan ss (interruptIndices ss) (ss.take n) 0 ⟨[], []⟩ = .ok st) : LInv ss n st ∧ P n st := by
  refine loopScan_prefix_ind (P := fun n st => LInv ss n st ∧ P n st) ⟨LInv.nil ss, h0⟩ ?_ n st hn h
  intro n st st' hn ⟨hl, hp⟩ hs
  obtain ⟨d, a, hda⟩ := hflat ss[n] (List.getElem_mem hn)
  have hsn : ss[n]? = some (.atom d a) := by rw [List.getElem?_eq_getElem hn, hda]
  rw [hda] at hs
  exact ⟨loopStep_inv hl hsn hs, hstep n st st' d a hsn hl hp hs⟩

theorem loopScan_prefix_inv {ss : Block} (hflat : Flat ss) (n : Nat) (st : ScanState) (hn : n ≤ ss.length)
    (h : loopScan ss (interruptIndices ss) (ss.take n) 0 ⟨[], []⟩ = .ok st) : LInv ss n st :=
  (loopScan_flat_ind hflat (P := fun _ _ => True) trivial (fun _ _ _ _ _ _ _ _ _ => trivial) n st hn h).1

theorem decompileLoop_topOnly {ss a : Block} (hflat : Flat ss) (h : decompileLoop ss = .ok a) : TopOnly a := by
  obtain ⟨st, hst, rfl⟩ := decompileLoop_ok h
  exact (loopScan_prefix_inv hflat ss.length st (Nat.le_refl _) hst).nodes

/-- the loop node `k` that the scan makes, at position `i`, of the backward jump `a` to label `l` -/
inductive BackJump (l i : Nat) : Atom → Kind → Prop
  | loop : BackJump l i (.jump (.goto l none)) (.loop i)
  | doWhile (c : Expr) : BackJump l i (.condJump .if_ c (.goto l none)) (.doWhile i c)

/-- `pre ++ [l:] ++ body`, then `goto l` / `if (c) goto l`, becomes `pre ++ [l:, loop { body }]` / `do { body } while (c)` -/
theorem loopStep_shape {ss : Block} {st st' : ScanState} {i : Nat} {d a}
    (hinv : LInv ss i st) (h : loopStep ss (interruptIndices ss) st i (.atom d a) = .ok st') :
    st'.out = st.out ++ [.atom d a] ∨
    ∃ pre dl l body k, st.out = pre ++ .atom dl (.label l) :: body ∧ d = none ∧ BackJump l i a k ∧
      st'.out = pre ++ [.atom dl (.label l), .node k body] := by
  rcases loopStep_ok h with rfl | ⟨j, pos, hjmp, hsl, hpos, rfl⟩
  · left; rfl
  · right
    obtain ⟨htime, hidx, -⟩ := shouldLoop_spec hsl
    rw [List.getElem?_append_left (hinv.len ▸ hpos)] at hidx
    have hx : st.out[pos]? = some st.out[pos] := List.getElem?_eq_getElem hpos
    obtain ⟨l, hl, hd, hbj⟩ : ∃ l, labelIndex ss l = some j.dest ∧ d = none ∧ BackJump l i a (makeLoop i j.kind) := by
      rcases jmpInfo_some hjmp with ⟨l, hs', hk, hl, _⟩ | ⟨c, l, hs', hk, hl, _⟩
      · rw [htime] at hs'; cases hs'; rw [hk]; exact ⟨l, hl, rfl, .loop⟩
      · rw [htime] at hs'; cases hs'; rw [hk]; exact ⟨l, hl, rfl, .doWhile c⟩
    obtain ⟨dl, hdl⟩ := labelIndex_spec hl
    have hxl : st.out[pos] = .atom dl (.label l) := by
      cases hxe : st.out[pos] with
      | atom dx ax =>
        rw [hxe] at hx
        have := hinv.orig pos dx ax j.dest hx hidx
        rw [hdl] at this; exact (Option.some.inj this).symm
      | node kd b =>
        rw [hxe] at hx
        obtain ⟨s, hs1, hs2⟩ := hinv.jumps pos kd b j.dest hx hidx
        rw [hdl] at hs1; cases hs1
        exact absurd hs2 Consumable.not_label
    have htake : st.out.take (pos + 1) = st.out.take pos ++ [.atom dl (.label l)] := by
      rw [List.take_add_one, hx, hxl]; rfl
    refine ⟨st.out.take pos, dl, l, st.out.drop (pos + 1), _, ?_, hd, hbj, ?_⟩
    · conv => lhs; rw [← List.take_append_drop (pos + 1) st.out, htake]
      simp
    · show _ ++ _ = _; rw [htake]; simp

end TruthModel.Decomp
