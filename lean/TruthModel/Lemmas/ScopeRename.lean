import TruthModel.Lemmas.ScopeIds
/-
C10: the scoping specification is invariant under consistent renaming.  The environments of the program and of the
renamed program stay related along `ρ` (`EnvRel`) through every declaration, so every use is looked up to the same
result (`specUse_ren`), every callee has the same signature and the same events come out (`ren_ok`).
-/
namespace TruthModel.Scope

/-- `ρ` is injective on the names satisfying `P` (the declared names) and maps them outside `N`
(the names occurring in the program).  `P` is both "is declared" and "is renamed": with `P ⊆ N`, as in
`rename_invariant`, `fresh` forces `ρ x ≠ x` for every declared `x`. -/
structure RenOK (ρ : Name → Name) (P N : Name → Prop) : Prop where
  inj : ∀ x y, P x → P y → ρ x = ρ y → x = y
  fresh : ∀ x, P x → ¬ N (ρ x)

structure MapRel {α} (ρ : Name → Name) (P : Name → Prop) (e e' : Name → Option α) : Prop where
  fwd : ∀ x, P x → e' (ρ x) = e x
  out : ∀ y, (∀ x, P x → y ≠ ρ x) → e' y = none
  dom : ∀ x, e x ≠ none → P x

def EnvRel (ρ : Name → Name) (P : Name → Prop) (env env' : Env) : Prop :=
  MapRel ρ P env.vars env'.vars ∧ MapRel ρ P env.funcs env'.funcs

def HereRel (ρ : Name → Name) (P : Name → Prop) (here here' : Name → Bool) : Prop :=
  ∀ x, P x → here' (ρ x) = here x

def SeenRel (ρ : Name → Name) (P : Name → Prop) (seen seen' : Ns → Name → Bool) : Prop :=
  ∀ ns, HereRel ρ P (seen ns) (seen' ns)

variable {ρ : Name → Name} {P N : Name → Prop}

theorem RenOK.eq_iff (hr : RenOK ρ P N) {x y : Name} (hx : P x) (hy : P y) : ρ y = ρ x ↔ y = x :=
  ⟨hr.inj y x hy hx, congrArg ρ⟩

theorem mapRel_update {α} (hr : RenOK ρ P N) {e e' : Name → Option α} (h : MapRel ρ P e e') (x : Name) (hx : P x) (v : α) :
    MapRel ρ P (update e x v) (update e' (ρ x) v) := by
  constructor
  · intro y hy
    simp only [update, hr.eq_iff hx hy, h.fwd y hy]
  · intro y hy
    simp only [update, if_neg (hy x hx), h.out y hy]
  · intro y hy
    simp only [update] at hy
    by_cases hyx : y = x
    · subst hyx; exact hx
    · simp only [hyx, if_false] at hy; exact h.dom y hy

theorem mapRel_map {α β} {e e' : Name → Option α} (h : MapRel ρ P e e') (f : α → β) :
    MapRel ρ P (fun n => (e n).map f) (fun n => (e' n).map f) := by
  constructor
  · intro x hx; simp only [h.fwd x hx]
  · intro y hy; simp only [h.out y hy, Option.map_none]
  · intro x hx
    apply h.dom x
    intro hn
    simp [hn] at hx

/-- the one place where `RenOK.fresh` is used: a use that nothing binds must not be captured by a renamed declaration -/
theorem mapRel_use {α} (hr : RenOK ρ P N) {e e' : Name → Option α} (h : MapRel ρ P e e') (x : Name) (hx : N x) :
    e' (if (e x).isSome then ρ x else x) = e x := by
  cases hex : e x with
  | some v =>
    have hp : P x := h.dom x (by simp [hex])
    simp only [Option.isSome_some, if_true]
    rw [h.fwd x hp, hex]
  | none =>
    simp only [Option.isSome_none, Bool.false_eq_true, if_false]
    apply h.out
    intro y hy hxy
    exact hr.fresh y hy (hxy ▸ hx)

theorem envRel_hide {env env' : Env} (h : EnvRel ρ P env env') (ik : ItemKind) :
    EnvRel ρ P (env.hide ik) (env'.hide ik) :=
  ⟨mapRel_map h.1 (hideEntry ik), h.2⟩

theorem envRel_empty (ρ : Name → Name) (P : Name → Prop) : EnvRel ρ P Env.empty Env.empty :=
  ⟨⟨fun _ _ => rfl, fun _ _ => rfl, fun _ h => absurd rfl h⟩, ⟨fun _ _ => rfl, fun _ _ => rfl, fun _ h => absurd rfl h⟩⟩

theorem envRel_update (hr : RenOK ρ P N) {env env' : Env} (h : EnvRel ρ P env env') (x : Name) (hx : P x) (v : VEntry) :
    EnvRel ρ P { env with vars := update env.vars x v } { env' with vars := update env'.vars (ρ x) v } :=
  ⟨mapRel_update hr h.1 x hx v, h.2⟩

theorem hereRel_update (hr : RenOK ρ P N) {here here' : Name → Bool} (h : HereRel ρ P here here') (x : Name) (hx : P x) :
    HereRel ρ P (fun n => decide (n = x) || here n) (fun n => decide (n = ρ x) || here' n) := by
  intro y hy
  show (decide (ρ y = ρ x) || here' (ρ y)) = (decide (y = x) || here y)
  rw [h y hy, decide_eq_decide.2 (hr.eq_iff hx hy)]

theorem hereRel_false : HereRel ρ P (fun _ => false) (fun _ => false) := fun _ _ => rfl

theorem seenRel_update (hr : RenOK ρ P N) {seen seen' : Ns → Name → Bool} (h : SeenRel ρ P seen seen') (ns : Ns)
    (x : Name) (hx : P x) :
    SeenRel ρ P (fun ns' n => decide (ns' = ns ∧ n = x) || seen ns' n)
      (fun ns' n => decide (ns' = ns ∧ n = ρ x) || seen' ns' n) := by
  intro ns' y hy
  show (decide (ns' = ns ∧ ρ y = ρ x) || seen' ns' (ρ y)) = (decide (ns' = ns ∧ y = x) || seen ns' y)
  rw [h ns' y hy, decide_eq_decide.2 (and_congr_right fun _ => hr.eq_iff hx hy)]

theorem seenRel_false : SeenRel ρ P (fun _ _ => false) (fun _ _ => false) := fun _ _ _ => rfl

/-- only an enum const is looked up again by its name -/
theorem finishVar_name (g : Globals) (u : Use) (x : Name) (r : Except ErrClass Def)
    (h : r = .ok .enumDummy → x = u.name) : finishVar g { u with name := x } r = finishVar g u r := by
  cases r with
  | error e => rfl
  | ok d =>
    cases d with
    | enumDummy => rw [h rfl]
    | decl id | regAlias l r | insAlias l r | enumConst e n | builtin n => rfl

theorem renUseScoped_eq (env : Env) (u : Use) :
    renUseScoped ρ env u = { u with name :=
      if (match u.ns with
          | .vars => (env.vars u.name).isSome
          | .funcs => (env.funcs u.name).isSome) then ρ u.name else u.name } := by
  obtain ⟨id, ns, name, color, q⟩ := u
  cases ns <;> simp only [renUseScoped] <;> split <;> rfl

theorem specUseScoped_ren (hr : RenOK ρ P N) (g : Globals) (lang : Option Lang) {env env' : Env}
    (h : EnvRel ρ P env env') (hc : EnvClean env) (u : Use) (hn : N u.name) :
    specUseScoped g lang env' (renUseScoped ρ env u) = specUseScoped g lang env u := by
  rw [renUseScoped_eq]
  unfold specUseScoped
  dsimp only
  cases u.ns with
  | vars =>
    dsimp only
    have hl : lookupVar g lang env' (if (env.vars u.name).isSome then ρ u.name else u.name) =
        lookupVar g lang env u.name := by
      unfold lookupVar; rw [mapRel_use hr h.1 u.name hn]
      cases hex : env.vars u.name with
      | none => rfl
      | some e => cases e <;> rfl
    rw [hl]
    apply finishVar_name
    intro hd
    rw [(lookupVar_dummy g lang env hc u.name hd).1]
    rfl
  | funcs =>
    dsimp only
    have hl : lookupFunc g lang env' (if (env.funcs u.name).isSome then ρ u.name else u.name) =
        lookupFunc g lang env u.name := by
      unfold lookupFunc; rw [mapRel_use hr h.2 u.name hn]
      cases hex : env.funcs u.name <;> rfl
    rw [hl]
    cases lookupFunc g lang env u.name <;> rfl

theorem specUse_ren (hr : RenOK ρ P N) (g : Globals) (lang : Option Lang) {env env' : Env}
    (h : EnvRel ρ P env env') (hc : EnvClean env) (u : Use) (hn : N u.name) :
    specUse g lang env' (renUse ρ env u) = specUse g lang env u := by
  unfold renUse
  cases hq : u.enumQual with
  | some e => simp only [specUse, hq]
  | none =>
    simp only []
    unfold specUse
    rw [show (renUseScoped ρ env u).enumQual = u.enumQual by rw [renUseScoped_eq], hq]
    exact specUseScoped_ren hr g lang h hc u hn

theorem renUse_withColor (env : Env) (u : Use) (c : Option Name) :
    { renUse ρ env u with color := c } = renUse ρ env { u with color := c } := by
  obtain ⟨id, ns, name, color, q⟩ := u
  cases q with
  | some e => rfl
  | none => cases ns <;> simp only [renUse, renUseScoped] <;> split <;> rfl

theorem renUse_id (env : Env) (u : Use) : (renUse ρ env u).id = u.id := by
  unfold renUse
  cases u.enumQual with
  | some e => rfl
  | none => rw [renUseScoped_eq]

theorem skip_ren (env : Env) :
    (∀ (e : Expr), skipExpr (renExpr ρ env e) = skipExpr e) ∧
    (∀ (es : List Expr), skipExprs (renExprs ρ env es) = skipExprs es) := by
  refine Expr.induct ?_ ?_ ?_ ?_ ?_ ?_
  · intro u; simp only [renExpr, skipExpr, renUse_id]
  · intro es ih; exact ih
  · intro u args ih; simp only [renExpr, skipExpr, renUse_id, ih]
  · intro op args ih; exact ih
  · rfl
  · intro e es ihe ihes; simp only [renExprs, skipExprs, ihe, ihes]

theorem skipExprs_ren (env : Env) : ∀ (es : List Expr), skipExprs (renExprs ρ env es) = skipExprs es :=
  (skip_ren env).2

theorem walk_ren (g : Globals) (lang : Option Lang) {env env' : Env}
    (look : ∀ (u : Use) (c : Option Name), N u.name →
      specUse g lang env' { renUse ρ env u with color := c } = specUse g lang env { u with color := c }) :
    (∀ (e : Expr) (c : Option Name), (∀ x ∈ exprNames e, N x) →
      walkExpr g lang (specUse g lang env') c (renExpr ρ env e) = walkExpr g lang (specUse g lang env) c e) ∧
    (∀ (es : List Expr), (∀ x ∈ exprsNames es, N x) → ∀ (c : Option Name) (sig : Option Sig),
      walkArgs g lang (specUse g lang env') c sig (renExprs ρ env es) =
        walkArgs g lang (specUse g lang env) c sig es) := by
  refine Expr.induct ?_ ?_ ?_ ?_ ?_ ?_
  · intro u c hn
    simp only [renExpr, walkExpr]
    rw [look u c (hn _ List.mem_cons_self)]
  · intro es ih c hn
    rw [renExpr, walkExpr, walkExpr, ← walkArgs_none, ← walkArgs_none]
    exact ih hn c none
  · intro u args ih c hn
    simp only [renExpr, walkExpr]
    rw [look u c (hn _ List.mem_cons_self), ih (fun x hx => hn x (List.mem_cons_of_mem _ hx)) c]
  · intro op args ih c hn
    exact ih hn c _
  · intro _ c sig
    simp only [renExprs, walkArgs]
  · intro e es ihe ihes hn c sig
    have he := fun c => ihe c (fun x hx => hn x (List.mem_append_left _ hx))
    have hes := ihes (fun x hx => hn x (List.mem_append_right _ hx))
    rw [renExprs]
    match sig with
    | none => rw [walkArgs, walkArgs, he c, hes c none]
    | some [] => rw [walkArgs, walkArgs, (skip_ren env).1 e, hes c (some [])]
    | some (pc :: ps) => rw [walkArgs, walkArgs, he pc, hes c (some ps)]

theorem specUses_ren (hr : RenOK ρ P N) (g : Globals) (lang : Option Lang) {env env' : Env}
    (h : EnvRel ρ P env env') (hc : EnvClean env) (c : Option Name) (es : List Expr)
    (hn : ∀ x ∈ usesNames es, N x) :
    walkExprs g lang (specUse g lang env') c (renExprs ρ env es) = walkExprs g lang (specUse g lang env) c es := by
  rw [← walkArgs_none, ← walkArgs_none]
  exact (walk_ren g lang
    (fun u c hn => by rw [renUse_withColor]; exact specUse_ren hr g lang h hc { u with color := c } hn)).2 es hn c none

def renDecl (ρ : Name → Name) (d : Ns × Nat × Name) : Ns × Nat × Name := (d.1, d.2.1, ρ d.2.2)

theorem envRel_declItem (hr : RenOK ρ P N) {env env' : Env} (h : EnvRel ρ P env env') (d : Ns × Nat × Name)
    (hd : P d.2.2) : EnvRel ρ P (env.declItem d) (env'.declItem (renDecl ρ d)) := by
  obtain ⟨ns, id, x⟩ := d
  cases ns
  · exact ⟨mapRel_update hr h.1 x hd _, h.2⟩
  · exact ⟨h.1, mapRel_update hr h.2 x hd _⟩

theorem envRel_withItems (hr : RenOK ρ P N) (ds : List (Ns × Nat × Name)) (hd : ∀ d ∈ ds, P d.2.2) :
    ∀ {env env' : Env}, EnvRel ρ P env env' → EnvRel ρ P (env.withItems ds) (env'.withItems (ds.map (renDecl ρ))) := by
  induction ds with
  | nil => exact fun h => h
  | cons d ds ih =>
    intro env env' h
    rw [List.map_cons, Env.withItems_cons, Env.withItems_cons]
    exact ih (fun d' h' => hd d' (List.mem_cons_of_mem _ h')) (envRel_declItem hr h d (hd d List.mem_cons_self))

theorem declEvents_ren (hr : RenOK ρ P N) (noun : Ns → Noun) : ∀ (ds : List (Ns × Nat × Name))
    (seen seen' : Ns → Name → Bool), SeenRel ρ P seen seen' → (∀ d ∈ ds, P d.2.2) →
    declEvents noun seen' (ds.map (renDecl ρ)) = declEvents noun seen ds := by
  intro ds
  induction ds with
  | nil => intro _ _ _ _; rfl
  | cons d ds ih =>
    intro seen seen' hs hd
    obtain ⟨ns, id, n⟩ := d
    have hpn : P n := hd (ns, id, n) List.mem_cons_self
    simp only [List.map_cons, renDecl, declEvents]
    rw [hs ns n hpn]
    congr 1
    exact ih _ _ (seenRel_update hr hs ns n hpn) (fun d' h' => hd d' (List.mem_cons_of_mem _ h'))

def renParam (ρ : Name → Name) (p : Nat × Name) : Nat × Name := (p.1, ρ p.2)

theorem specParams_env : ∀ (ps : List (Nat × Name)) (env : Env) (here : Name → Bool),
    (specParams env here ps).1 = paramEnv env ps := by
  intro ps
  induction ps with
  | nil => intro env here; rfl
  | cons p ps ih => intro env here; simp only [specParams, paramEnv]; exact ih _ _

theorem specParams_ren (hr : RenOK ρ P N) : ∀ (ps : List (Nat × Name)) (env env' : Env) (here here' : Name → Bool),
    EnvRel ρ P env env' → HereRel ρ P here here' → (∀ p ∈ ps, P p.2) →
    (specParams env' here' (ps.map (renParam ρ))).2 = (specParams env here ps).2 ∧
      EnvRel ρ P (specParams env here ps).1 (specParams env' here' (ps.map (renParam ρ))).1 := by
  intro ps
  induction ps with
  | nil => intro env env' here here' he _ _; exact ⟨rfl, he⟩
  | cons p ps ih =>
    intro env env' here here' he hh hp
    have hpp : P p.2 := hp p List.mem_cons_self
    obtain ⟨h1, h2⟩ := ih _ _ _ _ (envRel_update hr he p.2 hpp (.loc .param (.decl p.1)))
      (hereRel_update hr hh p.2 hpp) (fun q hq => hp q (List.mem_cons_of_mem _ hq))
    simp only [List.map_cons, specParams, renParam] at *
    rw [h1, hh p.2 hpp]
    exact ⟨rfl, h2⟩

theorem specDeclVars_env (g : Globals) (lang : Option Lang) : ∀ (vars : List DeclVar) (env : Env) (here : Name → Bool),
    (specDeclVars g lang env here vars).1.1 = declEnv env vars := by
  intro vars
  induction vars with
  | nil => intro env here; rfl
  | cons v vs ih => intro env here; simp only [specDeclVars, declEnv]; exact ih _ _

theorem specDeclVars_ren (hr : RenOK ρ P N) (g : Globals) (lang : Option Lang) :
    ∀ (vars : List DeclVar) (env env' : Env) (here here' : Name → Bool),
    EnvRel ρ P env env' → HereRel ρ P here here' → EnvClean env →
    (∀ v ∈ vars, P v.name ∧ ∀ x ∈ usesNames v.init, N x) →
    (specDeclVars g lang env' here' (renDeclVars ρ env vars)).2 = (specDeclVars g lang env here vars).2 ∧
      EnvRel ρ P (specDeclVars g lang env here vars).1.1 (specDeclVars g lang env' here' (renDeclVars ρ env vars)).1.1 ∧
      HereRel ρ P (specDeclVars g lang env here vars).1.2 (specDeclVars g lang env' here' (renDeclVars ρ env vars)).1.2 := by
  intro vars
  induction vars with
  | nil => intro env env' here here' he hh _ _; exact ⟨rfl, he, hh⟩
  | cons v vs ih =>
    intro env env' here here' he hh hc hv
    obtain ⟨hpv, hnv⟩ := hv v List.mem_cons_self
    obtain ⟨h1, h2, h3⟩ := ih _ _ _ _ (envRel_update hr he v.name hpv (.loc .local (.decl v.id)))
      (hereRel_update hr hh v.name hpv) (envClean_update env hc v.name .local v.id)
      (fun w hw => hv w (List.mem_cons_of_mem _ hw))
    simp only [renDeclVars, specDeclVars] at *
    rw [h1, hh v.name hpv, specUses_ren hr g lang he hc none v.init hnv]
    exact ⟨rfl, h2, h3⟩

theorem specStmt_env (g : Globals) (lang : Option Lang) (env : Env) (here : Name → Bool) (s : Stmt) :
    (specStmt g lang env here s).1.1 = envAfter env s := by
  cases s with
  | decl vars => simp only [specStmt, envAfter]; exact specDeclVars_env g lang vars env here
  | _ => simp only [specStmt, envAfter]

theorem itemDecls_ren : ∀ (ss : List Stmt) (env : Env),
    itemDecls (renStmts ρ env ss) = (itemDecls ss).map (renDecl ρ) := by
  intro ss
  induction ss with
  | nil => intro env; rfl
  | cons s ss ih =>
    intro env
    cases s with
    | expr us | decl vars | block b | script b => exact ih _
    | func id name qual params body | funcDecl id name qual params =>
      simp only [renStmts, renStmt, itemDecls, List.map_cons, renDecl]; rw [ih]
    | const vars =>
      simp only [renStmts, renStmt, itemDecls, List.map_append, renConstVars, List.map_map]
      rw [ih]
      rfl

theorem itemDecls_names : ∀ (ss : List Stmt) (d : Ns × Nat × Name), d ∈ itemDecls ss → d.2.2 ∈ stmtsDeclNames ss := by
  intro ss
  induction ss with
  | nil => intro d h; cases h
  | cons s ss ih =>
    intro d h
    cases s with
    | expr us => exact ih d h
    | decl vars | block b | script b => exact List.mem_append_right _ (ih d h)
    | func id name qual params body | funcDecl id name qual params =>
      rcases List.mem_cons.1 h with rfl | h
      · exact List.mem_append_left _ List.mem_cons_self
      · exact List.mem_append_right _ (ih d h)
    | const vars =>
      rcases List.mem_append.1 h with h | h
      · obtain ⟨v, hv, rfl⟩ := List.mem_map.1 h
        exact List.mem_append_left _ (List.mem_map.2 ⟨v, hv, rfl⟩)
      · exact List.mem_append_right _ (ih d h)

variable (ρ P N)

def RenStmtsOK (g : Globals) (ss : List Stmt) : Prop :=
  ∀ (lang : Option Lang) (env env' : Env) (here here' : Name → Bool),
    EnvRel ρ P env env' → HereRel ρ P here here' → EnvClean env →
    (∀ x ∈ stmtsNames ss, N x) → (∀ x ∈ stmtsDeclNames ss, P x) →
    specStmts g lang env' here' (renStmts ρ env ss) = specStmts g lang env here ss

def RenStmtOK (g : Globals) (s : Stmt) : Prop :=
  ∀ (lang : Option Lang) (env env' : Env) (here here' : Name → Bool),
    EnvRel ρ P env env' → HereRel ρ P here here' → EnvClean env →
    (∀ x ∈ stmtNames s, N x) → (∀ x ∈ stmtDeclNames s, P x) →
    (specStmt g lang env' here' (renStmt ρ env s)).2 = (specStmt g lang env here s).2 ∧
      EnvRel ρ P (specStmt g lang env here s).1.1 (specStmt g lang env' here' (renStmt ρ env s)).1.1 ∧
      HereRel ρ P (specStmt g lang env here s).1.2 (specStmt g lang env' here' (renStmt ρ env s)).1.2

variable {ρ P N}

theorem specBlock_ren (hr : RenOK ρ P N) (g : Globals) (b : List Stmt) (h : RenStmtsOK ρ P N g b)
    (lang : Option Lang) {env env' : Env} (he : EnvRel ρ P env env') (hc : EnvClean env)
    (hn : ∀ x ∈ stmtsNames b, N x) (hp : ∀ x ∈ stmtsDeclNames b, P x) :
    specBlock g lang env' (renStmts ρ (env.withItems (itemDecls b)) b) = specBlock g lang env b := by
  unfold specBlock
  have hd : ∀ d ∈ itemDecls b, P d.2.2 := fun d hd => hp _ (itemDecls_names b d hd)
  rw [itemDecls_ren, declEvents_ren hr itemNoun _ _ _ seenRel_false hd]
  rw [h lang _ _ _ _ (envRel_withItems hr _ hd he) hereRel_false (envClean_withItems env hc _) hn hp]

theorem constInits_ren (hr : RenOK ρ P N) (g : Globals) {env env' : Env} (he : EnvRel ρ P env env')
    (hc : EnvClean env) : ∀ (vars : List DeclVar), (∀ v ∈ vars, ∀ x ∈ usesNames v.init, N x) →
    ((renConstVars ρ env vars).flatMap fun v => walkExprs g none (specUse g none env') none v.init) =
      vars.flatMap fun v => walkExprs g none (specUse g none env) none v.init := by
  intro vars
  induction vars with
  | nil => intro _; rfl
  | cons v vs ih =>
    intro hn
    simp only [renConstVars, List.map_cons, List.flatMap_cons] at *
    rw [ih (fun w hw => hn w (List.mem_cons_of_mem _ hw)), specUses_ren hr g none he hc none v.init (hn v List.mem_cons_self)]

theorem ren_ok (hr : RenOK ρ P N) (g : Globals) :
    (∀ (s : Stmt), RenStmtOK ρ P N g s) ∧ (∀ (ss : List Stmt), RenStmtsOK ρ P N g ss) := by
  refine Stmt.induct ?_ ?_ ?_ ?_ ?_ ?_ ?_ ?_ ?_
  · intro us lang env env' here here' he hh hc hn hp
    simp only [renStmt, specStmt]
    exact ⟨specUses_ren hr g lang he hc none us hn, he, hh⟩
  · intro vars lang env env' here here' he hh hc hn hp
    have hv : ∀ v ∈ vars, P v.name ∧ ∀ x ∈ usesNames v.init, N x := fun v hv =>
      ⟨hp _ (by rw [stmtDeclNames]; exact List.mem_map_of_mem hv),
        fun x hx => hn x (by rw [stmtNames]; exact List.mem_flatMap.2 ⟨v, hv, List.mem_cons_of_mem _ hx⟩)⟩
    obtain ⟨h1, h2, h3⟩ := specDeclVars_ren hr g lang vars env env' here here' he hh hc hv
    simp only [renStmt, specStmt]
    exact ⟨h1, h2, h3⟩
  · intro b ih lang env env' here here' he hh hc hn hp
    exact ⟨specBlock_ren hr g b ih lang he hc hn hp, he, hh⟩
  · intro id name qual params body ih lang env env' here here' he hh hc hn hp
    have hpp : ∀ p ∈ params, P p.2 := fun p hpm =>
      hp _ (List.mem_cons_of_mem _ (List.mem_append_left _ (List.mem_map_of_mem hpm)))
    obtain ⟨h1, h2⟩ := specParams_ren hr params _ _ _ _ (envRel_hide he .function) hereRel_false hpp
    have hcl := envClean_specParams params (env.hide .function) (fun _ => false) (envClean_hide env hc _)
    have hnb : ∀ x ∈ stmtsNames body, N x := fun x hx =>
      hn x (List.mem_cons_of_mem _ (List.mem_append_right _ hx))
    have hpb : ∀ x ∈ stmtsDeclNames body, P x := fun x hx =>
      hp x (List.mem_cons_of_mem _ (List.mem_append_right _ hx))
    refine ⟨?_, he, hh⟩
    rw [renStmt, specStmt_func, specStmt_func, ← specParams_env params (env.hide .function) (fun _ => false)]
    exact congr (congrArg (· ++ ·) h1) (specBlock_ren hr g body ih _ h2 hcl hnb hpb)
  · intro vars lang env env' here here' he hh hc hn hp
    simp only [renStmt, specStmt]
    refine ⟨constInits_ren hr g (envRel_hide he .const) (envClean_hide env hc .const) vars ?_, he, hh⟩
    intro v hv x hx
    exact hn x (by rw [stmtNames]; exact List.mem_flatMap.2 ⟨v, hv, List.mem_cons_of_mem _ hx⟩)
  · intro b ih lang env env' here here' he hh hc hn hp
    exact ⟨specBlock_ren hr g b ih _ he hc hn hp, he, hh⟩
  · intro id name qual params lang env env' here here' he hh hc hn hp
    simp only [renStmt, specStmt]
    exact ⟨trivial, he, hh⟩
  · intro lang env env' here here' _ _ _ _ _
    rfl
  · intro s ss ihs ihss lang env env' here here' he hh hc hn hp
    have hns : ∀ x ∈ stmtNames s, N x := fun x hx => hn x (List.mem_append_left _ hx)
    have hps : ∀ x ∈ stmtDeclNames s, P x := fun x hx => hp x (List.mem_append_left _ hx)
    obtain ⟨h1, h2, h3⟩ := ihs lang env env' here here' he hh hc hns hps
    have hc' := envClean_specStmt g s lang env here hc
    have h5 := ihss lang _ _ _ _ h2 h3 hc'
      (fun x hx => hn x (List.mem_append_right _ hx)) (fun x hx => hp x (List.mem_append_right _ hx))
    simp only [renStmts, specStmts]
    rw [h1, ← specStmt_env g lang env here s, h5]

theorem renStmts_ok (hr : RenOK ρ P N) (g : Globals) (ss : List Stmt) : RenStmtsOK ρ P N g ss := (ren_ok hr g).2 ss

theorem funcSigs_ren :
    (∀ (s : Stmt) (env : Env), stmtFuncSigs (renStmt ρ env s) = stmtFuncSigs s) ∧
    (∀ (ss : List Stmt) (env : Env), stmtsFuncSigs (renStmts ρ env ss) = stmtsFuncSigs ss) := by
  refine Stmt.induct ?_ ?_ ?_ ?_ ?_ ?_ ?_ ?_ ?_
  · intro es env; rfl
  · intro vars env; rfl
  · intro b ih env; exact ih _
  · intro id name qual params body ih env; simp only [renStmt, stmtFuncSigs, List.length_map, ih]
  · intro vars env; rfl
  · intro b ih env; exact ih _
  · intro id name qual params env; rfl
  · intro env; rfl
  · intro s ss ihs ihss env; simp only [renStmts, stmtsFuncSigs, ihs, ihss]

theorem stmtFuncSigs_ren : ∀ (s : Stmt) (env : Env), stmtFuncSigs (renStmt ρ env s) = stmtFuncSigs s :=
  funcSigs_ren.1

theorem stmtsFuncSigs_ren (ss : List Stmt) (env : Env) : stmtsFuncSigs (renStmts ρ env ss) = stmtsFuncSigs ss :=
  funcSigs_ren.2 ss env

theorem withProgram_ren (g : Globals) (ss : List Stmt) (env : Env) :
    g.withProgram (renStmts ρ env ss) = g.withProgram ss := by
  unfold Globals.withProgram
  rw [stmtsFuncSigs_ren]

theorem renStmt_isDecl (s : Stmt) (env : Env) : (renStmt ρ env s).isDecl = s.isDecl := by
  cases s <;> simp only [renStmt, Stmt.isDecl]

theorem renStmts_isDecl : ∀ (ss : List Stmt) (env : Env), (∀ s ∈ ss, s.isDecl = false) →
    ∀ s ∈ renStmts ρ env ss, s.isDecl = false := by
  intro ss
  induction ss with
  | nil => intro env _ s hs; cases hs
  | cons t ts ih =>
    intro env h s hs
    simp only [renStmts, List.mem_cons] at hs
    rcases hs with rfl | hs
    · rw [renStmt_isDecl]; exact h t List.mem_cons_self
    · exact ih _ (fun x hx => h x (List.mem_cons_of_mem _ hx)) s hs

end TruthModel.Scope
