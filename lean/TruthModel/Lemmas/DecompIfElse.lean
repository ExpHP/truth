/-
C07, structural half: `decompile_if_else`.  The pass is walked once, to show that it does to a block only what `IfElse` lists
(`ifElseBlock_spec`); what is then proved about the pass, here and in `DecompChainSem`, is proved by induction over `IfElse`.
-/
import TruthModel.Lemmas.Decomp
namespace TruthModel.Decomp
open List

/-! ### `gather_cond_chain` -/

/-- one round of `_gather_cond_chain` -/
theorem gatherGo_step {ss : Block} {rc : Nat → Nat} {fuel src : Nat} {chain : List CondBlockInfo} {ke : Option Nat}
    {info : ChainInfo} (h : gatherGo ss rc (fuel + 1) src chain ke = some info) :
    ∃ ifJ kw op nop a b, jmpAt ss rc src = some ifJ ∧ ifJ.time = none ∧ src < ifJ.dest ∧
      ifJ.kind = .cond kw (.bin op a b) ∧ op.negate = some nop ∧
      ((info = ⟨chain ++ [⟨kw, .bin nop a b, src, ifJ.dest⟩], none, ifJ.dest⟩ ∧ ∀ e, ke = some e → ifJ.dest = e) ∨
       ∃ u, jmpAt ss rc (ifJ.dest - 1) = some u ∧ ifJ.destRc ≤ 1 ∧ u.time = none ∧ u.kind.isCond = false ∧
         (∀ e, ke = some e → e = u.dest) ∧
         (gatherGo ss rc fuel (ifJ.dest + 1) (chain ++ [⟨kw, .bin nop a b, src, ifJ.dest⟩]) (some u.dest) = some info ∨
          info = ⟨chain ++ [⟨kw, .bin nop a b, src, ifJ.dest⟩], some (ifJ.dest + 1), u.dest⟩)) := by
  -- `split` on an `if` in front of a term of this size is slower by orders of magnitude than `ite_none_left_eq_some`
  unfold gatherGo at h
  split at h
  · cases h
  · rename_i ifJ hif
    obtain ⟨ht, h⟩ := Option.ite_none_left_eq_some.mp h
    obtain ⟨hdir, h⟩ := Option.ite_none_left_eq_some.mp h
    split at h
    · cases h
    · cases h
    · rename_i kw op a b hkind
      obtain ⟨-, h⟩ := Option.ite_none_left_eq_some.mp h
      split at h
      · cases h
      · rename_i nop hneg
        dsimp only at h
        refine ⟨ifJ, kw, op, nop, a, b, hif, Option.not_isSome_iff_eq_none.mp ht, Nat.lt_of_not_le hdir, hkind, hneg, ?_⟩
        split at h
        · left
          split at h
          · obtain ⟨hne, h⟩ := Option.ite_none_left_eq_some.mp h
            cases h
            exact ⟨rfl, fun e' he' => by cases he'; exact eq_of_not_bne hne⟩
          · cases h
            exact ⟨rfl, fun e' he' => by cases he'⟩
        · rename_i u hu
          right
          have hu' : jmpAt ss rc (ifJ.dest - 1) = some u := (Option.ite_none_right_eq_some.mp hu).2
          obtain ⟨hrc, h⟩ := Option.ite_none_left_eq_some.mp h
          obtain ⟨hut, h⟩ := Option.ite_none_left_eq_some.mp h
          obtain ⟨hucond, h⟩ := Option.ite_none_left_eq_some.mp h
          obtain ⟨-, h⟩ := Option.ite_none_left_eq_some.mp h
          obtain ⟨hknown, h⟩ := Option.ite_none_left_eq_some.mp h
          refine ⟨u, hu', Nat.le_of_not_gt hrc, Option.not_isSome_iff_eq_none.mp hut, Bool.eq_false_iff.mpr hucond,
            fun e he => by subst he; exact eq_of_not_bne hknown, ?_⟩
          split at h
          · left; exact h
          · obtain ⟨-, h⟩ := Option.ite_none_left_eq_some.mp h
            cases h; right; rfl

/-- `if (a op b) goto d` opens the cond block with label `d` and condition `a negop b` -/
def ArmHead (ss : Block) (cb : CondBlockInfo) (d : Nat) : Prop :=
  ∃ op nop a b, ss[cb.ifIndex]? = some (.atom none (.condJump .if_ (.bin op a b) (.goto d none))) ∧
    labelIndex ss d = some cb.labelIndex ∧ op.negate = some nop ∧ cb.kw = .if_ ∧ cb.cond = .bin nop a b

def ArmTail (ss : Block) (e : Nat) (cb : CondBlockInfo) : Prop :=
  ∃ dE, ss[cb.labelIndex - 1]? = some (.atom none (.jump (.goto dE none))) ∧ labelIndex ss dE = some e

/-- a cond block of a chain that ends at index `e`: the last block of a chain without `else` ends at `e` itself, has no
`goto end`, and its label may have other referrers -/
structure ArmOK (ss : Block) (rc : Nat → Nat) (e : Nat) (cb : CondBlockInfo) : Prop where
  lt : cb.ifIndex < cb.labelIndex
  head : ∃ d, ArmHead ss cb d ∧ (cb.labelIndex ≠ e → rc d ≤ 1)
  tail : cb.labelIndex ≠ e → ArmTail ss e cb

theorem gatherGo_spec {ss : Block} {rc : Nat → Nat} (fuel src : Nat) (chain : List CondBlockInfo)
    (ke : Option Nat) (info : ChainInfo) (h : gatherGo ss rc fuel src chain ke = some info) :
    (∀ e, ke = some e → info.endLabel = e) ∧ (∃ dE, labelIndex ss dE = some info.endLabel) ∧
    ∃ kw c li tl, info.chain = chain ++ ⟨kw, c, src, li⟩ :: tl ∧
      ∀ cb ∈ (⟨kw, c, src, li⟩ :: tl : List CondBlockInfo), ArmOK ss rc info.endLabel cb := by
  induction fuel generalizing src chain ke with
  | zero => cases h
  | succ fuel ih =>
    obtain ⟨ifJ, kw, op, nop, a, b, hif, htime, hlt, hkind, hneg, hcase⟩ := gatherGo_step h
    obtain ⟨rfl, d, hd, hld, hrc⟩ := jmpAt_cond hif hkind htime
    have hhead : ArmHead ss ⟨.if_, .bin nop a b, src, ifJ.dest⟩ d := ⟨op, nop, a, b, hd, hld, hneg, rfl, rfl⟩
    rcases hcase with ⟨rfl, hke⟩ | ⟨u, hu, hrc1, hut, huc, hke, hrest⟩
    · refine ⟨fun e he => hke e he, ⟨d, hld⟩, _, _, _, [], rfl, fun cb hcb => ?_⟩
      cases List.mem_singleton.mp hcb
      exact ⟨hlt, ⟨d, hhead, fun hne => absurd rfl hne⟩, fun hne => absurd rfl hne⟩
    · obtain ⟨dE, hdE, hldE⟩ := jmpAt_uncond hu huc hut
      -- once the end of the chain is known to be `u.dest`
      have hcb : ∀ {e}, e = u.dest → ArmOK ss rc e ⟨.if_, .bin nop a b, src, ifJ.dest⟩ := fun he =>
        ⟨hlt, ⟨d, hhead, fun _ => hrc ▸ hrc1⟩, fun _ => ⟨dE, hdE, he ▸ hldE⟩⟩
      rcases hrest with hrec | rfl
      · obtain ⟨h1, h2, _, _, _, tl, h3, h4⟩ := ih _ _ _ hrec
        have he := h1 _ rfl
        refine ⟨fun e hk => he.trans (hke e hk).symm, h2, _, _, _, _, by rw [h3, List.append_assoc]; rfl, fun cb hm => ?_⟩
        rcases List.mem_cons.mp hm with rfl | hm
        · exact hcb he
        · exact h4 cb hm
      · refine ⟨fun e hk => (hke e hk).symm, ⟨dE, hldE⟩, _, _, _, [], rfl, fun cb hm => ?_⟩
        cases List.mem_singleton.mp hm
        exact hcb rfl

theorem gatherCondChain_spec {ss : Block} {rc : Nat → Nat} {ints : List Nat} {start : Nat} {info : ChainInfo}
    (h : gatherCondChain ss rc ints start = some info) :
    (∀ cb ∈ info.chain, ArmOK ss rc info.endLabel cb) ∧ info.chain ≠ [] ∧ (∃ dE, labelIndex ss dE = some info.endLabel) ∧
    ints.any (fun i => start ≤ i && i < info.endLabel) = false := by
  unfold gatherCondChain at h
  split at h
  · cases h
  · rename_i info' hg
    obtain ⟨hc, h⟩ := Option.ite_none_left_eq_some.mp h
    cases h
    obtain ⟨-, hend, _, _, _, tl, hch, hok⟩ := gatherGo_spec _ _ _ _ _ hg
    rw [hch] at hc ⊢
    exact ⟨hok, List.cons_ne_nil _ _, hend, Bool.eq_false_iff.mpr hc⟩

theorem gatherCondChain_none_of_not_jump {ss : Block} {rc : Nat → Nat} {ints : List Nat} {i : Nat}
    (h : jmpAt ss rc i = none) : gatherCondChain ss rc ints i = none := by
  unfold gatherCondChain
  have : gatherGo ss rc (ss.length + 1) i [] none = none := by
    unfold gatherGo; rw [h]
  rw [this]

/-! ### `IfElseVisitor::visit_block` -/

/-- between `st` and `st'` the statements `c` were taken off the iterator -/
structure Consumes (st st' : BuildState) (c : List Stmt) : Prop where
  rest : st.rest = c ++ st'.rest
  index : st'.index = st.index + c.length

theorem Consumes.nil (st : BuildState) : Consumes st st [] := ⟨rfl, rfl⟩

theorem Consumes.trans {st st1 st2 : BuildState} {c1 c2 : List Stmt} (h1 : Consumes st st1 c1) (h2 : Consumes st1 st2 c2) :
    Consumes st st2 (c1 ++ c2) :=
  ⟨by rw [h1.rest, h2.rest, List.append_assoc], by rw [h2.index, h1.index, List.length_append, Nat.add_assoc]⟩

theorem Consumes.sync {ss : Block} {st st' : BuildState} {c : List Stmt} (h : Consumes st st' c)
    (hsync : st.rest = ss.drop st.index) : st'.rest = ss.drop st'.index := by
  rw [h.index, ← List.drop_drop, ← hsync, h.rest, List.drop_left]

theorem Consumes.getElem? {ss : Block} {st st' : BuildState} {c : List Stmt} (h : Consumes st st' c)
    (hsync : st.rest = ss.drop st.index) {t : Nat} (ht : t < c.length) : ss[st.index + t]? = c[t]? := by
  rw [← List.getElem?_drop, ← hsync, h.rest, List.getElem?_append_left ht]

theorem buildArm_ok {e : Nat} {cb : CondBlockInfo} {st st' : BuildState} {arm : Stmt}
    (h : buildArm e cb st = .ok (arm, st')) :
    st.index = cb.ifIndex ∧ ∃ inner first body labelStmt,
      arm = .node (.arm cb.kw cb.cond) body ∧ inner.length = cb.labelIndex - cb.ifIndex ∧
      Consumes st st' (inner ++ [labelStmt]) ∧
      ((cb.labelIndex = e ∧ inner ++ [labelStmt] = first :: body) ∨
       (cb.labelIndex ≠ e ∧ ∃ r, inner = (first :: body) ++ [r])) := by
  unfold buildArm at h
  obtain ⟨hidx, h⟩ := ok_of_ite_panic h
  dsimp only at h
  refine ⟨eq_of_not_bne hidx, ?_⟩
  obtain ⟨inner, hpop, h⟩ := bindBlock.inv h
  split at h
  · cases h
  · rename_i labelStmt rest hdrop
    obtain ⟨-, h⟩ := ok_of_ite_panic h
    split at h
    · cases h
    · rename_i first body hinner
      obtain ⟨-, h⟩ := ok_of_ite_panic h
      cases h
      have hlen : (st.rest.take (cb.labelIndex - cb.ifIndex)).length = cb.labelIndex - cb.ifIndex := by
        have := congrArg List.length hdrop
        rw [List.length_drop, List.length_cons] at this
        rw [List.length_take]
        exact Nat.min_eq_left (Nat.le_of_lt (Nat.lt_of_sub_pos (this ▸ Nat.succ_pos _)))
      refine ⟨_, first, body, labelStmt, rfl, hlen, ⟨?_, ?_⟩, ?_⟩
      · rw [List.append_assoc, List.singleton_append, ← hdrop, List.take_append_drop]
      · rw [List.length_append, hlen, List.length_singleton, Nat.add_assoc]
      by_cases he : cb.labelIndex = e
      · rw [if_neg (fun h => bne_iff_ne.mp h he)] at hpop
        rw [if_pos (beq_iff_eq.mpr he)] at hinner
        cases hpop
        exact .inl ⟨he, hinner⟩
      · rw [if_pos (bne_iff_ne.mpr he)] at hpop
        rw [if_neg (fun h => he (beq_iff_eq.mp h))] at hinner
        refine .inr ⟨he, ?_⟩
        split at hpop
        · cases hpop
        · rename_i r revInner hrev
          by_cases hj : isJumpStmt r = true
          · rw [if_pos hj] at hpop
            cases hpop
            have := congrArg List.reverse hrev
            rw [List.reverse_reverse, List.reverse_cons, hinner] at this
            exact ⟨r, this⟩
          · rw [if_neg hj] at hpop; cases hpop

/-- the consumed statements are `if (a op b) goto d; body; goto end; d:`, or `if (a op b) goto end; body; end:` when the block is
the last of a chain without `else`; the arm is `if (a negop b) { body }` (with `end:` in the second case) -/
theorem buildArm_shape {ss : Block} {rc : Nat → Nat} {e dE : Nat} {cb : CondBlockInfo} {st st' : BuildState} {arm : Stmt}
    (hsync : st.rest = ss.drop st.index) (hok : ArmOK ss rc e cb) (hE : labelIndex ss dE = some e)
    (h : buildArm e cb st = .ok (arm, st')) :
    st.index = cb.ifIndex ∧ st'.index = cb.labelIndex + 1 ∧
    ∃ op nop a b body dl, op.negate = some nop ∧
      ((cb.labelIndex = e ∧ arm = .node (.arm .if_ (.bin nop a b)) (body ++ [.atom dl (.label dE)]) ∧
          Consumes st st' (.atom none (.condJump .if_ (.bin op a b) (.goto dE none)) :: (body ++ [.atom dl (.label dE)]))) ∨
       (cb.labelIndex ≠ e ∧ arm = .node (.arm .if_ (.bin nop a b)) body ∧ ∃ d, rc d ≤ 1 ∧
          Consumes st st' (.atom none (.condJump .if_ (.bin op a b) (.goto d none)) :: (body ++
            [.atom none (.jump (.goto dE none)), .atom dl (.label d)])))) := by
  obtain ⟨hidx, inner, first, body, labelStmt, rfl, hlen, k, hcase⟩ := buildArm_ok h
  obtain ⟨d, ⟨op, nop, a, b, hd, hld, hneg, hkw, hcond⟩, hrc⟩ := hok.head
  obtain ⟨dl, hdl⟩ := labelIndex_spec hld
  have hL : cb.ifIndex + inner.length = cb.labelIndex := by rw [hlen]; exact Nat.add_sub_cancel' (Nat.le_of_lt hok.lt)
  have hidx1 : st'.index = cb.labelIndex + 1 := by
    rw [k.index, List.length_append, List.length_singleton, ← Nat.add_assoc, hidx, hL]
  -- the statements taken off the iterator are those of the block: the conditional jump first, the label `d` last
  have hget : ∀ t, t < (inner ++ [labelStmt]).length → ss[cb.ifIndex + t]? = (inner ++ [labelStmt])[t]? :=
    fun t ht => hidx ▸ k.getElem? hsync ht
  obtain ⟨x, inner', rfl⟩ := List.exists_cons_of_length_pos (Nat.pos_of_lt_add_right (hL ▸ hok.lt))
  have hlast := hget (x :: inner').length (by rw [List.length_append]; exact Nat.lt_succ_self _)
  rw [hL, hdl, List.getElem?_concat_length] at hlast
  cases hlast
  have hfirst := hget 0 (Nat.succ_pos _)
  rw [Nat.add_zero, hd] at hfirst
  cases hfirst
  refine ⟨hidx, hidx1, op, nop, a, b, ?_⟩
  rw [hkw, hcond]
  rcases hcase with ⟨he, hc⟩ | ⟨he, r, hc⟩
  · obtain rfl : d = dE := labelIndex_inj hld (he ▸ hE)
    rw [List.cons_append] at hc
    obtain ⟨rfl, rfl⟩ := List.cons.inj hc
    exact ⟨inner', dl, hneg, .inl ⟨he, rfl, k⟩⟩
  · obtain ⟨dE', hdE, hldE⟩ := hok.tail he
    obtain rfl : dE' = dE := labelIndex_inj hldE hE
    rw [List.cons_append] at hc
    obtain ⟨rfl, rfl⟩ := List.cons.inj hc
    have hr := hget (body.length + 1) (by simp)
    rw [← hL, List.length_cons, List.length_append, List.length_singleton, Nat.add_succ_sub_one] at hdE
    rw [hdE, List.cons_append, List.getElem?_cons_succ, List.getElem?_append_left (by simp), List.getElem?_concat_length] at hr
    cases hr
    refine ⟨body, dl, hneg, .inr ⟨he, rfl, d, hrc he, ?_⟩⟩
    rw [List.cons_append, List.append_assoc] at k
    exact k

theorem buildChain_ok {info : ChainInfo} {st st' : BuildState} {node : Stmt} (h : buildChain info st = .ok (node, st')) :
    ∃ arms st1, buildArms info.endLabel info.chain st = .ok (arms, st1) ∧ st'.index = info.endLabel + 1 ∧
      ((info.elseStart = none ∧ st' = st1 ∧ node = .node .chain arms) ∨
       (∃ es els l, info.elseStart = some es ∧ st1.index = es ∧ isLabelStmt l = true ∧ Consumes st1 st' (els ++ [l]) ∧
          node = .node .chain (arms ++ [.node .els (els ++ [l])]))) := by
  obtain ⟨⟨arms, st1⟩, h1, h⟩ := bindArms.inv h
  refine ⟨arms, st1, h1, ?_⟩
  split at h
  · rename_i hes
    obtain ⟨hidx, h⟩ := ok_of_ite_panic h
    cases h
    exact ⟨eq_of_not_bne hidx, .inl ⟨hes, rfl, rfl⟩⟩
  · rename_i es hes
    obtain ⟨hidx, h⟩ := ok_of_ite_panic h
    dsimp only at h
    obtain ⟨hilen, h⟩ := ok_of_ite_panic h
    split at h
    · cases h
    · rename_i labelStmt rest hdrop
      obtain ⟨hlab, h⟩ := ok_of_ite_panic h
      obtain ⟨hfin, h⟩ := ok_of_ite_panic h
      cases h
      have hlen : (st1.rest.take (info.endLabel - es)).length = info.endLabel - es :=
        eq_of_not_bne hilen
      refine ⟨eq_of_not_bne hfin, .inr ⟨es, _, labelStmt, hes, eq_of_not_bne hidx, by simpa using hlab, ⟨?_, ?_⟩, rfl⟩⟩
      · rw [List.append_assoc, List.singleton_append, ← hdrop, List.take_append_drop]
      · rw [List.length_append, hlen, List.length_singleton, Nat.add_assoc]

/-- the statements `c` that a cond chain with end label `dE` is made of, and the children of its node:
`if (a op b) goto d; body; goto dE; d:` per cond block, the last one `if (a op b) goto dE; body; dE:` or an `else`
block `body; dE:`.  (An `else` block alone also counts; the pass never builds one, and nothing below needs it excluded.) -/
inductive Chain (rc : Nat → Nat) (dE : Nat) : List Stmt → List Stmt → Prop
  | els (b : List Stmt) (dl : Option String) :
      Chain rc dE (b ++ [.atom dl (.label dE)]) [.node .els (b ++ [.atom dl (.label dE)])]
  | last {op nop : BinOp} (a b : Operand) (body : List Stmt) (dl : Option String) : op.negate = some nop →
      Chain rc dE (.atom none (.condJump .if_ (.bin op a b) (.goto dE none)) :: (body ++ [.atom dl (.label dE)]))
        [.node (.arm .if_ (.bin nop a b)) (body ++ [.atom dl (.label dE)])]
  | cons {op nop : BinOp} (a b : Operand) (d : Nat) (body : List Stmt) (dl : Option String) {more arms : List Stmt} :
      op.negate = some nop → rc d ≤ 1 → Chain rc dE more arms →
      Chain rc dE (.atom none (.condJump .if_ (.bin op a b) (.goto d none)) :: (body ++
          [.atom none (.jump (.goto dE none)), .atom dl (.label d)] ++ more))
        (.node (.arm .if_ (.bin nop a b)) body :: arms)

/-- what `IfElseVisitor::visit_block` and its descent into the nested blocks may make of a block -/
inductive IfElse (rc : Nat → Nat) : List Stmt → List Stmt → Prop
  | nil : IfElse rc [] []
  | atom (d : Option String) (a : Atom) {xs ys : List Stmt} : IfElse rc xs ys → IfElse rc (.atom d a :: xs) (.atom d a :: ys)
  | node (k : Kind) {b b' xs ys : List Stmt} : IfElse rc b b' → IfElse rc xs ys → IfElse rc (.node k b :: xs) (.node k b' :: ys)
  | chain {dE : Nat} {c arms arms' xs ys : List Stmt} : Chain rc dE c arms →
      (∀ d a, Stmt.atom d a ∈ c → isIntLeaf (d, a) = false) → IfElse rc arms arms' → IfElse rc xs ys →
      IfElse rc (c ++ xs) (.node .chain arms' :: ys)

/-- what may follow a cond block that ends in front of index `i`, where the end label of the chain has index `e`: nothing,
directly behind the end label, or the rest of the chain, not behind it -/
def Closes (rc : Nat → Nat) (dE e i : Nat) (c arms : List Stmt) : Prop :=
  (c = [] ∧ arms = [] ∧ i = e + 1) ∨ (Chain rc dE c arms ∧ i ≤ e)

/-- a cond block is the last of its chain (and keeps the end label) exactly when nothing follows it -/
theorem buildArms_shape {ss : Block} {rc : Nat → Nat} {e dE : Nat} (hE : labelIndex ss dE = some e)
    (cbs : List CondBlockInfo) (st st1 : BuildState) (arms : List Stmt)
    (hsync : st.rest = ss.drop st.index) (hok : ∀ cb ∈ cbs, ArmOK ss rc e cb) (h : buildArms e cbs st = .ok (arms, st1)) :
    ∃ c, Consumes st st1 c ∧ (cbs ≠ [] → arms ≠ []) ∧
      ∀ tc ta, Closes rc dE e st1.index tc ta → Closes rc dE e st.index (c ++ tc) (arms ++ ta) := by
  fun_induction buildArms e cbs st generalizing arms st1 with
  | case2 | case3 | case4 | case5 => cases h
  | case1 st => cases h; exact ⟨[], Consumes.nil st, fun h => absurd rfl h, fun _ _ hT => hT⟩
  | case6 cb cbs st arm st1' h1 arms' st2 h2 ih =>
    cases h
    have hcb := hok cb (List.mem_cons_self ..)
    obtain ⟨hi0, hi1, op, nop, a, b, body, dl, hneg, hcase⟩ := buildArm_shape hsync hcb hE h1
    have hle : st.index ≤ cb.labelIndex := hi0 ▸ Nat.le_of_lt hcb.lt
    have hsync1 : st1'.rest = ss.drop st1'.index := by
      rcases hcase with ⟨_, _, k⟩ | ⟨_, _, _, _, k⟩ <;> exact k.sync hsync
    obtain ⟨c2, k2, -, hcl⟩ := ih st2 arms' hsync1 (fun cb' hcb' => hok cb' (List.mem_cons_of_mem _ hcb')) h2
    rcases hcase with ⟨he, rfl, k1⟩ | ⟨he, rfl, d, hrc, k1⟩
    · refine ⟨_, k1.trans k2, fun _ => List.cons_ne_nil _ _, fun tc ta hT => .inr ?_⟩
      rcases hcl tc ta hT with ⟨hc, ha, -⟩ | ⟨-, hi⟩
      · rw [List.append_assoc, hc, List.append_nil, List.cons_append, ha]
        exact ⟨Chain.last a b body dl hneg, he ▸ hle⟩
      · rw [hi1, he] at hi; exact absurd hi (Nat.not_succ_le_self e)
    · refine ⟨_, k1.trans k2, fun _ => List.cons_ne_nil _ _, fun tc ta hT => .inr ?_⟩
      rcases hcl tc ta hT with ⟨-, -, hi⟩ | ⟨hch, hi⟩
      · rw [hi1] at hi; exact absurd (Nat.succ.inj hi) he
      · rw [hi1] at hi
        rw [List.append_assoc]
        exact ⟨Chain.cons a b d body dl hneg hrc hch, Nat.le_trans hle (Nat.le_of_succ_le hi)⟩

/-- a new chain swallows the statements from its first `if` to its end label, none of them an interrupt label -/
theorem buildChain_shape {ss : Block} {rc : Nat → Nat} {info : ChainInfo} {st st' : BuildState} {node : Stmt}
    (hsync : st.rest = ss.drop st.index) (hinfo : gatherCondChain ss rc (interruptIndices ss) st.index = some info)
    (h : buildChain info st = .ok (node, st')) :
    ∃ dE c arms, Consumes st st' c ∧ node = .node .chain arms ∧ Chain rc dE c arms ∧
      ∀ d a, Stmt.atom d a ∈ c → isIntLeaf (d, a) = false := by
  obtain ⟨hok, hne, ⟨dE, hE⟩, hcheck⟩ := gatherCondChain_spec hinfo
  obtain ⟨dl, hl⟩ := labelIndex_spec hE
  obtain ⟨arms, st1, h1, hend, hcase⟩ := buildChain_ok h
  obtain ⟨c1, k1, hane, hcl⟩ := buildArms_shape (rc := rc) hE info.chain st st1 arms hsync hok h1
  have hch : ∀ tc ta, Closes rc dE info.endLabel st1.index tc ta → Chain rc dE (c1 ++ tc) (arms ++ ta) := by
    intro tc ta hT
    rcases hcl tc ta hT with ⟨-, ha, -⟩ | ⟨hc, -⟩
    · exact absurd (List.append_eq_nil_iff.mp ha).1 (hane hne)
    · exact hc
  have hint : ∀ c, Consumes st st' c → ∀ d a, Stmt.atom d a ∈ c → isIntLeaf (d, a) = false := by
    intro c k d a hx
    obtain ⟨t, ht, hxt⟩ := List.getElem_of_mem hx
    have hxs : ss[st.index + t]? = some (.atom d a) := by rw [k.getElem? hsync ht, List.getElem?_eq_getElem ht, hxt]
    by_cases hte : st.index + t < info.endLabel
    · exact not_int_of_any_false hcheck hxs (Nat.le_add_right _ _) hte
    · have hle : st.index + t ≤ info.endLabel :=
        Nat.le_of_lt_succ (Nat.lt_of_lt_of_eq (Nat.add_lt_add_left ht _) (k.index.symm.trans hend))
      rw [Nat.le_antisymm hle (Nat.le_of_not_lt hte), hl] at hxs
      cases hxs; rfl
  rcases hcase with ⟨-, rfl, rfl⟩ | ⟨es, els, l, -, -, -, k2, rfl⟩
  · have := hch [] [] (.inl ⟨rfl, rfl, hend⟩)
    rw [List.append_nil, List.append_nil] at this
    exact ⟨dE, c1, arms, k1, rfl, this, hint c1 k1⟩
  · have hi : st1.index + els.length = info.endLabel := by
      have := k2.index
      rw [hend, List.length_append, List.length_singleton, ← Nat.add_assoc] at this
      exact (Nat.succ.inj this).symm
    obtain rfl : l = .atom dl (.label dE) := by
      have := k2.getElem? (k1.sync hsync) (t := els.length) (by simp)
      rw [hi, hl, List.getElem?_concat_length] at this
      exact (Option.some.inj this).symm
    exact ⟨dE, _, _, k1.trans k2, rfl, hch _ _ (.inr ⟨Chain.els els dl, hi ▸ Nat.le_add_right _ _⟩), hint _ (k1.trans k2)⟩

theorem descendWith_atom {g : Block → Outcome Block} {d a rest out} (h : descendWith g (.atom d a :: rest) = .ok out) :
    ∃ out', descendWith g rest = .ok out' ∧ out = .atom d a :: out' := by
  obtain ⟨out', h1, h⟩ := bindBlock'.inv h
  cases h
  exact ⟨out', h1, rfl⟩

theorem descendWith_node {g : Block → Outcome Block} {k b rest out} (h : descendWith g (.node k b :: rest) = .ok out) :
    ∃ b' out', g b = .ok b' ∧ descendWith g rest = .ok out' ∧ out = .node k b' :: out' := by
  obtain ⟨b', hb, h⟩ := bindBlock.inv h
  obtain ⟨out', h1, h⟩ := bindBlock'.inv h
  cases h
  exact ⟨b', out', hb, h1, rfl⟩

/-- the scan of `IfElseVisitor::visit_block`, followed by the descent `g` into the nested blocks of its result -/
theorem chainFrom_spec {ss : Block} {rc : Nat → Nat} {g : Block → Outcome Block} (hg : ∀ b b', g b = .ok b' → IfElse rc b b')
    (fuel : Nat) (st : BuildState) (new : List Stmt) (hsync : st.rest = ss.drop st.index)
    (h : chainFrom ss rc (interruptIndices ss) fuel st = .ok new) :
    ∀ out, descendWith g new = .ok out → IfElse rc st.rest out := by
  fun_induction chainFrom ss rc (interruptIndices ss) fuel st generalizing new with
  | case3 fuel st _ hnone s rest hrest new' hrec ih =>
    cases h
    have k : Consumes st ⟨st.index + 1, rest⟩ [s] := ⟨hrest, rfl⟩
    intro out hd
    rw [hrest]
    cases s with
    | atom d a =>
      obtain ⟨out', h1, rfl⟩ := descendWith_atom hd
      exact .atom d a (ih new' (k.sync hsync) hrec out' h1)
    | node k0 b =>
      obtain ⟨b', out', hb, h1, rfl⟩ := descendWith_node hd
      exact .node k0 (hg b b' hb) (ih new' (k.sync hsync) hrec out' h1)
  | case8 fuel st _ info hinfo node st1 hb new' hrec ih =>
    cases h
    obtain ⟨dE, c, arms, k, rfl, hc, hint⟩ := buildChain_shape hsync hinfo hb
    intro out hd
    obtain ⟨arms', out', ha, h1, rfl⟩ := descendWith_node hd
    rw [k.rest]
    exact .chain hc hint (hg arms arms' ha) (ih new' (k.sync hsync) hrec out' h1)
  | case11 fuel st hge =>
    cases h
    intro out hd
    cases hd
    rw [hsync, List.drop_eq_nil_of_le (Nat.le_of_not_lt hge)]
    exact .nil
  | case1 | case2 | case4 | case5 | case6 | case7 | case9 | case10 => cases h

/-- the children of a new chain are a block like any other: the next level of the recursion leaves them in place and
descends into each -/
theorem ifElseBlock_spec {rc : Nat → Nat} (fuel : Nat) (ss out : Block) (h : ifElseBlock rc fuel ss = .ok out) :
    IfElse rc ss out := by
  induction fuel generalizing ss out with
  | zero => cases h
  | succ fuel ih =>
    obtain ⟨new, hnew, hd⟩ := bindBlock.inv h
    exact chainFrom_spec ih _ ⟨0, ss⟩ new rfl hnew out hd

/-- `goto e; d:` behind a cond block goes when `d` has no referrer but the conditional jump of the block -/
theorem Step.armEnd {β} {f : Option String × Atom → Option β} (hf : Good0 f) {rc : Nat → Nat} {c : Expr} {k : Kind} {d e : Nat}
    {dl : Option String} (hk : k.refs = c.refs) (hrc : rc d ≤ 1) (body : List Stmt) :
    Step f rc (.atom none (.condJump .if_ c (.goto d none)) :: (body ++ [.atom none (.jump (.goto e none)), .atom dl (.label d)]))
      [.node k body] := by
  refine ⟨?_, fun l => ?_, fun l => ?_, fun l hl => ?_⟩
  · simp [hf.condJump, hf.jump, hf.label, List.filterMap_append]
  · simp only [refsL_cons, refsL_append, refs_node, refs_atom, Atom.refs, hk, refsL_nil, List.append_nil, List.count_append]
    omega
  · simp only [labelsL_cons, labelsL_append, labels_node, labelsL_nil, List.append_nil, List.count_append]
    omega
  · simp only [labelsL_cons, labelsL_append, labelsL_nil, List.append_nil, List.count_append,
      Stmt.labels, List.count_nil, List.count_cons] at hl
    have hld' : d = l := by
      by_cases hdl : d = l
      · exact hdl
      · simp [hdl] at hl
    subst hld'
    refine ⟨hrc, ?_⟩
    simp only [refsL_cons, refsL_append, refs_node, refs_atom, Atom.refs, hk, refsL_nil,
      List.append_nil, List.count_append, Jump.refs, List.count_singleton, beq_self_eq_true, ↓reduceIte]
    omega

theorem Chain.step {β} {f : Option String × Atom → Option β} (hf : Good0 f) {rc dE c arms} (h : Chain rc dE c arms) :
    Step f rc c arms := by
  induction h with
  | els b dl => exact Step.wrap .els rfl Step.rfl
  | last a b body dl hneg =>
    -- the consumed `if (a op b) goto dE` stands first (`pre = []`); the arm carries the negated condition `a nop b`: the
    -- same operands, so its label mentions are those of the jump's condition, the front part of the jump's mentions
    exact (Step.fold hf (k := .arm .if_ (.bin _ a b)) (hk := List.sublist_append_left _ _) (hs := .inr ⟨_, _, rfl⟩)
      (pre := []) (hb := rfl)).1
  | cons a b d body dl hneg hrc _ ih =>
    rw [← List.cons_append]
    exact Step.append (Step.armEnd hf rfl hrc body) ih

theorem IfElse.step {β} {f : Option String × Atom → Option β} (hf : Good0 f) {rc xs ys} (h : IfElse rc xs ys) :
    Step f rc xs ys := by
  induction h with
  | nil => exact Step.rfl
  | atom d a _ ih => exact Step.append (xs := [.atom d a]) (ys := [.atom d a]) Step.rfl ih
  | node k _ _ ihb ih => exact Step.append (ihb.node k) ih
  | chain hc _ _ _ iha ih => exact Step.append (((hc.step hf).trans iha).wrap .chain rfl) ih

theorem ifElseBlock_step {β} {f : Option String × Atom → Option β} (hf : Good0 f) {rc : Nat → Nat}
    {fuel : Nat} {ss out : Block} (h : ifElseBlock rc fuel ss = .ok out) : Step f rc ss out :=
  (ifElseBlock_spec fuel ss out h).step hf

theorem IfElse.topOnly {rc xs ys} (h : IfElse rc xs ys) (htop : TopOnly xs) : TopOnly ys := by
  induction h with
  | nil => exact htop
  | atom d a _ ih =>
    intro k b hkb
    rcases List.mem_cons.mp hkb with hkb | hkb
    · cases hkb
    · exact ih (fun k b h => htop k b (List.mem_cons_of_mem _ h)) k b hkb
  | node k0 hb _ _ ih =>
    intro k b hkb
    rcases List.mem_cons.mp hkb with hkb | hkb
    · cases hkb
      exact intFree_of_fm (hb.step intView_good.toGood0).fm (htop k0 _ (List.mem_cons_self ..))
    · exact ih (fun k b h => htop k b (List.mem_cons_of_mem _ h)) k b hkb
  | @chain dE c arms arms' xs ys hc hint ha _ _ ih =>
    intro k b hkb
    rcases List.mem_cons.mp hkb with hkb | hkb
    · cases hkb
      refine intFree_of_fm ((hc.step intView_good.toGood0).trans (ha.step intView_good.toGood0)).fm ?_
      intro p hp
      obtain ⟨x, hx, hpx⟩ := mem_atomsL.mp hp
      cases x with
      | node k b => exact htop k b (List.mem_append_left _ hx) p hpx
      | atom d a =>
        simp only [atoms_atom, List.mem_singleton] at hpx
        subst hpx; exact hint d a hx
    · exact ih (fun k b h => htop k b (List.mem_append_right _ h)) k b hkb

theorem ifElseBlock_topOnly {rc : Nat → Nat} {fuel : Nat} {ss out : Block} (htop : TopOnly ss)
    (h : ifElseBlock rc fuel ss = .ok out) : TopOnly out :=
  (ifElseBlock_spec fuel ss out h).topOnly htop

end TruthModel.Decomp
