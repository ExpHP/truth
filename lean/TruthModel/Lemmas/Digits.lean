/- Base-256 digits and two's complement on `Nat` / `Int`: the arithmetic under the little-endian fields of
`Model/InstrIO`, `Model/Abi` and `Model/Pixels`, whose readers and writers are instances by unfolding. -/
namespace TruthModel.Digits

theorem toNat_ofNat_mod (n : Nat) : (UInt8.ofNat (n % 256)).toNat = n % 256 := by
  rw [UInt8.toNat_ofNat']; exact Nat.mod_mod n 256

theorem digit_cons (a q : Nat) (ha : a < 256) : (a + 256 * q) % 256 = a ∧ (a + 256 * q) / 256 = q := by
  rw [Nat.add_mul_mod_self_left, Nat.add_mul_div_left _ _ (by decide), Nat.mod_eq_of_lt ha,
    Nat.div_eq_of_lt ha, Nat.zero_add]
  exact ⟨rfl, rfl⟩

theorem horner (a b c d : Nat) :
    a + 256 * (b + 256 * (c + 256 * d)) = a + 256 * b + 65536 * c + 16777216 * d := by
  simp only [Nat.mul_add, ← Nat.mul_assoc, Nat.add_assoc]

theorem div_65536 (n : Nat) : n / 65536 = n / 256 / 256 := by rw [Nat.div_div_eq_div_mul]

theorem div_16777216 (n : Nat) : n / 16777216 = n / 256 / 256 / 256 := by
  rw [Nat.div_div_eq_div_mul, Nat.div_div_eq_div_mul]

/-- the top digit is left unreduced, so no bound on `n` is needed; for two digits this is `Nat.mod_add_div n 256` -/
theorem digits4 (n : Nat) :
    n % 256 + 256 * (n / 256 % 256) + 65536 * (n / 65536 % 256) + 16777216 * (n / 16777216) = n := by
  rw [div_65536, div_16777216, ← horner, Nat.mod_add_div, Nat.mod_add_div, Nat.mod_add_div]

theorem twos_lt (bits : Nat) (i : Int) : (i % ((2 ^ bits : Nat) : Int)).toNat < 2 ^ bits := by
  have hpos : (0 : Int) < ((2 ^ bits : Nat) : Int) := Int.natCast_pos.mpr (Nat.pow_pos (by decide))
  exact (Int.toNat_lt (Int.emod_nonneg i (Int.ne_of_gt hpos))).mpr (Int.emod_lt_of_pos i hpos)

theorem emod_two_mul (v : Int) (H : Nat) (h1 : -(H : Int) ≤ v) (h2 : v < H) :
    v % ((2 * H : Nat) : Int) = if 0 ≤ v then v else v + ((2 * H : Nat) : Int) := by
  have hH : (H : Int) ≤ ((2 * H : Nat) : Int) := Int.ofNat_le.mpr (Nat.le_mul_of_pos_left H (by decide))
  split
  · exact Int.emod_eq_of_lt ‹_› (Int.lt_of_lt_of_le h2 hH)
  · rename_i hv
    have hlt := Int.add_lt_add_right (Int.not_le.mp hv) ((2 * H : Nat) : Int)
    rw [Int.zero_add] at hlt
    rw [← Int.add_emod_right]
    exact Int.emod_eq_of_lt (Int.add_left_neg (H : Int) ▸ Int.add_le_add h1 hH) hlt

theorem signed_twos (bits : Nat) (hb : 0 < bits) (i : Int)
    (h1 : -((2 ^ (bits - 1) : Nat) : Int) ≤ i) (h2 : i < ((2 ^ (bits - 1) : Nat) : Int))
    {n : Nat} (hn : (i % ((2 ^ bits : Nat) : Int)).toNat = n) :
    (if n < 2 ^ (bits - 1) then (n : Int) else (n : Int) - ((2 ^ bits : Nat) : Int)) = i := by
  subst hn
  rw [← Nat.two_pow_pred_mul_two hb, Nat.mul_comm, emod_two_mul i _ h1 h2]
  generalize 2 ^ (bits - 1) = H at h1 h2
  by_cases hi : 0 ≤ i
  · rw [if_pos hi, if_pos ((Int.toNat_lt hi).mpr h2)]; exact Int.toNat_of_nonneg hi
  · have hge : (H : Int) ≤ i + ((2 * H : Nat) : Int) := by
      have := Int.add_le_add_right h1 ((H : Int) + H)
      rwa [Int.neg_add_cancel_left, ← Int.natCast_add, ← Nat.two_mul] at this
    have hnn := Int.le_trans (Int.natCast_nonneg H) hge
    rw [if_neg hi, if_neg fun h => Int.not_lt.mpr hge ((Int.toNat_lt hnn).mp h), Int.toNat_of_nonneg hnn,
      Int.add_sub_cancel]

theorem digits4_lt (n : Nat) (h : n < 2 ^ 32) :
    n % 256 + 256 * (n / 256 % 256) + 65536 * (n / 65536 % 256) + 16777216 * (n / 16777216 % 256) = n := by
  rw [Nat.mod_eq_of_lt (Nat.div_lt_of_lt_mul h : n / 16777216 < 256)]
  exact digits4 n

end TruthModel.Digits
