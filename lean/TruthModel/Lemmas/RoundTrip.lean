import TruthModel.Model.RoundTrip
import TruthModel.Props.C12
import TruthModel.Props.C13
import TruthModel.Props.C14
import TruthModel.Props.C18
/-
Lemmas for C01 (`Props/C01.lean`).  The round trip goes through three closed forms: a canonical script
is the list of its `Item`s (instruction, printed call, difficulty label: `items_of_canon`), `build` of
the statements emitted for them is `codeFrom` (`emit_build`: times and labels, C13), and the three
passes of `Offsets.lowerTail` on `codeFrom` give the instructions back (`passes`: sizes, C18).  Of
C12 only `decLoop_spec` is used (what decoded arguments look like), not the round trip of the codec:
`canonInstr` asks that the decoded arguments encode to the blob they came from.
The label table is a parameter throughout (`LabEnv`, `JumpOk`, `InstrFacts`, `PassesTo`); `C01.lower_raise_flat`
instantiates it with `tblFrom ..`, for which `jumps_ok` supplies the lookups and `passes` shows it is the table the
dummy pass records.  Of C13 and C18 only the lemmas about one boundary / one instruction are used: `emitFrom` is not
`Time.raiseFrom`, and the script-level theorems of C18 assume that `lowerTail` succeeded, which `passes` has to show.
-/
namespace TruthModel.RoundTrip
open TruthModel TruthModel.Abi TruthModel.Offsets TruthModel.C18

theorem toString_toList (n : Nat) : (toString n).toList = Nat.toDigits 10 n := by
  show (Nat.repr n).toList = _
  exact Nat.toList_repr

theorem digits_inj (a b : Nat) (h : Nat.toDigits 10 a = Nat.toDigits 10 b) : a = b := by
  have := congrArg (fun l => Nat.ofDigitChars 10 l 0) h
  simpa [Nat.ofDigitChars_ten_toDigits] using this

def pre : List Char := ['l','a','b','e','l','_']

theorem pre_toList : "label_".toList = pre := by decide +kernel

theorem r_toList : "r".toList = ['r'] := by decide +kernel

theorem start_toList : "label_startr".toList = pre ++ ['s','t','a','r','t','r'] := by decide +kernel

theorem name_dest_toList (a : Nat) : ("label_" ++ toString a).toList = pre ++ Nat.toDigits 10 a := by
  rw [String.toList_append, toString_toList, pre_toList]

theorem name_before_toList (a : Nat) : ("label_" ++ toString a ++ "r").toList = pre ++ Nat.toDigits 10 a ++ ['r'] := by
  rw [String.toList_append, name_dest_toList, r_toList]

theorem not_mem_digits {c : Char} (hc : c.isDigit = false) (a : Nat) : c ∉ Nat.toDigits 10 a :=
  fun h => Bool.false_ne_true (hc.symm.trans (Nat.isDigit_of_mem_toDigits (by decide) (by decide) h))

theorem dest_inj (a b : Nat) (h : "label_" ++ toString a = "label_" ++ toString b) : a = b := by
  have := congrArg String.toList h
  rw [name_dest_toList, name_dest_toList] at this
  exact digits_inj a b (List.append_cancel_left this)

theorem before_inj (a b : Nat) (h : "label_" ++ toString a ++ "r" = "label_" ++ toString b ++ "r") : a = b := by
  have := congrArg String.toList h
  rw [name_before_toList, name_before_toList] at this
  have h2 := List.append_cancel_right this
  exact digits_inj a b (List.append_cancel_left h2)

theorem dest_ne_before (a b : Nat) : "label_" ++ toString a ≠ "label_" ++ toString b ++ "r" := by
  intro h
  have := congrArg String.toList h
  rw [name_dest_toList, name_before_toList, List.append_assoc] at this
  have h2 := List.append_cancel_left this
  exact not_mem_digits (c := 'r') rfl a (h2 ▸ List.mem_append_right _ List.mem_cons_self)

theorem start_ne_dest (a : Nat) : "label_startr" ≠ "label_" ++ toString a := by
  intro h
  have := congrArg String.toList h
  rw [name_dest_toList, start_toList] at this
  exact not_mem_digits (c := 's') rfl a (List.append_cancel_left this ▸ List.mem_cons_self)

theorem start_ne_before (a : Nat) : "label_startr" ≠ "label_" ++ toString a ++ "r" := by
  intro h
  have := congrArg String.toList h
  rw [name_before_toList, start_toList, List.append_assoc] at this
  have hs : 's' ∈ Nat.toDigits 10 a ++ ['r'] := List.append_cancel_left this ▸ List.mem_cons_self
  rcases List.mem_append.mp hs with hs | hs
  · exact not_mem_digits rfl a hs
  · exact absurd (List.mem_singleton.mp hs) (by decide)

theorem boundaries_length (hdr : Nat) (is : List RawInstr) : (boundaries hdr is).length = is.length + 1 := by
  simp [boundaries, offsetsFrom_length]

theorem boundaries_nodup (hdr : Nat) (h : 0 < hdr) (is : List RawInstr) : (boundaries hdr is).Nodup := by
  -- every instruction has a positive size, so the boundaries increase
  refine (offsetsFrom_pairwise _ (fun s hs => ?_) _).imp Nat.ne_of_lt
  simp only [List.mem_map] at hs
  obtain ⟨i, _, rfl⟩ := hs
  exact Nat.lt_of_lt_of_le h (Nat.le_add_right _ _)

theorem decodeInstr_ok {abi : Abi} {i : RawInstr} {full : List Arg} {a0 : Option Int} {w : List String}
    (h : decodeInstr abi i = .ok ((full, a0), w)) :
    ∃ o, decLoop abi i.blob i.mask i.extra = .ok o ∧ o.args = full ∧ o.arg0 = a0 ∧
      w = o.warnings ++ (if o.rest.isEmpty then [] else [leftoverMsg]) ++ (if o.mask != 0 then [unusedMaskMsg] else []) := by
  revert h
  fun_cases decodeInstr abi i with
  | case1 o ho => intro h; cases h; exact ⟨o, ho, rfl, rfl, rfl⟩
  | _ => exact nofun

theorem decodeArgs_iff_decodeInstr {abi : Abi} {i : RawInstr} {full : List Arg} {w : List String} :
    decodeArgs abi ⟨i.blob, i.mask, i.extra⟩ = .ok (full, w) ↔ ∃ a0, decodeInstr abi i = .ok ((full, a0), w) := by
  simp only [decodeArgs, decodeInstr]
  cases decLoop abi i.blob i.mask i.extra with
  | ok o => exact ⟨fun h => ⟨o.arg0, by cases h; rfl⟩, fun ⟨_, h⟩ => by cases h; rfl⟩
  | err c => exact ⟨nofun, nofun⟩
  | panic p => exact ⟨nofun, nofun⟩

theorem decodeInstr_wf (abi : Abi) (i : RawInstr) (full : List Arg) (a0 : Option Int) (w : List String)
    (h : decodeInstr abi i = .ok ((full, a0), w)) : argsWF abi full = true := by
  obtain ⟨o, ho, rfl, _⟩ := decodeInstr_ok h
  exact (C12.decLoop_spec ho).1

/-- the decoder hands the header field on as `pseudo_arg0` unless a parameter takes it -/
theorem decodeInstr_arg0 {abi : Abi} {i : RawInstr} {full : List Arg} {a0 : Option Int} {w : List String}
    (h : decodeInstr abi i = .ok ((full, a0), w)) : a0 = if abi.any Enc.isArg0 then none else i.extra := by
  obtain ⟨o, ho, _, rfl, _⟩ := decodeInstr_ok h
  exact (C12.decLoop_spec ho).2.2

theorem any_isArg0_of_head {abi : Abi} (hh : headIsArg0 abi = true) : abi.any Enc.isArg0 = true := by
  cases abi with
  | nil => cases hh
  | cons e es => exact (Bool.or_eq_true _ _).mpr (.inl hh)

theorem checkCall_iff {abi : Abi} {args : List Arg} :
    checkCall abi args = .ok () ↔ args.length = (abi.filter Enc.contributes).length ∧
      checkTypes (abi.filter Enc.contributes) args = .ok () ∧ checkConst (abi.filter Enc.contributes) args = .ok () := by
  refine ⟨?_, fun ⟨h1, h2, h3⟩ => by simp [checkCall, h1, h2, h3]⟩
  fun_cases checkCall abi args with
  | case1 => exact nofun
  | case2 _ hlen ht => exact fun hc => ⟨by simpa using hlen, ht, hc⟩
  | case3 _ _ hno => exact fun ht => absurd ht hno

theorem argWF_checks {e : Enc} {a : Arg} (hwf : argWF e a = true) (hna : e.isArg0 = false) :
    (a.ty == e.ty) = true ∧ (!e.regOk && a.isReg) = false := by
  cases a with
  | int v r =>
    cases e with
    | int iw s z imm =>
      cases z with
      | true => cases hna
      | false => exact ⟨rfl, rfl⟩
    | jumpOffset | jumpTime =>
      cases r with
      | false => exact ⟨rfl, rfl⟩
      | true => rw [argWF, Bool.not_true, Bool.and_false] at hwf; cases hwf
    | padding w =>
      cases r with
      | false => exact ⟨rfl, rfl⟩
      | true => cases hwf
    | _ => cases hwf
  | float b r =>
    cases e with
    | float imm => exact ⟨rfl, rfl⟩
    | _ => cases hwf
  | str s =>
    cases e with
    | str sz m f => exact ⟨rfl, rfl⟩
    | _ => cases hwf

theorem checkCall_of_wf (abi : Abi) (full : List Arg) (h : argsWF abi full = true) (hna : noArg0 abi = true) :
    checkCall abi (dropPadding abi full) = .ok () := by
  refine checkCall_iff.mpr ?_
  fun_induction argsWF abi full with
  | case1 => exact ⟨rfl, rfl, rfl⟩
  | case2 e es a as ih =>
    simp only [Bool.and_eq_true] at h
    simp only [noArg0, List.all_cons, Bool.and_eq_true, Bool.not_eq_true'] at hna
    obtain ⟨i1, i2, i3⟩ := ih h.2 hna.2
    by_cases hp : e.isPadding = true
    · simp only [dropPadding, hp, if_true, List.filter_cons, Enc.contributes, Bool.not_true, Bool.false_eq_true, if_false]
      exact ⟨i1, i2, i3⟩
    · have hp' : e.isPadding = false := Bool.eq_false_iff.mpr hp
      obtain ⟨c1, c2⟩ := argWF_checks h.1 hna.1
      simp only [dropPadding, hp', Bool.false_eq_true, if_false, List.filter_cons, Enc.contributes, Bool.not_false, if_true,
        List.length_cons, i1, checkTypes, checkConst, c1, c2, i2, i3, and_self]
  | case3 => cases h

structure HeaderOk (L : Lang) (i : RawInstr) : Prop where
  time : i32Range i.time = true
  difficulty : i.difficulty < 256
  mask : i.mask < 65536
  extra : (match i.extra with | some v => fitsInt .w2 true v | none => true) = true
  diff : i.difficulty = defaultDifficulty ∨ L.diffAllowed = true

theorem wfInstr_ok {L : Lang} {i : RawInstr} (h : wfInstr L i = true) : HeaderOk L i := by
  simp only [wfInstr, Bool.and_eq_true, decide_eq_true_eq, Bool.or_eq_true] at h
  exact ⟨h.1.1.1.1, h.1.1.1.2, h.1.1.2, h.1.2, h.2⟩

theorem canonInstr_ok {L : Lang} {a : Bool} {st st' : EncState} {i : RawInstr} (h : canonInstr L a st i = some st') :
    wfInstr L i = true ∧
    match effSig L a i.opcode with
    | none => st' = st ∧ i.blob.length % 4 = 0
    | some abi => ∃ full a0 raw w, decodeInstr abi i = .ok ((full, a0), []) ∧ nonzeroPadding abi full = false ∧
      floatRegsOk L (dropPadding abi full) = true ∧ checkCall abi (dropPadding abi full) = .ok () ∧
      encodeArgs L.hasRegs st abi (dropPadding abi full) = .ok (raw, w, st') ∧ raw.blob = i.blob ∧ raw.mask = i.mask ∧
      arg0After (pseudoArg0 a0) raw.arg0 = i.extra := by
  revert h
  fun_cases canonInstr L a st i with
  | case2 hwf hs hb => intro h; cases h; rw [hs]; exact ⟨by simpa using hwf, rfl, hb⟩
  | case6 hwf abi hs full a0 hdec args hnz hfr hcc raw w st1 henc hall =>
    intro h; cases h; rw [hs]
    exact ⟨by simpa using hwf, full, a0, raw, w, hdec, Bool.eq_false_iff.mpr hnz, by simpa using hfr, hcc, henc, hall⟩
  | _ => exact nofun

def floatRegOk (L : Lang) (a : Arg) : Bool :=
  match a with
  | .float b true => (match L.fr.toReg b with | some r => L.fr.ofReg r == b | none => false)
  | _ => true

theorem floatRegsOk_cons (L : Lang) (a : Arg) (as : List Arg) :
    floatRegsOk L (a :: as) = (floatRegOk L a && floatRegsOk L as) := by
  simp only [floatRegsOk, List.all_cons, floatRegOk]
  cases a with
  | float b r => cases r <;> rfl
  | _ => rfl

theorem floatRegOk_spec (L : Lang) (a : Arg) (h : floatRegOk L a = true) :
    ∀ b, a = .float b true → ∃ r, L.fr.toReg b = some r ∧ L.fr.ofReg r = b := by
  intro b hb
  subst hb
  simp only [floatRegOk] at h
  cases hr : L.fr.toReg b with
  | none => rw [hr] at h; cases h
  | some r => rw [hr] at h; exact ⟨r, rfl, eq_of_beq h⟩

theorem jumpOffsetArg_of_mem : ∀ (es : Abi) (as : List Arg), countO es ≤ 1 → ∀ v r,
    (Enc.jumpOffset, Arg.int v r) ∈ es.zip as → jumpOffsetArg es as = some v := by
  intro es
  induction es with
  | nil => intro as _ v r hm; cases hm
  | cons e es ih =>
    intro as hc v r hm
    cases as with
    | nil => cases hm
    | cons a as =>
      rcases List.mem_cons.mp hm with heq | hm
      · cases heq; rfl
      · -- another `o` parameter further on: `e` is none, and the search goes on
        have hpos : 0 < countO es :=
          List.length_pos_of_mem (List.mem_filter.mpr ⟨(List.of_mem_zip hm).1, beq_self_eq_true _⟩)
        have hne : (e == Enc.jumpOffset) = false := by
          cases he : e == Enc.jumpOffset with
          | false => rfl
          | true =>
            simp only [countO, List.filter_cons, he, if_true, List.length_cons] at hc hpos
            exact absurd (Nat.le_of_succ_le_succ hc) (Nat.not_le.mpr hpos)
        have hc' : countO es ≤ 1 := by simpa only [countO, List.filter_cons, hne, Bool.false_eq_true, if_false] using hc
        rw [← ih as hc' v r hm]
        cases e <;> first | rfl | cases hne

theorem int32_roundtrip (v : Int) (h : i32Range v = true) : (Int32.ofInt v).toInt = v := by
  simp only [i32Range, Bool.and_eq_true, decide_eq_true_eq] at h
  exact Int32.toInt_ofInt_of_le h.1 h.2

/-- the table resolves the destination label `lab` (name, time) of the instruction at offset `cur`: `encode_label` of the
recorded offset is the value `jo` of the `o` parameter, the recorded time is the label's -/
structure LabEnv (mode : LabelMode) (tbl : List LabelInfo) (cur : Nat) (lab : Option String × Option Int32) (jo : Option Int) : Prop where
  off : ∀ v, jo = some v → ∃ n info, lab.1 = some n ∧ lookupLabel tbl n = some info ∧ encodeLabel mode cur info.offset = .ok v
  time : ∀ n t, lab = (some n, some t) → ∃ info, lookupLabel tbl n = some info ∧ info.time = t.toInt

/-- raising one decoded argument and lowering it again (`classify_expr`, `encode_labels`) gives the argument back;
the call checks see its type and register flag -/
theorem raiseArg_lower (L : Lang) {mode : LabelMode} {tbl : List LabelInfo} {cur : Nat} {lab : Option String × Option Int32}
    {jo : Option Int} (henv : LabEnv mode tbl cur lab jo) (e : Enc) (a : Arg)
    (hwf : argWF e a = true)
    (hfr : floatRegOk L a = true)
    (hjo : e = .jumpOffset → ∀ v r, a = .int v r → jo = some v) :
    ∃ x, raiseArg L lab e a = .ok (x, []) ∧ (argShape L x).ty = a.ty ∧ (argShape L x).isReg = a.isReg ∧
      encodeLabelArg mode tbl cur (toLArg L x) = .ok (.raw a) := by
  cases a with
  | int v r =>
    cases r with
    | true => exact ⟨.reg v false, rfl, rfl, rfl, rfl⟩
    | false =>
      cases e with
      | jumpOffset =>
        obtain ⟨n, info, hn, hi, henc⟩ := henv.off v (hjo rfl v false rfl)
        obtain ⟨n', t⟩ := lab
        cases hn
        exact ⟨.offsetof n, rfl, rfl, rfl, by simp only [toLArg, encodeLabelArg, hi, henc]⟩
      | jumpTime =>
        -- `timeof(label)` exactly when the value is the time of the destination label
        obtain ⟨n, t⟩ := lab
        cases n with
        | none => exact ⟨.int v, rfl, rfl, rfl, rfl⟩
        | some n =>
          cases t with
          | none => exact ⟨.int v, rfl, rfl, rfl, rfl⟩
          | some t =>
            by_cases ht : t = Int32.ofInt v
            · obtain ⟨info, hi, hit⟩ := henv.time n t rfl
              refine ⟨.timeof n, congrArg (fun x => Outcome.ok (x, [])) (if_pos ht), rfl, rfl, ?_⟩
              simp only [toLArg, encodeLabelArg, hi, hit, ht, int32_roundtrip v (Bool.and_eq_true _ _ |>.mp hwf).1]
            · exact ⟨.int v, congrArg (fun x => Outcome.ok (x, [])) (if_neg ht), rfl, rfl, rfl⟩
      | _ => exact ⟨.int v, rfl, rfl, rfl, rfl⟩
  | float b r =>
    cases r with
    | true =>
      obtain ⟨rg, h1, h2⟩ := floatRegOk_spec L _ hfr b rfl
      exact ⟨.reg rg true, by simp only [raiseArg, Arg.isReg, if_true, raiseReg, h1], rfl, rfl, by simp only [toLArg, encodeLabelArg, h2]⟩
    | false => cases e <;> exact ⟨.float b, rfl, rfl, rfl, rfl⟩
  | str s => cases e <;> exact ⟨.str s, rfl, rfl, rfl, rfl⟩

theorem raiseArgs_lower (L : Lang) {mode : LabelMode} {tbl : List LabelInfo} {cur : Nat} {lab : Option String × Option Int32}
    {jo : Option Int} (henv : LabEnv mode tbl cur lab jo) : ∀ (es : Abi) (as : List Arg),
    argsWF es as = true → floatRegsOk L (dropPadding es as) = true →
    (∀ v r, (Enc.jumpOffset, Arg.int v r) ∈ es.zip as → jo = some v) →
    ∃ xs, raiseArgs L lab es as = .ok (xs, []) ∧
      All2 (fun s a => s.ty = a.ty ∧ s.isReg = a.isReg) (xs.map (argShape L)) (dropPadding es as) ∧
      encodeLabelArgs mode tbl cur (xs.map (toLArg L)) = .ok ((dropPadding es as).map .raw) := by
  intro es
  induction es with
  | nil =>
    intro as hwf _ _
    cases as with
    | nil => exact ⟨[], rfl, .nil, rfl⟩
    | cons a as => cases hwf
  | cons e es ih =>
    intro as hwf hfr hjo
    cases as with
    | nil => cases hwf
    | cons a as =>
      simp only [argsWF, Bool.and_eq_true] at hwf
      have hjo' : ∀ v r, (Enc.jumpOffset, Arg.int v r) ∈ es.zip as → jo = some v :=
        fun v r hm => hjo v r (List.mem_cons_of_mem _ hm)
      by_cases hp : e.isPadding = true
      · simp only [dropPadding, hp, if_true] at hfr ⊢
        obtain ⟨xs, h1, h2⟩ := ih as hwf.2 hfr hjo'
        exact ⟨xs, by simp only [raiseArgs, hp, if_true, h1], h2⟩
      · have hp' : e.isPadding = false := Bool.eq_false_iff.mpr hp
        simp only [dropPadding, hp', Bool.false_eq_true, if_false, floatRegsOk_cons, Bool.and_eq_true] at hfr ⊢
        obtain ⟨x, hx1, hx2, hx3, hx4⟩ := raiseArg_lower L henv e a hwf.1 hfr.1
          (fun he v r ha => hjo v r (he ▸ ha ▸ List.mem_cons_self))
        obtain ⟨xs, h1, h2, h3⟩ := ih as hwf.2 hfr.2 hjo'
        exact ⟨x :: xs, by simp [raiseArgs, hp', hx1, h1], .cons ⟨hx2, hx3⟩ h2, by simp only [List.map_cons, encodeLabelArgs, hx4, h3]⟩

theorem checkTypes_shape : ∀ (ps : Abi) (ss as : List Arg), All2 (fun s a => s.ty = a.ty ∧ s.isReg = a.isReg) ss as →
    checkTypes ps ss = checkTypes ps as ∧ checkConst ps ss = checkConst ps as := by
  intro ps
  induction ps with
  | nil => intro ss as h; cases h <;> simp [checkTypes, checkConst]
  | cons p ps ih =>
    intro ss as h
    cases h with
    | nil => simp [checkTypes, checkConst]
    | cons hh ht =>
      obtain ⟨i1, i2⟩ := ih _ _ ht
      simp only [checkTypes, checkConst, hh.1, hh.2, i1, i2, and_self]

theorem expectRawAll_raw (as : List Arg) : expectRawAll (as.map LArg.raw) = .ok as := by
  induction as with
  | nil => rfl
  | cons a as ih => simp [expectRawAll, expectRaw, ih]

theorem encodeLabel_decode (mode : LabelMode) (cur : Nat) (v : Int) (offs : List Nat) (hr : i32Range v = true)
    (hk : destIdx offs (decodeLabel mode cur v) < offs.length) :
    encodeLabel mode cur (offs.getD (destIdx offs (decodeLabel mode cur v)) 0) = .ok v := by
  unfold destIdx at hk ⊢
  by_cases hd : decodeLabel mode cur v < 0
  · rw [if_pos hd] at hk; exact absurd hk (Nat.lt_irrefl _)
  · rw [if_neg hd] at hk ⊢
    rw [← List.getElem_eq_getD (h := hk), List.getElem_idxOf hk]
    have hj : toSigned 4 (wrapTo 4 v % 256 ^ 4) = v := by
      rw [Nat.mod_eq_of_lt (wrapTo_lt 4 v)]
      exact i32_roundtrip v hr
    cases mode with
    | absolute => exact congrArg Outcome.ok hj
    | relative =>
      simp only [decodeLabel, encodeLabel, Outcome.ok.injEq] at hd ⊢
      rw [Int.toNat_of_nonneg (Int.not_lt.mp hd), Int.add_comm, Int.add_sub_cancel, ← Nat.mod_eq_of_lt (wrapTo_lt 4 v), hj]
    | index20 =>
      simp only [decodeLabel, encodeLabel, Int.toNat_natCast, Outcome.ok.injEq, Nat.mul_div_cancel _ (Nat.succ_pos 19)]
      exact hj

theorem labelName_inj (offs : List Nat) (hnd : offs.Nodup) (n1 n2 : Time.LabelName)
    (h1 : C13.nameIdx n1 < offs.length) (h2 : C13.nameIdx n2 < offs.length) (h : labelName offs n1 = labelName offs n2) : n1 = n2 := by
  cases n1 with
  | dest k1 =>
    cases n2 with
    | dest k2 =>
      have := dest_inj _ _ h
      rw [← List.getElem_eq_getD (i := k1) (h := h1), ← List.getElem_eq_getD (i := k2) (h := h2)] at this
      rw [(List.getElem_inj hnd).mp this]
    | before k2 => exact absurd h (dest_ne_before _ _)
    | start => exact absurd h.symm (start_ne_dest _)
  | before k1 =>
    cases n2 with
    | dest k2 => exact absurd h.symm (dest_ne_before _ _)
    | before k2 =>
      have := before_inj _ _ h
      rw [← List.getElem_eq_getD (i := k1) (h := Nat.lt_of_succ_lt h1), ← List.getElem_eq_getD (i := k2) (h := Nat.lt_of_succ_lt h2)] at this
      rw [(List.getElem_inj hnd).mp this]
    | start => exact absurd h.symm (start_ne_before _)
  | start =>
    cases n2 with
    | dest k2 => exact absurd h (start_ne_dest _)
    | before k2 => exact absurd h (start_ne_before _)
    | start => rfl

theorem labelNames_distinct (offs : List Nat) (hnd : offs.Nodup) (ris : List Time.RInstr) (k1 k2 : Nat) (l1 l2 : Time.Label)
    (hk1 : k1 < offs.length) (hk2 : k2 < offs.length) (hne : k1 ≠ k2)
    (h1 : Time.labelFor ris k1 = some l1) (h2 : Time.labelFor ris k2 = some l2) :
    labelName offs l1.name ≠ labelName offs l2.name := by
  intro h
  have := labelName_inj offs hnd _ _ ((C13.labelFor_nameIdx ris k1 l1 h1).symm ▸ hk1) ((C13.labelFor_nameIdx ris k2 l2 h2).symm ▸ hk2) h
  exact hne (C13.label_names ris k1 k2 l1 l2 h1 h2 this)

/-- the table entry of boundary `k`: its label, if it has one, at offset `offs[k]` -/
def labInfos (offs : List Nat) (ris : List Time.RInstr) (k : Nat) : List LabelInfo :=
  match Time.labelFor ris k with
  | some l => [⟨labelName offs l.name, offs.getD k 0, l.time.toInt⟩]
  | none => []

/-- labels of the boundaries `k, k+1, .., k+m-1` in order -/
def tblFrom (offs : List Nat) (ris : List Time.RInstr) : Nat → Nat → List LabelInfo
  | _, 0 => []
  | k, m + 1 => labInfos offs ris k ++ tblFrom offs ris (k + 1) m

theorem lookup_tblFrom (offs : List Nat) (hnd : offs.Nodup) (ris : List Time.RInstr) : ∀ (m k kd : Nat) (l : Time.Label),
    k ≤ kd → kd < k + m → k + m ≤ offs.length → Time.labelFor ris kd = some l →
    lookupLabel (tblFrom offs ris k m) (labelName offs l.name) = some ⟨labelName offs l.name, offs.getD kd 0, l.time.toInt⟩ := by
  intro m
  induction m with
  | zero => intro k kd l h1 h2; exact absurd h2 (Nat.not_lt.mpr h1)
  | succ m ih =>
    intro k kd l h1 h2 h3 hl
    show ((labInfos offs ris k ++ tblFrom offs ris (k + 1) m).find? _) = _
    rw [List.find?_append]
    rcases Nat.eq_or_lt_of_le h1 with rfl | hlt
    · simp only [labInfos, hl, List.find?_cons, beq_self_eq_true, Option.some_or]
    · have hkd : kd < offs.length := Nat.lt_of_lt_of_le h2 h3
      have ih' := ih (k + 1) kd l hlt (Nat.add_right_comm k m 1 ▸ h2) (Nat.add_right_comm k m 1 ▸ h3) hl
      have hnone : (labInfos offs ris k).find? (fun x => x.name == labelName offs l.name) = none := by
        simp only [labInfos]
        cases hk1 : Time.labelFor ris k with
        | none => rfl
        | some l1 =>
          have hne := labelNames_distinct offs hnd ris k kd l1 l (Nat.lt_trans hlt hkd) hkd (Nat.ne_of_lt hlt) hk1 hl
          simp only [List.find?_cons, beq_eq_false_iff_ne.mpr hne, List.find?_nil]
      rw [hnone, Option.none_or]
      exact ih'

/-- `EarlyRaiseInstr` of a canonical instruction, as a function -/
def earlyOf (L : Lang) (a : Bool) (off : Nat) (i : RawInstr) : Early :=
  match effSig L a i.opcode with
  | none => ⟨i, off, none, i.extra⟩
  | some abi =>
    match decodeInstr abi i with
    | .ok ((args, a0), _) => ⟨i, off, some (abi, args), a0⟩
    | _ => ⟨i, off, none, i.extra⟩

theorem jumpOffsetArg_range (es : Abi) (as : List Arg) (v : Int) (hwf : argsWF es as = true)
    (h : jumpOffsetArg es as = some v) : i32Range v = true := by
  fun_induction jumpOffsetArg es as with
  | case1 es x r as =>
    cases h
    simp only [argsWF, argWF, Bool.and_eq_true] at hwf
    exact hwf.1.1
  | case2 e es a as _ ih =>
    simp only [argsWF, Bool.and_eq_true] at hwf
    exact ih hwf.2 h
  | case3 => cases h

/-- the label printed for a mask parses back to it; a format without difficulties only ever sees
the default mask, which is printed as no label -/
theorem diff_roundtrip (L : Lang) (hinv : C14.Inv L.defs) (dn : Nat) (h : dn < 256)
    (hallow : dn = defaultDifficulty ∨ L.diffAllowed = true) :
    ∃ d, diffLabel L dn = .ok d ∧ (∀ c : FCall, diffMask L { c with diff := d } = .ok dn) ∧
      (∀ c : FCall, L.diffAllowed = true → diffCheck L { c with diff := d } = .ok ()) ∧
      (∀ c : FCall, L.diffAllowed = false → forbidDiff { c with diff := d } = .ok ()) := by
  have key : ∃ d, diffLabel L dn = .ok d ∧ (∀ c : FCall, diffMask L { c with diff := d } = .ok dn) ∧
      (dn = defaultDifficulty → d = none) := by
    by_cases hd : dn = defaultDifficulty
    · exact ⟨none, by simp [diffLabel, hd], by intro c; simp [diffMask, hd], fun _ => rfl⟩
    · obtain ⟨s, hs1, hs2⟩ := C14.label_parse L.defs hinv (BitVec.ofNat 8 dn)
      refine ⟨some s, by simp [diffLabel, hd, hs1], ?_, fun h => absurd h hd⟩
      intro c
      simp only [diffMask, hs2, BitVec.toNat_ofNat, Outcome.ok.injEq]
      exact Nat.mod_eq_of_lt h
  obtain ⟨d, h1, h2, h3⟩ := key
  refine ⟨d, h1, h2, fun c _ => by simp only [diffCheck, h2], fun c hda => ?_⟩
  have : dn = defaultDifficulty := by rcases hallow with h | h; exact h; rw [hda] at h; cases h
  rw [h3 this]; rfl

/-- an explicit `@arg0` is cut to an `i16`; that changes nothing when the resulting header field fits -/
theorem arg0After_trunc {x r e : Option Int} (hfit : (match e with | some v => fitsInt .w2 true v | none => true) = true)
    (h : arg0After x r = e) :
    arg0After (x.map fun v => toSigned 2 (wrapTo 2 v)) r = e := by
  cases x with
  | none => exact h
  | some v =>
    cases h
    exact congrArg some (arg0_roundtrip v hfit)

theorem instrReal_of_encodeLabels {mode : LabelMode} {tbl : List LabelInfo} {cur : Nat} {i real : LInstr}
    (h : encodeLabelsStmt mode tbl cur (.instr i) = .ok (.instr real)) : InstrReal i real := by
  obtain ⟨_, he, hi⟩ := (encodeLabelsStmt_real _ _ _ _ _ h).instr_inv
  cases he; exact hi

/-- what the round trip needs to know about the jump of one decoded instruction -/
def JumpOk (L : Lang) (offs : List Nat) (ris : List Time.RInstr) (tbl : List LabelInfo) (e : Early) : Prop :=
  ∀ kd tm, e.jump L.mode offs = some (kd, tm) → kd < offs.length ∧ ∃ l, Time.labelFor ris kd = some l ∧
    lookupLabel tbl (labelName offs l.name) = some ⟨labelName offs l.name, offs.getD kd 0, l.time.toInt⟩

/-- the call passes the checks `lowerFlat` makes before lowering -/
structure CallOk (L : Lang) (c : FCall) : Prop where
  diff : L.diffAllowed = true → diffCheck L c = .ok ()
  types : typeCheck L c = .ok ()
  consts : constCheck L c = .ok ()
  noDiff : L.diffAllowed = false → forbidDiff c = .ok ()
  blob : blobCheck c = .ok ()

/-- what the round trip needs of one instruction at offset `off`, encoded from furigana state `st` to `st'`: it raises
without warning to a call and a difficulty label that pass the checks of `lowerFlat`, and lowering that call
(`encode_labels`, `encode_args`, the `@mask` / `@arg0` overrides) gives `i` back -/
def InstrFacts (L : Lang) (a : Bool) (offs : List Nat) (ris : List Time.RInstr) (tbl : List LabelInfo)
    (st st' : EncState) (i : RawInstr) (off : Nat) : Prop :=
  ∃ (c : FCall) (d : Option (List Char)) (real : LInstr) (raw : RawInstr),
    raiseCall L offs ris (earlyOf L a off i) = .ok (c, []) ∧ diffLabel L i.difficulty = .ok d ∧ CallOk L { c with diff := d } ∧
    encodeLabelsStmt L.mode tbl off (.instr (mkInstr L (Int32.ofInt i.time) { c with diff := d })) = .ok (.instr real) ∧
    encodeInstr L.hasRegs st real = .ok (raw, st') ∧ patch1 (mkOvr { c with diff := d }) raw = i

/-- a canonical instruction with a signature: decode, raise (`raiseArgs_lower`), print the mask (`diff_roundtrip`), and the
lowered call is the decoded argument list again, which `canonInstr` says encodes to the instruction -/
theorem instr_known (L : Lang) (a : Bool) (offs : List Nat) (ris : List Time.RInstr) (tbl : List LabelInfo)
    (st st' : EncState) (i : RawInstr) (off : Nat) (abi : Abi)
    (hs : effSig L a i.opcode = some abi) (hv : validAbi abi = true) (hinv : C14.Inv L.defs)
    (hc : canonInstr L a st i = some st') (hj : JumpOk L offs ris tbl (earlyOf L a off i)) :
    InstrFacts L a offs ris tbl st st' i off := by
  have hc' := canonInstr_ok hc
  rw [hs] at hc'
  obtain ⟨hwf, full, a0, raw0, w0, hdec, hnz, hfr, hcc, henc, hblob, hmask, hextra⟩ := hc'
  have hsig : L.sig i.opcode = some abi := by
    simp only [effSig] at hs; split at hs
    · exact hs
    · cases hs
  obtain ⟨htime, hdiff, hmask16, hext, hdallow⟩ := wfInstr_ok hwf
  have hargs := decodeInstr_wf abi i full a0 [] hdec
  have he : earlyOf L a off i = ⟨i, off, some (abi, full), a0⟩ := by simp only [earlyOf, hs, hdec]
  -- the destination label of the instruction's jump: none without an `o` argument, else the label
  -- of a boundary, which the table knows with that boundary's offset and the label's time
  obtain ⟨lab, hlab, henv⟩ : ∃ lab, destLabel L.mode offs ris ⟨i, off, some (abi, full), a0⟩ = lab ∧
      LabEnv L.mode tbl off lab (jumpOffsetArg abi full) := by
    cases hv : jumpOffsetArg abi full with
    | none => exact ⟨(none, none), by simp only [destLabel, Early.jump, hv], nofun, nofun⟩
    | some v =>
      have hjmp : (earlyOf L a off i).jump L.mode offs =
          some (destIdx offs (decodeLabel L.mode off v), (jumpTimeArg abi full).map Int32.ofInt) := by
        simp only [he, Early.jump, hv]
      obtain ⟨hk, l, hl, hlook⟩ := hj _ _ hjmp
      rw [he] at hjmp
      refine ⟨(some (labelName offs l.name), some l.time), by simp only [destLabel, hjmp, hl], fun v' hv' => ?_, fun n t hnt => ?_⟩
      · cases hv'
        exact ⟨_, _, rfl, hlook, encodeLabel_decode L.mode off v offs (jumpOffsetArg_range abi full v hargs hv) hk⟩
      · cases hnt
        exact ⟨_, hlook, rfl⟩
  obtain ⟨xs, hxs, hshape, hlower⟩ := raiseArgs_lower L henv abi full hargs hfr (jumpOffsetArg_of_mem abi full (validAbi_countO hv))
  obtain ⟨d, hd1, hd2, hd3, hd4⟩ := diff_roundtrip L hinv i.difficulty hdiff hdallow
  let c : FCall := { opcode := i.opcode, arg0 := pseudoArg0 a0, args := xs }
  have hraise : raiseCall L offs ris (earlyOf L a off i) = .ok (c, []) := by
    simp [raiseCall, he, hlab, hxs, hnz, c]
  obtain ⟨hlen0, hcc2⟩ := checkCall_iff.mp hcc
  have hlen : xs.length = (abi.filter Enc.contributes).length :=
    (List.length_map _).symm.trans ((All2.length_eq hshape).trans hlen0)
  obtain ⟨ht1, ht2⟩ := checkTypes_shape (abi.filter Enc.contributes) _ _ hshape
  have hnoarg0 : (c.arg0.isSome && headIsArg0 abi) = false := by
    by_cases hh : headIsArg0 abi = true
    · have := decodeInstr_arg0 hdec
      rw [any_isArg0_of_head hh] at this
      simp [c, this, pseudoArg0]
    · simp [hh]
  have hli : mkInstr L (Int32.ofInt i.time) { c with diff := d } = ⟨i.time, i.opcode, i.difficulty, .known abi (xs.map (toLArg L))⟩ := by
    have h2 := hd2 { opcode := i.opcode, arg0 := pseudoArg0 a0, args := xs }
    simp only at h2
    have := hnoarg0; simp only [c] at this
    simp only [mkInstr, c, hsig, Option.getD_some, int32_roundtrip i.time htime, h2, this, Bool.false_eq_true, if_false]
  refine ⟨c, d, ⟨i.time, i.opcode, i.difficulty, .known abi ((dropPadding abi full).map .raw)⟩,
    ⟨i.time, i.opcode, raw0.mask, raw0.blob, i.difficulty, raw0.arg0⟩, hraise, hd1, ⟨hd3 c, ?_, ?_, hd4 c, rfl⟩, ?_, ?_, ?_⟩
  · simp [typeCheck, c, hsig, hlen, ht1, hcc2.1]
  · simp [constCheck, c, hsig, ht2, hcc2.2]
  · rw [hli]
    simp [encodeLabelsStmt, hlower]
  · simp [encodeInstr, expectRawAll_raw, henc]
  · simp only [patch1, mkOvr, c, Option.map_none, Option.getD_none, hblob, hmask]
    rw [arg0After_trunc hext hextra]

/-- a canonical instruction without a signature: an `@blob` call with `@mask` / `@arg0` where they are not the defaults -/
theorem instr_unknown (L : Lang) (a : Bool) (offs : List Nat) (ris : List Time.RInstr) (tbl : List LabelInfo)
    (st st' : EncState) (i : RawInstr) (off : Nat)
    (hs : effSig L a i.opcode = none) (hinv : C14.Inv L.defs)
    (hc : canonInstr L a st i = some st') :
    InstrFacts L a offs ris tbl st st' i off := by
  have hc' := canonInstr_ok hc
  rw [hs] at hc'
  obtain ⟨hwf, hst, hb⟩ := hc'
  subst hst
  obtain ⟨htime, hdiff, hmask16, hext, hdallow⟩ := wfInstr_ok hwf
  have he : earlyOf L a off i = ⟨i, off, none, i.extra⟩ := by simp [earlyOf, hs]
  obtain ⟨d, hd1, hd2, hd3, hd4⟩ := diff_roundtrip L hinv i.difficulty hdiff hdallow
  let c : FCall := { opcode := i.opcode, mask := if i.mask != 0 then some i.mask else none, arg0 := i.extra, blob := some i.blob }
  have h2 := hd2 c
  simp only [c] at h2
  have hli : mkInstr L (Int32.ofInt i.time) { c with diff := d } = ⟨i.time, i.opcode, i.difficulty, .unknown i.blob⟩ := by
    simp only [mkInstr, c, int32_roundtrip i.time htime, h2]
  refine ⟨c, d, ⟨i.time, i.opcode, i.difficulty, .unknown i.blob⟩, ⟨i.time, i.opcode, 0, i.blob, i.difficulty, none⟩,
    by rw [he]; rfl, hd1, ⟨hd3 c, rfl, rfl, hd4 c, by simp [blobCheck, c, hb]⟩, ?_, ?_, ?_⟩
  · rw [hli]; rfl
  · rfl
  · simp only [patch1, mkOvr, c]
    have hm : (Option.map (fun x => x % 65536) (if (i.mask != 0) = true then some i.mask else none)).getD 0 = i.mask := by
      by_cases h0 : i.mask = 0
      · simp [h0]
      · simp [h0, Nat.mod_eq_of_lt hmask16]
    rw [hm, arg0After_trunc hext (by cases i.extra <;> rfl)]

abbrev Item := RawInstr × FCall × Option (List Char)

def Item.li (L : Lang) (x : Item) : LInstr := mkInstr L (Int32.ofInt x.1.time) { x.2.1 with diff := x.2.2 }

def labStmts (offs : List Nat) (ris : List Time.RInstr) (k : Nat) : List LStmt :=
  (labInfos offs ris k).map fun info => .label info.time info.name

/-- what `build` makes of the statements `raiseFlat` emits from boundary `k` on -/
def codeFrom (L : Lang) (offs : List Nat) (ris : List Time.RInstr) : Nat → List Item → List LStmt
  | k, [] => labStmts offs ris k
  | k, x :: rest => labStmts offs ris k ++ .instr (x.li L) :: codeFrom L offs ris (k + 1) rest

def ovrFrom (items : List Item) : List Ovr := items.map fun x => mkOvr { x.2.1 with diff := x.2.2 }

/-- the facts of `InstrFacts` that the passes need, threaded through furigana states and offsets -/
def ItemsOk (L : Lang) (tbl : List LabelInfo) : EncState → Nat → List Item → Prop
  | _, _, [] => True
  | st, off, x :: rest =>
    ∃ (st' : EncState) (real : LInstr) (raw : RawInstr),
      InstrReal (x.li L) real ∧
      encodeLabelsStmt L.mode tbl off (.instr (x.li L)) = .ok (.instr real) ∧
      encodeInstr L.hasRegs st real = .ok (raw, st') ∧ patch1 (mkOvr { x.2.1 with diff := x.2.2 }) raw = x.1 ∧
      ItemsOk L tbl st' (off + instrSize L.hdr x.1) rest

theorem drop_cons_getD {l : List Nat} {k x : Nat} {t : List Nat} (h : l.drop k = x :: t) :
    l.getD k 0 = x ∧ l.drop (k + 1) = t ∧ k < l.length := by
  have hk : k < l.length := by
    by_cases hk : k < l.length
    · exact hk
    · rw [List.drop_eq_nil_of_le (Nat.le_of_not_lt hk)] at h; cases h
  refine ⟨?_, ?_, hk⟩
  · rw [List.getD_eq_getElem?_getD, ← Nat.add_zero k, ← List.getElem?_drop, h]; rfl
  · rw [← List.drop_drop, h]; rfl

/-- the three passes on a stream: the dummy pass from `(off, st, seen)` succeeds and records the
label table `T`, `encode_labels` with the table `tbl` succeeds, and the second pass from `st` gives
instructions which the overrides `ovr` turn into `is` -/
def PassesTo (L : Lang) (tbl : List LabelInfo) (off : Nat) (st : EncState) (seen : List String) (code : List LStmt)
    (T : List LabelInfo) (ovr : List Ovr) (is : List RawInstr) : Prop :=
  ∃ (g : Gather) (code' : List LStmt) (raws : List RawInstr),
    gatherAux L.hdr L.hasRegs off st seen code = .ok g ∧ g.labels = T ∧
    encodeLabelsAux L.mode tbl g.stmtOffsets code = .ok code' ∧
    secondPass L.hasRegs st code' = .ok raws ∧ patch ovr raws = is

theorem PassesTo.nil (L : Lang) (tbl : List LabelInfo) (off : Nat) (st : EncState) (seen : List String) :
    PassesTo L tbl off st seen [] [] [] [] :=
  ⟨⟨[], [], [], off⟩, [], [], rfl, rfl, rfl, rfl, rfl⟩

theorem PassesTo.label {L : Lang} {tbl : List LabelInfo} {off : Nat} {st : EncState} {seen : List String} {code : List LStmt}
    {T : List LabelInfo} {ovr : List Ovr} {is : List RawInstr} {n : String} (t : Int) (hn : n ∉ seen)
    (h : PassesTo L tbl off st (n :: seen) code T ovr is) :
    PassesTo L tbl off st seen (.label t n :: code) (⟨n, off, t⟩ :: T) ovr is := by
  obtain ⟨g, code', raws, hg, rfl, he, hs, hp⟩ := h
  have hc : seen.contains n = false := by simpa using hn
  refine ⟨{ g with stmtOffsets := off :: g.stmtOffsets, labels := ⟨n, off, t⟩ :: g.labels }, .label t n :: code', raws,
    ?_, rfl, ?_, hs, hp⟩
  · simp only [gatherAux, hc, Bool.false_eq_true, if_false, hg]
  · simp only [encodeLabelsAux, encodeLabelsStmt, he]

/-- the dummy has the size of the real thing, so the dummy pass goes on behind the real instruction -/
theorem PassesTo.instr {L : Lang} {tbl : List LabelInfo} {off : Nat} {st st' : EncState} {seen : List String}
    {code : List LStmt} {T : List LabelInfo} {ovr : List Ovr} {is : List RawInstr} {x real : LInstr} {raw : RawInstr}
    (o : Ovr) (hreal : InstrReal x real) (henc : encodeLabelsStmt L.mode tbl off (.instr x) = .ok (.instr real))
    (hsec : encodeInstr L.hasRegs st real = .ok (raw, st'))
    (h : PassesTo L tbl (off + instrSize L.hdr raw) st' seen code T ovr is) :
    PassesTo L tbl off st seen (.instr x :: code) T (o :: ovr) (patch1 o raw :: is) := by
  obtain ⟨g, code', raws, hg, rfl, he, hs, rfl⟩ := h
  obtain ⟨rawd, hdum, hlen, _⟩ := dummy_same_size L.hasRegs st x real raw st' hreal hsec
  have hsize : instrSize L.hdr rawd = instrSize L.hdr raw := by simp only [instrSize, hlen]
  refine ⟨{ g with stmtOffsets := off :: g.stmtOffsets, instrs := off :: g.instrs }, .instr real :: code', raw :: raws,
    ?_, rfl, ?_, ?_, rfl⟩
  · simp only [gatherAux, hdum, hsize, hg]
  · simp only [encodeLabelsAux, henc, he]
  · simp only [secondPass, hsec, hs]

theorem PassesTo.boundary {L : Lang} {tbl : List LabelInfo} {off : Nat} {st : EncState} {seen : List String} {code : List LStmt}
    {T : List LabelInfo} {ovr : List Ovr} {is : List RawInstr} {offs : List Nat} {ris : List Time.RInstr} {k : Nat}
    (hoff : offs.getD k 0 = off) (hfresh : ∀ l, Time.labelFor ris k = some l → labelName offs l.name ∉ seen)
    (h : PassesTo L tbl off st ((labInfos offs ris k).map (·.name) ++ seen) code T ovr is) :
    PassesTo L tbl off st seen (labStmts offs ris k ++ code) (labInfos offs ris k ++ T) ovr is := by
  simp only [labStmts, labInfos] at h ⊢
  cases hl : Time.labelFor ris k with
  | none => rwa [hl] at h
  | some l => rw [hl] at h; rw [hoff]; exact .label _ (hfresh l hl) h

/-- gather, encode_labels and the second pass on the stream, from boundary `k` on (the conclusion is
`PassesTo L tbl off st seen (codeFrom ..) (tblFrom ..) (ovrFrom items) (items.map (·.1))` written out) -/
theorem passes (L : Lang) (offs : List Nat) (hnd : offs.Nodup) (ris : List Time.RInstr) (tbl : List LabelInfo) :
    ∀ (items : List Item) (k off : Nat) (st : EncState) (seen : List String),
    offs.drop k = offsetsFrom off (items.map (fun x => instrSize L.hdr x.1) ++ [0]) →
    (∀ j l, k ≤ j → j < offs.length → Time.labelFor ris j = some l → labelName offs l.name ∉ seen) →
    ItemsOk L tbl st off items →
    ∃ (g : Gather) (code' : List LStmt) (raws : List RawInstr),
      gatherAux L.hdr L.hasRegs off st seen (codeFrom L offs ris k items) = .ok g ∧
      g.labels = tblFrom offs ris k (items.length + 1) ∧
      encodeLabelsAux L.mode tbl g.stmtOffsets (codeFrom L offs ris k items) = .ok code' ∧
      secondPass L.hasRegs st code' = .ok raws ∧ patch (ovrFrom items) raws = items.map (·.1) := by
  intro items
  induction items with
  | nil =>
    intro k off st seen hoffs hseen _
    obtain ⟨hoff, _, hk⟩ := drop_cons_getD hoffs
    have := PassesTo.boundary hoff (fun l => hseen k l (Nat.le_refl _) hk) (.nil L tbl off st _)
    rwa [List.append_nil] at this
  | cons x rest ih =>
    intro k off st seen hoffs hseen hok
    obtain ⟨hoff, hdrop, hk⟩ := drop_cons_getD hoffs
    obtain ⟨st', real, raw, hreal, henc, hsec, hpatch, hrest⟩ := hok
    refine PassesTo.boundary hoff (fun l => hseen k l (Nat.le_refl _) hk) ?_
    have hsz : instrSize L.hdr raw = instrSize L.hdr x.1 := by rw [← hpatch]; rfl
    -- the labels behind this boundary are new, also after the label of this one
    have hr : PassesTo L tbl (off + instrSize L.hdr raw) st' ((labInfos offs ris k).map (·.name) ++ seen)
        (codeFrom L offs ris (k + 1) rest) (tblFrom offs ris (k + 1) (rest.length + 1)) (ovrFrom rest) (rest.map (·.1)) :=
      hsz ▸ ih (k + 1) _ st' _ hdrop (fun j l2 hj hjl hlj => by
      simp only [labInfos, List.mem_append, not_or]
      refine ⟨?_, hseen j l2 (Nat.le_of_succ_le hj) hjl hlj⟩
      cases hl : Time.labelFor ris k with
      | none => exact List.not_mem_nil
      | some l =>
        exact fun hm => labelNames_distinct offs hnd ris j k l2 l hjl hk (Nat.ne_of_gt hj) hlj hl (List.mem_singleton.mp hm)) hrest
    have := PassesTo.instr (mkOvr { x.2.1 with diff := x.2.2 }) hreal henc hsec hr
    rwa [hpatch] at this

theorem build_labels (L : Lang) (offs : List Nat) : ∀ (os : List Time.Out) (t : Int32) (rest : List FlatStmt),
    Time.Out.instr ∉ os →
    build L t (os.filterMap (outToFlat offs) ++ rest) =
      (((Time.labelTimesFrom t os).map fun p => LStmt.label p.2.toInt (labelName offs p.1)) ++ (build L (os.foldl Time.stepOut t) rest).1,
       (build L (os.foldl Time.stepOut t) rest).2) := by
  intro os
  induction os with
  | nil => intro t rest _; simp [Time.labelTimesFrom]
  | cons o os ih =>
    intro t rest hni
    have hni' : Time.Out.instr ∉ os := fun h => hni (List.mem_cons_of_mem _ h)
    cases o with
    | label n =>
      simp only [List.filterMap_cons, outToFlat, List.cons_append, build, Time.labelTimesFrom, List.map_cons, List.foldl_cons, Time.stepOut]
      rw [ih t rest hni']
    | abs v =>
      simp only [List.filterMap_cons, outToFlat, List.cons_append, build, Time.labelTimesFrom, List.foldl_cons, Time.stepOut]
      exact ih v rest hni'
    | rel d =>
      simp only [List.filterMap_cons, outToFlat, List.cons_append, build, Time.labelTimesFrom, List.foldl_cons, Time.stepOut]
      exact ih (t + d) rest hni'
    | instr => exact absurd List.mem_cons_self hni

theorem firstErr_labels (f : FCall → Outcome Unit) (offs : List Nat) : ∀ (os : List Time.Out) (rest : List FlatStmt),
    firstErr f (os.filterMap (outToFlat offs) ++ rest) = firstErr f rest := by
  intro os
  induction os with
  | nil => intro rest; rfl
  | cons o os ih =>
    intro rest
    cases o <;> simp only [List.filterMap_cons, outToFlat, List.cons_append, firstErr] <;> exact ih rest

theorem emit_boundary (L : Lang) (offs : List Nat) (ris : List Time.RInstr) (k : Nat) (prev time : Int32)
    (hlab : ∀ l, Time.labelFor ris k = some l → l.time = prev ∨ l.time = time) :
    ∃ os, Time.emitLabels prev time (Time.labelFor ris k) = .ok os ∧
      (∀ rest, build L prev (os.filterMap (outToFlat offs) ++ rest) =
        (labStmts offs ris k ++ (build L time rest).1, (build L time rest).2)) ∧
      ∀ (f : FCall → Outcome Unit) rest, firstErr f (os.filterMap (outToFlat offs) ++ rest) = firstErr f rest := by
  obtain ⟨os, hos⟩ := C13.emitLabels_ok prev time (Time.labelFor ris k) hlab
  obtain ⟨hfold, hni, hlabs⟩ := C13.emitLabels_spec _ _ _ _ hos
  refine ⟨os, hos, fun rest => ?_, fun f rest => firstErr_labels f offs os rest⟩
  rw [build_labels L offs os prev rest hni, hfold, hlabs]
  simp only [labStmts, labInfos]
  cases Time.labelFor ris k <;> rfl

/-- the statements emitted for the instructions `rsuf` behind the prefix `rpre` of the script, started with the time in
front of boundary `rpre.length` (the induction needs the whole script `ris` for `labelFor` while it walks the suffix:
the device of `C13.raiseFrom_ok`) -/
theorem emit_build (L : Lang) (offs : List Nat) (ris : List Time.RInstr) :
    ∀ (items : List Item) (rpre rsuf : List Time.RInstr),
    ris = rpre ++ rsuf → rsuf.map (·.time) = items.map (fun x => Int32.ofInt x.1.time) →
    (∀ x ∈ items, diffLabel L x.1.difficulty = .ok x.2.2) →
    ∃ ss, emitFrom L offs ris (Time.prevTimeAt ris rpre.length) rpre.length (items.map fun x => (x.1, x.2.1)) = .ok ss ∧
      build L (Time.prevTimeAt ris rpre.length) ss = (codeFrom L offs ris rpre.length items, ovrFrom items) ∧
      ∀ f : FCall → Outcome Unit, (∀ x ∈ items, f { x.2.1 with diff := x.2.2 } = .ok ()) → firstErr f ss = .ok () := by
  intro items
  induction items with
  | nil =>
    intro rpre rsuf _ _ _
    -- the `End` pseudo-instruction takes the time of the end label, if there is one
    obtain ⟨os, hos, hb, hf⟩ := emit_boundary L offs ris rpre.length (Time.prevTimeAt ris rpre.length)
      (endTime ris (Time.labelFor ris rpre.length)) fun l hl => .inr (by rw [hl]; rfl)
    refine ⟨os.filterMap (outToFlat offs), by simp only [List.map_nil, emitFrom, hos], ?_, fun f _ => ?_⟩
    · have := hb []
      rw [List.append_nil] at this
      rw [this]
      simp only [build, codeFrom, ovrFrom, List.append_nil, List.map_nil]
    · have := hf f []
      rwa [List.append_nil] at this
  | cons x rest ih =>
    intro rpre rsuf hris htimes hdiff
    cases rsuf with
    | nil => cases htimes
    | cons r rsuf' =>
      simp only [List.map_cons, List.cons.injEq] at htimes
      obtain ⟨hrt, htimes'⟩ := htimes
      obtain ⟨ss', hem', hb', hf'⟩ := ih (rpre ++ [r]) rsuf' (by rw [hris, List.append_assoc]; rfl) htimes'
        (fun y hy => hdiff y (List.mem_cons_of_mem _ hy))
      rw [List.length_append, List.length_singleton, hris, C13.prevTimeAt_mid, ← hris, hrt] at hem' hb'
      obtain ⟨os, hos, hb, hf⟩ := emit_boundary L offs ris rpre.length (Time.prevTimeAt ris rpre.length) (Int32.ofInt x.1.time) (by
        intro l hl
        have := C13.labelFor_time ris rpre.length l hl
        rwa [hris, C13.timeAt_mid, ← hris, hrt] at this)
      refine ⟨os.filterMap (outToFlat offs) ++ .call { x.2.1 with diff := x.2.2 } :: ss', ?_, ?_, fun f hfx => ?_⟩
      · simp only [List.map_cons, emitFrom, hos, hdiff x List.mem_cons_self, hem']
      · rw [hb]
        simp only [build, hb', codeFrom, ovrFrom, List.map_cons, Item.li]
      · rw [hf]
        simp only [firstErr, hfx x List.mem_cons_self, seqU]
        exact hf' f (fun y hy => hfx y (List.mem_cons_of_mem _ hy))

def earlies (L : Lang) (a : Bool) : Nat → List RawInstr → List Early
  | _, [] => []
  | off, i :: rest => earlyOf L a off i :: earlies L a (off + instrSize L.hdr i) rest

theorem earlies_raw (L : Lang) (a : Bool) : ∀ (is : List RawInstr) (off : Nat), (earlies L a off is).map (·.raw) = is := by
  intro is
  induction is with
  | nil => intro off; rfl
  | cons i rest ih =>
    intro off
    simp only [earlies, List.map_cons, ih, List.cons.injEq, and_true]
    simp only [earlyOf]
    split
    · rfl
    · split <;> rfl

theorem earlies_length (L : Lang) (a : Bool) (is : List RawInstr) (off : Nat) : (earlies L a off is).length = is.length := by
  have := congrArg List.length (earlies_raw L a is off)
  simpa using this

theorem earlies_blob (L : Lang) : ∀ (is : List RawInstr) (off : Nat), ∀ e ∈ earlies L false off is, e.dec = none := by
  intro is
  induction is with
  | nil => intro off e he; cases he
  | cons i rest ih =>
    intro off e he
    simp only [earlies, List.mem_cons] at he
    rcases he with he | he
    · subst he; simp [earlyOf, effSig]
    · exact ih _ e he

theorem canon_decodeAll (L : Lang) (a : Bool) (is : List RawInstr) (st : EncState) (off : Nat)
    (h : canonFrom L a st is = true) : decodeAll L a off is = .ok (earlies L a off is, []) := by
  fun_induction canonFrom L a st is generalizing off with
  | case1 => rfl
  | case2 st i rest st' hc ih =>
    have ih' := ih (off + instrSize L.hdr i) h
    cases hs : effSig L a i.opcode with
    | none => simp only [decodeAll, hs, ih', earlies, earlyOf]
    | some abi =>
      have hc' := canonInstr_ok hc
      rw [hs] at hc'
      obtain ⟨_, full, a0, _, _, hdec, _⟩ := hc'
      simp only [decodeAll, hs, hdec, ih', List.append_nil, earlies, earlyOf]
  | case3 => cases h

/-- what `JumpsOnBoundaries` gives: no jump leaves the script, and every jump finds the label of its
boundary in the table of all labels, with that boundary's offset and the label's time -/
theorem jumps_ok (L : Lang) (a : Bool) (is : List RawInstr) (hnd : (boundaries L.hdr is).Nodup)
    (hdec : decodeAll L a 0 is = .ok (earlies L a 0 is, [])) (hjumps : JumpsOnBoundaries L a is = true) :
    hasBadJump ((earlies L a 0 is).map (Early.toR L.mode (boundaries L.hdr is))) = false ∧
    ∀ e ∈ earlies L a 0 is, JumpOk L (boundaries L.hdr is) ((earlies L a 0 is).map (Early.toR L.mode (boundaries L.hdr is)))
      (tblFrom (boundaries L.hdr is) ((earlies L a 0 is).map (Early.toR L.mode (boundaries L.hdr is))) 0 (is.length + 1)) e := by
  have hofflen := boundaries_length L.hdr is
  generalize hoffs : boundaries L.hdr is = offs at *
  generalize hes : earlies L a 0 is = es at *
  have hall : ∀ e ∈ es, ∀ kd tm, e.jump L.mode offs = some (kd, tm) → kd < offs.length := by
    intro e he kd tm hj
    simp only [JumpsOnBoundaries, hdec, hoffs, List.all_eq_true] at hjumps
    have := hjumps e he
    simp only [hj, decide_eq_true_eq] at this
    exact this
  have hlen : (es.map (Early.toR L.mode offs)).length = is.length := by rw [List.length_map, ← hes, earlies_length]
  refine ⟨List.any_eq_false.mpr fun r hr => ?_, fun e he kd tm hj => ?_⟩
  · obtain ⟨e, he, rfl⟩ := List.mem_map.mp hr
    show ¬ (match e.jump L.mode offs with | some (dest, _) => decide (dest > _) | none => false) = true
    cases hj : e.jump L.mode offs with
    | none => exact Bool.false_ne_true
    | some p =>
      have hk := hall e he p.1 p.2 hj
      rw [hofflen, ← hlen] at hk
      exact fun h => Nat.not_lt.mpr (Nat.le_of_lt_succ hk) (of_decide_eq_true h)
  · have hk := hall e he kd tm hj
    obtain ⟨l, hl⟩ := Option.isSome_iff_exists.mp
      (C13.Ext.jump_has_label _ _ kd tm (List.mem_map_of_mem (f := Early.toR L.mode offs) he) (by simp [Early.toR, hj]))
    exact ⟨hk, l, hl, lookup_tblFrom offs hnd _ (is.length + 1) 0 kd l (Nat.zero_le _)
      (by rwa [hofflen, ← Nat.zero_add (is.length + 1)] at hk) (by rw [hofflen, Nat.zero_add]; exact Nat.le_refl _) hl⟩

theorem items_of_canon (L : Lang) (a : Bool) (offs : List Nat) (ris : List Time.RInstr) (tbl : List LabelInfo)
    (hinv : C14.Inv L.defs) : ∀ (is : List RawInstr) (st : EncState) (off : Nat),
    canonFrom L a st is = true →
    (∀ i ∈ is, ∀ abi, effSig L a i.opcode = some abi → validAbi abi = true) →
    (∀ e ∈ earlies L a off is, JumpOk L offs ris tbl e) →
    ∃ items : List Item, items.map (·.1) = is ∧ ItemsOk L tbl st off items ∧
      raiseCalls L offs ris (earlies L a off is) = .ok (items.map (·.2.1), []) ∧
      (∀ x ∈ items, diffLabel L x.1.difficulty = .ok x.2.2) ∧ (∀ x ∈ items, CallOk L { x.2.1 with diff := x.2.2 }) := by
  intro is st off h hvalid hjump
  fun_induction canonFrom L a st is generalizing off with
  | case1 => exact ⟨[], rfl, trivial, rfl, by simp, by simp⟩
  | case2 st i rest st' hc ih =>
    obtain ⟨items, hi1, hi2, hi3, hi4, hi5⟩ := ih (off + instrSize L.hdr i) h
      (fun j hj => hvalid j (List.mem_cons_of_mem _ hj))
      (fun e he => hjump e (List.mem_cons_of_mem _ he))
    have hje : JumpOk L offs ris tbl (earlyOf L a off i) := hjump _ List.mem_cons_self
    have hfacts : InstrFacts L a offs ris tbl st st' i off := by
      cases hs : effSig L a i.opcode with
      | none => exact instr_unknown L a offs ris tbl st st' i off hs hinv hc
      | some abi =>
        exact instr_known L a offs ris tbl st st' i off abi hs (hvalid i List.mem_cons_self abi hs) hinv hc hje
    obtain ⟨c, d, real, raw, f1, f2, f3, f4, f5, f6⟩ := hfacts
    refine ⟨(i, c, d) :: items, by simp [hi1], ⟨st', real, raw, instrReal_of_encodeLabels f4, f4, f5, f6, hi2⟩, ?_, ?_, ?_⟩
    · simp [earlies, raiseCalls, f1, hi3]
    · exact List.forall_mem_cons.mpr ⟨f2, hi4⟩
    · exact List.forall_mem_cons.mpr ⟨f3, hi5⟩
  | case3 => cases h

theorem decodeAll_warnings (L : Lang) (a : Bool) (is : List RawInstr) (off : Nat) (es : List Early) (ws : List String)
    (h : decodeAll L a off is = .ok (es, ws)) : ∀ i ∈ is, ∀ abi full a0 w, effSig L a i.opcode = some abi →
    decodeInstr abi i = .ok ((full, a0), w) →
    (∀ x ∈ w, x ∈ ws) ∧ ∃ e ∈ es, e.raw = i ∧ e.dec = some (abi, full) := by
  fun_induction decodeAll L a off is generalizing es ws with
  | case1 => intro i hi; cases hi
  | case2 off j rest hsj es1 ws1 hr ih =>
    cases h
    intro i hi abi full a0 w hs hd
    rcases List.mem_cons.mp hi with rfl | hi
    · rw [hs] at hsj; cases hsj
    · obtain ⟨p1, e, he, p2⟩ := ih es1 ws1 hr i hi abi full a0 w hs hd
      exact ⟨p1, e, List.mem_cons_of_mem _ he, p2⟩
  | case5 off j rest abij hsj fullj a0j wj hdj es1 ws1 hr ih =>
    cases h
    intro i hi abi full a0 w hs hd
    rcases List.mem_cons.mp hi with rfl | hi
    · rw [hs] at hsj; cases hsj
      rw [hd] at hdj; cases hdj
      exact ⟨fun x hx => List.mem_append_left _ hx, _, List.mem_cons_self, rfl, rfl⟩
    · obtain ⟨p1, e, he, p2⟩ := ih es1 ws1 hr i hi abi full a0 w hs hd
      exact ⟨fun x hx => List.mem_append_right _ (p1 x hx), e, List.mem_cons_of_mem _ he, p2⟩
  | case3 | case4 | case6 | case7 | case8 | case9 => cases h

theorem raiseCalls_warnings (L : Lang) (offs : List Nat) (ris : List Time.RInstr) (es : List Early) (cs : List FCall) (ws : List String)
    (h : raiseCalls L offs ris es = .ok (cs, ws)) : ∀ e ∈ es, ∀ abi full, e.dec = some (abi, full) → nonzeroPadding abi full = true →
    paddingMsg ∈ ws := by
  fun_induction raiseCalls L offs ris es generalizing cs ws with
  | case1 => intro e he; cases he
  | case2 e0 rest c w hc cs1 ws1 hr ih =>
    cases h
    intro e he abi full hdec hnz
    rcases List.mem_cons.mp he with rfl | he
    · simp only [raiseCall, hdec] at hc
      split at hc
      · cases hc
        rw [hnz]
        exact List.mem_append_left _ (List.mem_append_right _ List.mem_cons_self)
      · cases hc
      · cases hc
    · exact List.mem_append_right _ (ih cs1 ws1 hr e he abi full hdec hnz)
  | case3 | case4 | case5 | case6 => cases h

end TruthModel.RoundTrip
