import TruthModel.Lemmas.DiffBits
/-
Arguments of an instruction with difficulty switches nested to any depth (C14): selection of a difficulty's value
(`pick`, the last present case up to an index; `selArg` picks and descends: `selList_eq`), well-formedness, the
explicit difficulties and what `elaborate_diff_switches` collects from them (`metaArg`), the length check.  The
tree is walked by `arg_induct`, with the walkers over the cases of a switch in membership form (`wfCases_iff`,
`explicitInCases_iff`, `mem_switchLensList`); only `metaArg_spec` / `metaCases_spec`, whose fold threads a state
through the cases, are a mutual pair.
-/
namespace TruthModel.C14
open TruthModel TruthModel.Diff

theorem lt_of_case_isSome {α} {cs : List (Option α)} {i : Nat} (h : (cs[i]?).join.isSome = true) : i < cs.length := by
  apply Nat.lt_of_not_le
  intro hle
  rw [List.getElem?_eq_none hle] at h
  cases h

theorem pick_zero {α} (cs : List (Option α)) : pick cs 0 = (cs[0]?).join := by
  cases cs <;> rfl

theorem pick_succ {α} (cs : List (Option α)) (k : Nat) : pick cs (k + 1) = ((cs[k + 1]?).join).or (pick cs k) := by
  induction cs generalizing k with
  | nil => rfl
  | cons c cs ih =>
    rw [pick, List.getElem?_cons_succ]
    cases k with
    | zero => rw [pick_zero]; cases (cs[0]?).join <;> rfl
    | succ k => rw [ih, pick]; cases (cs[k + 1]?).join <;> cases pick cs k <;> rfl

theorem pick_isSome {α} (cs : List (Option α)) (k : Nat) :
    (pick cs k).isSome = (cs.take (k + 1)).any Option.isSome := by
  induction cs generalizing k with
  | nil => rfl
  | cons c cs ih =>
    cases k with
    | zero => rw [pick]; cases c <;> rfl
    | succ k =>
      rw [pick, List.take_succ_cons, List.any_cons, ← ih k]
      cases pick cs k <;> cases c <;> rfl

theorem pick_isSome_of_head {α} (cs : List (Option α)) (h : (cs.head?).join.isSome = true) (x : Nat) :
    (pick cs x).isSome = true := by
  induction x with
  | zero => rwa [pick_zero, ← List.head?_eq_getElem?]
  | succ x ih =>
    rw [pick_succ]
    cases (cs[x + 1]?).join with
    | none => exact ih
    | some u => rfl

theorem pick_some_of_head {α} (cs : List (Option α)) (v : α) (h : cs.head? = some (some v)) (x : Nat) :
    ∃ w, pick cs x = some w :=
  Option.isSome_iff_exists.mp (pick_isSome_of_head cs (by rw [h]; rfl) x)

theorem pick_self {α} (cs : List (Option α)) (d : Nat) (v : α) (h : cs[d]? = some (some v)) : pick cs d = some v := by
  cases d with
  | zero => rw [pick_zero, h]; rfl
  | succ d => rw [pick_succ, h]; rfl

theorem pick_mem {α} {cs : List (Option α)} {k : Nat} {a : α} (h : pick cs k = some a) : some a ∈ cs := by
  induction k with
  | zero =>
    rw [pick_zero] at h
    cases hc : cs[0]? with
    | none => rw [hc] at h; cases h
    | some o => rw [hc] at h; exact h ▸ List.mem_of_getElem? hc
  | succ k ih =>
    rw [pick_succ] at h
    cases hc : cs[k + 1]? with
    | none => rw [hc] at h; exact ih h
    | some o =>
      rw [hc] at h
      cases o with
      | none => exact ih h
      | some b => cases h; exact List.mem_of_getElem? hc

theorem pick_stable {α} (cs : List (Option α)) (a j : Nat) (haj : a ≤ j)
    (h : ∀ i, a < i → i ≤ j → (cs[i]?).join.isSome = false) : pick cs j = pick cs a := by
  obtain ⟨t, rfl⟩ := Nat.exists_eq_add_of_le haj
  induction t with
  | zero => rfl
  | succ t ih =>
    have hn := h (a + t + 1) (Nat.lt_succ_of_le (Nat.le_add_right a t)) (Nat.le_refl _)
    rw [← Nat.add_assoc, pick_succ, ih (Nat.le_add_right a t) fun i h1 h2 => h i h1 (Nat.le_succ_of_le h2)]
    cases hc : (cs[a + t + 1]?).join with
    | none => rfl
    | some x => rw [hc] at hn; cases hn

theorem pick_map {α β} (f : α → β) (cs : List (Option α)) (k : Nat) :
    pick (cs.map (Option.map f)) k = (pick cs k).map f := by
  induction cs generalizing k with
  | nil => rfl
  | cons c cs ih =>
    cases k with
    | zero => rfl
    | succ k => rw [List.map_cons, pick, pick, ih]; cases pick cs k <;> rfl

/-- `select_diff_for_lower_arg` on the cases of a switch: `pick` the case as `select_diff_switch_case` does, then
select inside it -/
theorem selList_eq (d : Nat) (cs : List (Option Arg)) (k : Nat) : selList d cs k = selOpt d (pick cs k) := by
  induction cs generalizing k with
  | nil => rfl
  | cons c cs ih =>
    cases k with
    | zero => rfl
    | succ k =>
      rw [selList, ← pick_isSome, ih, pick]
      cases pick cs k <;> rfl

def liftCases (cs : List (Option Int32)) : List (Option Arg) := cs.map (Option.map Arg.val)

/-- a flat switch is selected exactly like `select_diff_switch_case` selects -/
theorem selArg_flat (d : Nat) (cs : List (Option Int32)) : selArg d (.sw (liftCases cs)) = selectCase cs d := by
  rw [selArg, selectCase, selList_eq, liftCases, List.length_map, pick_map]
  cases pick cs d <;> rfl

theorem arg_induct {P : Arg → Prop} (val : ∀ v, P (.val v))
    (sw : ∀ cs, (∀ a, some a ∈ cs → P a) → P (.sw cs)) : ∀ a, P a :=
  @Arg.rec P (fun cs => ∀ a, some a ∈ cs → P a) (fun o => ∀ a, o = some a → P a) val sw
    (fun _ h => nomatch h)
    (fun _ _ ho hcs a h => (List.mem_cons.mp h).elim (fun e => ho a e.symm) (hcs a))
    (fun _ h => nomatch h) (fun _ h _ e => Option.some.inj e ▸ h)

mutual

/-- every switch at any depth has exactly `n` cases and its first case is present (the grammar
guarantees the latter, `validate_difficulty` the former) -/
def wfArg (n : Nat) : Arg → Bool
  | .val _ => true
  | .sw cases => cases.length == n && (cases.head?).join.isSome && wfCases n cases
def wfCases (n : Nat) : List (Option Arg) → Bool
  | [] => true
  | none :: rest => wfCases n rest
  | some a :: rest => wfArg n a && wfCases n rest
end

theorem wfArg_sw {n : Nat} {cases : List (Option Arg)} :
    wfArg n (.sw cases) = true ↔ cases.length = n ∧ (cases.head?).join.isSome = true ∧ wfCases n cases = true := by
  rw [wfArg, Bool.and_eq_true, Bool.and_eq_true, beq_iff_eq, and_assoc]

theorem wfCases_iff {n : Nat} {cs : List (Option Arg)} :
    wfCases n cs = true ↔ ∀ a, some a ∈ cs → wfArg n a = true := by
  induction cs with
  | nil => exact ⟨fun _ _ h => (nomatch h), fun _ => rfl⟩
  | cons c cs ih =>
    cases c with
    | none => simpa [wfCases] using ih
    | some b => simp [wfCases, ih]

mutual

/-- some switch inside the argument (at any depth) has an explicit case at difficulty `i` -/
def explicitIn : Arg → Nat → Bool
  | .val _, _ => false
  | .sw cases, i => (cases[i]?).join.isSome || explicitInCases cases i
def explicitInCases : List (Option Arg) → Nat → Bool
  | [], _ => false
  | none :: rest, i => explicitInCases rest i
  | some a :: rest, i => explicitIn a i || explicitInCases rest i
end

theorem explicitInCases_iff {cs : List (Option Arg)} {i : Nat} :
    explicitInCases cs i = true ↔ ∃ a, some a ∈ cs ∧ explicitIn a i = true := by
  induction cs with
  | nil => exact ⟨fun h => (nomatch h), fun ⟨_, h, _⟩ => (nomatch h)⟩
  | cons c cs ih =>
    cases c with
    | none => simpa [explicitInCases] using ih
    | some b => simp [explicitInCases, ih]

def isSw : Arg → Bool | .sw _ => true | .val _ => false

theorem selArg_ok (n x : Nat) (hx : x < n) : (a : Arg) → wfArg n a = true → ∃ v, selArg x a = .ok v := by
  refine arg_induct (fun v _ => ⟨v, rfl⟩) fun cs ih h => ?_
  obtain ⟨hlen, hhead, hcs⟩ := wfArg_sw.mp h
  obtain ⟨w, hw⟩ := Option.isSome_iff_exists.mp (pick_isSome_of_head cs hhead x)
  rw [selArg, if_pos (hlen ▸ hx), selList_eq, hw]
  exact ih w (pick_mem hw) (wfCases_iff.mp hcs w (pick_mem hw))

theorem selList_ok (n x : Nat) (hx : x < n) : (cs : List (Option Arg)) → wfCases n cs = true → (k : Nat) →
    (cs.take (k + 1)).any Option.isSome = true → ∃ v, selList x cs k = .ok v := by
  intro cs h k hk
  rw [← pick_isSome] at hk
  obtain ⟨w, hw⟩ := Option.isSome_iff_exists.mp hk
  rw [selList_eq, hw]
  exact selArg_ok n x hx w (wfCases_iff.mp h w (pick_mem hw))

/-- `selArg` with 0 for a failure; under `wfArg` it is the selected value and the 0 never shows (`selArgs_wf`) -/
def selVal (x : Nat) (a : Arg) : Int32 := match selArg x a with | .ok v => v | _ => 0

theorem selArgs_map {α} (d : Nat) (l : List α) (f : α → Arg) (v : α → Int32)
    (h : ∀ x ∈ l, selArg d (f x) = .ok (v x)) : selArgs d (l.map f) = .ok (l.map v) := by
  induction l with
  | nil => rfl
  | cons x l ih =>
    rw [List.map_cons, selArgs, h x (List.mem_cons_self ..), ih fun y hy => h y (List.mem_cons_of_mem _ hy)]
    rfl

theorem selArgs_wf (n x : Nat) (hx : x < n) (args : List Arg) (hwf : ∀ a ∈ args, wfArg n a = true) :
    selArgs x args = .ok (args.map (selVal x)) := by
  have := selArgs_map x args id (selVal x) fun a ha => by
    obtain ⟨v, hv⟩ := selArg_ok n x hx a (hwf a ha)
    rw [id, hv, selVal, hv]
  rwa [List.map_id] at this

/-- the same case is picked at both difficulties, and its own value is the same at both -/
theorem selList_stable_of {n a j : Nat} {cs : List (Option Arg)} (hcs : wfCases n cs = true)
    (he : ∀ i, a < i → i ≤ j → explicitInCases cs i = false) {ka kj : Nat} (hk : ka ≤ kj)
    (hnone : ∀ i, ka < i → i ≤ kj → (cs[i]?).join.isSome = false)
    (ih : ∀ b, some b ∈ cs → wfArg n b = true → (∀ i, a < i → i ≤ j → explicitIn b i = false) → selArg j b = selArg a b) :
    selList j cs kj = selList a cs ka := by
  rw [selList_eq, selList_eq, pick_stable cs ka kj hk hnone]
  cases hp : pick cs ka with
  | none => rfl
  | some b =>
    refine ih b (pick_mem hp) (wfCases_iff.mp hcs b (pick_mem hp)) fun i h1 h2 => Bool.eq_false_iff.mpr fun hb => ?_
    exact Bool.false_ne_true ((he i h1 h2).symm.trans (explicitInCases_iff.mpr ⟨b, pick_mem hp, hb⟩))

/-- **the value of an argument does not change between two difficulties `a ≤ j` if no switch inside
it (at any depth) has an explicit case in `(a, j]`** -/
theorem selArg_stable (n a j : Nat) (haj : a ≤ j) (hj : j < n) : (arg : Arg) → wfArg n arg = true →
    (∀ i, a < i → i ≤ j → explicitIn arg i = false) → selArg j arg = selArg a arg := by
  refine arg_induct (fun _ _ _ => rfl) fun cs ih h he => ?_
  obtain ⟨hlen, _, hcs⟩ := wfArg_sw.mp h
  have he' : ∀ i, a < i → i ≤ j → (cs[i]?).join.isSome = false ∧ explicitInCases cs i = false := fun i h1 h2 => by
    have := he i h1 h2
    rwa [explicitIn, Bool.or_eq_false_iff] at this
  rw [selArg, selArg, if_pos (hlen ▸ hj), if_pos (hlen ▸ Nat.lt_of_le_of_lt haj hj)]
  exact selList_stable_of hcs (fun i h1 h2 => (he' i h1 h2).2) haj (fun i h1 h2 => (he' i h1 h2).1) ih

theorem selList_stable (n a j : Nat) (haj : a ≤ j) (hj : j < n) : (cs : List (Option Arg)) → wfCases n cs = true →
    (∀ i, a < i → i ≤ j → explicitInCases cs i = false) → (ka kj : Nat) → ka ≤ kj →
    (∀ i, ka < i → i ≤ kj → (cs[i]?).join.isSome = false) → selList j cs kj = selList a cs ka :=
  fun _ h he _ _ hk hnone => selList_stable_of h he hk hnone fun b _ => selArg_stable n a j haj hj b

def explicitAt (args : List Arg) (i : Nat) : Bool := args.any (explicitIn · i)

theorem selVals_stable (n a j : Nat) (haj : a ≤ j) (hj : j < n) (args : List Arg) (hwf : ∀ x ∈ args, wfArg n x = true)
    (he : ∀ i, a < i → i ≤ j → explicitAt args i = false) : args.map (selVal j) = args.map (selVal a) := by
  refine List.map_congr_left fun arg harg => ?_
  unfold selVal
  rw [selArg_stable n a j haj hj arg (hwf arg harg) fun i h1 h2 => Bool.eq_false_iff.mpr fun hi =>
    Bool.false_ne_true ((he i h1 h2).symm.trans (List.any_eq_true.mpr ⟨arg, harg, hi⟩))]

theorem explicitIn_lt (n i : Nat) : (a : Arg) → wfArg n a = true → explicitIn a i = true → i < n := by
  refine arg_induct (fun _ _ he => nomatch he) fun cs ih h he => ?_
  obtain ⟨hlen, _, hcs⟩ := wfArg_sw.mp h
  rw [explicitIn, Bool.or_eq_true] at he
  rcases he with he | he
  · exact hlen ▸ lt_of_case_isSome he
  · obtain ⟨b, hb, hbi⟩ := explicitInCases_iff.mp he
    exact ih b hb (wfCases_iff.mp hcs b hb) hbi

theorem explicitInCases_lt (n i : Nat) : (cs : List (Option Arg)) → wfCases n cs = true → explicitInCases cs i = true → i < n := by
  intro cs h he
  obtain ⟨b, hb, hbi⟩ := explicitInCases_iff.mp he
  exact explicitIn_lt n i b (wfCases_iff.mp h b hb) hbi

theorem explicitIn_zero (n : Nat) (a : Arg) (h : wfArg n a = true) (hs : isSw a = true) : explicitIn a 0 = true := by
  cases a with
  | val v => cases hs
  | sw cases =>
    rw [explicitIn, ← List.head?_eq_getElem?, (wfArg_sw.mp h).2.1, Bool.true_or]

theorem wfCases_flat (n : Nat) (cs : List (Option Int32)) : wfCases n (liftCases cs) = true := by
  induction cs with
  | nil => rfl
  | cons c cs ih => cases c <;> exact ih

theorem explicitInCases_flat (cs : List (Option Int32)) (i : Nat) : explicitInCases (liftCases cs) i = false := by
  induction cs with
  | nil => rfl
  | cons c cs ih => cases c <;> exact ih

theorem update_get {α} (m : Meta) (cases : List (Option α)) (i : Nat) (hi : i < 8) :
    (m.update cases).explicit.getLsbD i = (m.explicit.getLsbD i || (cases[i]?).join.isSome) := by
  show ((List.range cases.length).foldl (fun e i => if (cases[i]?).join.isSome then setBit e i true else e) m.explicit).getLsbD i = _
  have hmem : i ∈ (List.range cases.length).filter (fun i => (cases[i]?).join.isSome) ↔ (cases[i]?).join.isSome = true := by
    rw [List.mem_filter, List.mem_range]
    exact ⟨fun h => h.2, fun h => ⟨lt_of_case_isSome h, h⟩⟩
  rw [← List.foldl_filter, getLsbD_foldl_setBit _ _ _ _ hi]
  cases hs : (cases[i]?).join.isSome
  · rw [if_neg (fun h => Bool.false_ne_true (hs.symm.trans (hmem.mp h))), Bool.or_false]
  · rw [if_pos (hmem.mpr hs), Bool.or_true]

mutual

/-- `num` ends as `max m.num n` if a switch occurs, else unchanged (the three inequalities; `metaOf_spec` squeezes them
into `num = n` from the initial 0); `explicit` gains exactly the difficulties of `explicitIn` -/
theorem metaArg_spec (n : Nat) : (a : Arg) → wfArg n a = true → (m : Meta) →
    m.num ≤ (metaArg m a).num ∧ (m.num ≤ n → (metaArg m a).num ≤ n) ∧ (isSw a = true → n ≤ (metaArg m a).num) ∧
    ∀ i, i < 8 → (metaArg m a).explicit.getLsbD i = (m.explicit.getLsbD i || explicitIn a i)
  | .val _, _, m => by
    rw [metaArg]
    exact ⟨Nat.le_refl _, id, fun h => absurd h Bool.false_ne_true, fun i _ => by rw [explicitIn, Bool.or_false]⟩
  | .sw cases, h, m => by
    obtain ⟨hlen, _, hcs⟩ := wfArg_sw.mp h
    obtain ⟨h1, h2, h3⟩ := metaCases_spec n cases hcs (m.update cases)
    have hnum : (m.update cases).num = max m.num n := by rw [← hlen]; rfl
    rw [hnum] at h1 h2
    rw [metaArg]
    refine ⟨Nat.le_trans (Nat.le_max_left ..) h1, fun hm => h2 (Nat.max_le.mpr ⟨hm, Nat.le_refl n⟩),
      fun _ => Nat.le_trans (Nat.le_max_right ..) h1, fun i hi => ?_⟩
    rw [h3 i hi, update_get _ _ _ hi, explicitIn, Bool.or_assoc]
theorem metaCases_spec (n : Nat) : (cs : List (Option Arg)) → wfCases n cs = true → (m : Meta) →
    m.num ≤ (metaCases m cs).num ∧ (m.num ≤ n → (metaCases m cs).num ≤ n) ∧
    ∀ i, i < 8 → (metaCases m cs).explicit.getLsbD i = (m.explicit.getLsbD i || explicitInCases cs i)
  | [], _, m => by
    rw [metaCases]
    exact ⟨Nat.le_refl _, id, fun i _ => by rw [explicitInCases, Bool.or_false]⟩
  | none :: cs, h, m => by
    rw [wfCases] at h
    rw [metaCases]
    simp only [explicitInCases]
    exact metaCases_spec n cs h m
  | some a :: cs, h, m => by
    rw [wfCases, Bool.and_eq_true] at h
    obtain ⟨a1, a2, _, a4⟩ := metaArg_spec n a h.1 m
    obtain ⟨c1, c2, c3⟩ := metaCases_spec n cs h.2 (metaArg m a)
    rw [metaCases]
    refine ⟨Nat.le_trans a1 c1, fun hm => c2 (a2 hm), fun i hi => ?_⟩
    rw [c3 i hi, a4 i hi, explicitInCases, Bool.or_assoc]
end

theorem metaOf_go (n : Nat) (args : List Arg) (hwf : ∀ a ∈ args, wfArg n a = true) (m0 : Meta) :
    m0.num ≤ (args.foldl metaArg m0).num ∧ (m0.num ≤ n → (args.foldl metaArg m0).num ≤ n) ∧
    (args.any isSw = true → n ≤ (args.foldl metaArg m0).num) ∧
    ∀ i, i < 8 → (args.foldl metaArg m0).explicit.getLsbD i = (m0.explicit.getLsbD i || explicitAt args i) := by
  induction args generalizing m0 with
  | nil => exact ⟨Nat.le_refl _, id, fun h => absurd h Bool.false_ne_true, fun i _ => (Bool.or_false _).symm⟩
  | cons a args ih =>
    obtain ⟨a1, a2, a3, a4⟩ := metaArg_spec n a (hwf a (List.mem_cons_self ..)) m0
    obtain ⟨r1, r2, r3, r4⟩ := ih (fun a ha => hwf a (List.mem_cons_of_mem _ ha)) (metaArg m0 a)
    rw [List.foldl_cons]
    refine ⟨Nat.le_trans a1 r1, fun hm => r2 (a2 hm), fun hany => ?_, fun i hi => ?_⟩
    · rw [List.any_cons, Bool.or_eq_true] at hany
      rcases hany with h | h
      · exact Nat.le_trans (a3 h) r1
      · exact r3 h
    · rw [r4 i hi, a4 i hi, explicitAt, explicitAt, List.any_cons, Bool.or_assoc]

theorem metaOf_spec (n : Nat) (args : List Arg) (hwf : ∀ a ∈ args, wfArg n a = true) (hsw : args.any isSw = true) :
    (metaOf args).num = n ∧ ∀ i, i < 8 → (metaOf args).explicit.getLsbD i = explicitAt args i := by
  obtain ⟨_, hle, hge, hexp⟩ := metaOf_go n args hwf { num := 0, explicit := 0#8 }
  exact ⟨Nat.le_antisymm (hle (Nat.zero_le n)) (hge hsw), fun i hi => by
    rw [metaOf, hexp i hi, BitVec.getLsbD_zero, Bool.false_or]⟩

/-- the stops between which `explicit_case_bitmasks` cuts, `bitsOf (metaOf args).explicit ++ [n]`: the explicit
difficulties of the arguments, strictly increasing from 0 to `n` -/
structure Stops (n : Nat) (args : List Arg) : Prop where
  mem : ∀ s, s ∈ bitsOf (metaOf args).explicit ↔ s < 8 ∧ explicitAt args s = true
  sorted : (bitsOf (metaOf args).explicit ++ [n]).Pairwise (· < ·)
  zero : ∃ t, bitsOf (metaOf args).explicit = 0 :: t
  le : ∀ s ∈ bitsOf (metaOf args).explicit ++ [n], s ≤ n

theorem stops_spec (n : Nat) (args : List Arg) (hwf : ∀ a ∈ args, wfArg n a = true) (hsw : args.any isSw = true) :
    Stops n args := by
  obtain ⟨_, hexp⟩ := metaOf_spec n args hwf hsw
  have hmemE : ∀ s, s ∈ bitsOf (metaOf args).explicit ↔ s < 8 ∧ explicitAt args s = true := by
    intro s
    rw [mem_bitsOf]
    exact and_congr_right fun hs => by rw [hexp s hs]
  have hElt : ∀ s ∈ bitsOf (metaOf args).explicit, s < n := by
    intro s hs
    obtain ⟨a, ha, hsa⟩ := List.any_eq_true.mp ((hmemE s).mp hs).2
    exact explicitIn_lt n s a (hwf a ha) hsa
  obtain ⟨a0, ha0, hsw0⟩ := List.any_eq_true.mp hsw
  have hE0 : explicitAt args 0 = true :=
    List.any_eq_true.mpr ⟨a0, ha0, explicitIn_zero n a0 (hwf a0 ha0) hsw0⟩
  exact ⟨hmemE, (stops_sorted _ n hElt).1, bitsOf_zero _ (by rw [hexp 0 (by decide)]; exact hE0), (stops_sorted _ n hElt).2⟩

theorem mem_switchLensList {cs : List (Option Arg)} {x : Nat} :
    x ∈ switchLensList cs ↔ ∃ a, some a ∈ cs ∧ x ∈ switchLens a := by
  induction cs with
  | nil => exact ⟨fun h => (nomatch h), fun ⟨_, h, _⟩ => (nomatch h)⟩
  | cons c cs ih =>
    cases c with
    | none => simpa [switchLensList] using ih
    | some b => simp [switchLensList, ih]

theorem switchLens_wf (n : Nat) : (a : Arg) → wfArg n a = true → ∀ x ∈ switchLens a, x = n := by
  refine arg_induct (fun _ _ _ hx => nomatch hx) fun cs ih h x hx => ?_
  obtain ⟨hlen, _, hcs⟩ := wfArg_sw.mp h
  rcases List.mem_append.mp hx with hx | hx
  · obtain ⟨b, hb, hxb⟩ := mem_switchLensList.mp hx
    exact ih b hb (wfCases_iff.mp hcs b hb) x hxb
  · exact (List.mem_singleton.mp hx).trans hlen

theorem switchLensList_wf (n : Nat) : (cs : List (Option Arg)) → wfCases n cs = true → ∀ x ∈ switchLensList cs, x = n := by
  intro cs h x hx
  obtain ⟨b, hb, hxb⟩ := mem_switchLensList.mp hx
  exact switchLens_wf n b (wfCases_iff.mp h b hb) x hxb

theorem expand_of_checkLens {d : Defs} {m : Mask} {args : List Arg} {r : Option Nat} (h : checkLens args = .ok r) :
    expand d m args = expandCore d m args := by
  rw [expand, h]

theorem checkLens_ok (args : List Arg) (n : Nat) (hn8 : n ≤ 8) (hwf : ∀ a ∈ args, wfArg n a = true) :
    ∃ r, checkLens args = .ok r := by
  have hall : ∀ x ∈ args.flatMap switchLens, x = n := by
    intro x hx
    obtain ⟨a, ha, hxa⟩ := List.mem_flatMap.mp hx
    exact switchLens_wf n a (hwf a ha) x hxa
  fun_cases checkLens args with
  | case1 => exact ⟨none, rfl⟩
  | case2 x rest hl hany =>
    obtain ⟨y, hy, hne⟩ := List.any_eq_true.mp hany
    rw [hl] at hall
    rw [hall y (List.mem_cons_of_mem _ hy), hall x (List.mem_cons_self ..), bne_self_eq_false] at hne
    cases hne
  | case3 x rest hl _ h8 =>
    rw [hl] at hall
    exact absurd (hall x (List.mem_cons_self ..) ▸ h8) (Nat.not_lt.mpr hn8)
  | case4 x => exact ⟨some x, rfl⟩

end TruthModel.C14
