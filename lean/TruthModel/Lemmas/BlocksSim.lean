import TruthModel.Lemmas.BlocksStruct
/-
C06: the simulation.  `SimE k P cfg st r` is the motive of the induction on `Big (some k) cfg st r`:
wherever the code of `cfg` stands in a program `P` with pairwise distinct labels, the flat machine
runs it to the same state, or to the `break` target for a `brk` outcome, touching only
temporaries of the gensym interval of that code.  `SimT` is the fact about times it relies on: the
VM's time equals the lexical time at block ends.
-/
namespace TruthModel.Blocks

def Frame (n n' : Nat) (tm tm' : Nat → Int32) : Prop := ∀ j, (j < n ∨ n' ≤ j) → tm' j = tm j

theorem Frame.refl (n n' : Nat) (tm : Nat → Int32) : Frame n n' tm tm := fun _ _ => rfl

theorem Frame.mono {a a' n n' : Nat} {tm tm' : Nat → Int32} (h : Frame a a' tm tm') (h1 : n ≤ a) (h2 : a' ≤ n') :
    Frame n n' tm tm' := fun j hj => h j (hj.imp (fun h => Nat.lt_of_lt_of_le h h1) (fun h => Nat.le_trans h2 h))

theorem Frame.trans {n n' : Nat} {tm tm1 tm2 : Nat → Int32} (h1 : Frame n n' tm tm1) (h2 : Frame n n' tm1 tm2) :
    Frame n n' tm tm2 := fun j hj => (h2 j hj).trans (h1 j hj)

theorem Frame.update {n n' j : Nat} (tm : Nat → Int32) (x : Int32) (h1 : n ≤ j) (h2 : j < n') :
    Frame n n' tm (fun i => if i = j then x else tm i) := fun i hi => by
  have : i ≠ j := by
    rintro rfl
    exact hi.elim (fun h => Nat.lt_irrefl _ (Nat.lt_of_lt_of_le h h1)) (fun h => Nat.lt_irrefl _ (Nat.lt_of_lt_of_le h2 h))
  simp only [this, if_false]

/-- From position `c` in state `fs` the flat machine arrives at `post` in the outcome's state (`done`), or wherever a jump
to `label brk` from the outcome's state lands (`brk`); of the temporaries only those numbered in `[n, n')` change. -/
def Reach (P : List AF) (brk n n' : Nat) (c post : List AF) (fs : FS) : Out → Prop
  | .done st' => ∃ tm', Frame n n' fs.tmps tm' ∧ ExecS P c fs post ⟨st', tm'⟩
  | .brk st' => ∃ tm', Frame n n' fs.tmps tm' ∧
      ∀ J fsJ, jumpS P brk ⟨st', tm'⟩ = some (J, fsJ) → ExecS P c fs J fsJ

theorem Reach.prefix {P : List AF} {brk n n' : Nat} {c0 c post : List AF} {fs0 fs : FS} {r : Out}
    (he : ExecS P c0 fs0 c fs) (hf : Frame n n' fs0.tmps fs.tmps) (h : Reach P brk n n' c post fs r) :
    Reach P brk n n' c0 post fs0 r := by
  cases r with
  | done st' => obtain ⟨tm', hf', hx⟩ := h; exact ⟨tm', hf.trans hf', he.trans hx⟩
  | brk st' => obtain ⟨tm', hf', hx⟩ := h; exact ⟨tm', hf.trans hf', fun J fsJ hj => he.trans (hx J fsJ hj)⟩

theorem Reach.prefix' {P : List AF} {brk n n' : Nat} {c0 c post : List AF} {fs0 : FS} {st : St} {r : Out}
    (he : ExecS P c0 fs0 c ⟨st, fs0.tmps⟩) (h : Reach P brk n n' c post ⟨st, fs0.tmps⟩ r) :
    Reach P brk n n' c0 post fs0 r := Reach.prefix he (Frame.refl _ _ _) h

theorem Reach.mono {P : List AF} {brk a a' n n' : Nat} {c post : List AF} {fs : FS} {r : Out}
    (h : Reach P brk a a' c post fs r) (h1 : n ≤ a) (h2 : a' ≤ n') : Reach P brk n n' c post fs r := by
  cases r with
  | done st' | brk st' => obtain ⟨tm', hf, hx⟩ := h; exact ⟨tm', hf.mono h1 h2, hx⟩

theorem Reach.seq {P : List AF} {brk1 brk a a' b b' n n' : Nat} {c mid post : List AF} {fs : FS} {st1 : St} {r : Out}
    (h1 : Reach P brk1 a a' c mid fs (.done st1))
    (h2 : ∀ tm1, Frame a a' fs.tmps tm1 → Reach P brk b b' mid post ⟨st1, tm1⟩ r)
    (ha : n ≤ a) (ha' : a' ≤ n') (hb : n ≤ b) (hb' : b' ≤ n') : Reach P brk n n' c post fs r := by
  obtain ⟨tm1, hf1, hx1⟩ := h1
  exact Reach.prefix hx1 (hf1.mono ha ha') ((h2 tm1 hf1).mono hb hb')

/-- a `break` passes over what follows: `post` plays no part in a `brk` outcome -/
theorem Reach.brk_of {P : List AF} {brk a a' n n' : Nat} {c mid post : List AF} {fs : FS} {st1 : St}
    (h1 : Reach P brk a a' c mid fs (.brk st1)) (ha : n ≤ a) (ha' : a' ≤ n') :
    Reach P brk n n' c post fs (.brk st1) :=
  h1.mono ha ha'

/-! ### positions inside the code of a loop statement `s` followed by `ss` -/

section positions
variable (k : CJ) (brk n : Nat) (lt : Int) (s : Stmt) (ss : List Stmt) (post : List AF)

def restCode : List AF × Nat :=
  desugarL k brk (desugarB k n (lay k n lt s).nb lt s.body).2 (endL lt s.body) ss
/-- at `label loop_end` -/
def lePos : List AF := (endL lt s.body, .label n) :: ((restCode k brk n lt s ss).1 ++ post)
def tailPos : List AF := (lay k n lt s).tail ++ lePos k brk n lt s ss post
/-- at the back jump -/
def jmpPos : List AF := (endL lt s.body, (lay k n lt s).jmp) :: tailPos k brk n lt s ss post
/-- at the first bookend of the body -/
def bodyPos : List AF := (desugarB k n (lay k n lt s).nb lt s.body).1 ++ jmpPos k brk n lt s ss post
def lpPos : List AF := (lt, .label (lay k n lt s).lp) :: bodyPos k brk n lt s ss post

theorem loop_code (h : s.isLoop = true) :
    (desugarL k brk n lt (s :: ss)).1 ++ post = (lay k n lt s).head ++ lpPos k brk n lt s ss post := by
  simp only [desugarL, desugarS_loop k brk n lt s h, endS_loop lt s h, lpPos, bodyPos, jmpPos, tailPos, lePos,
    restCode, List.append_assoc, List.cons_append, List.nil_append]

theorem loop_snd (h : s.isLoop = true) :
    (desugarL k brk n lt (s :: ss)).2 = (restCode k brk n lt s ss).2 := by
  simp only [desugarL, desugarS_loop k brk n lt s h, endS_loop lt s h, restCode]

end positions

/-! ### positions inside the code of a cond chain followed by `ss` -/

section chains
variable (k : CJ) (brk ve n : Nat) (lt : Int) (ch : Chain) (ss : List Stmt) (post : List AF)

def chainRest : List AF × Nat := desugarL k brk (desugarC k brk ve n lt ch).2 (endC lt ch) ss
/-- at the first test of the remaining chain; `ve` is the chain's `@cond_veryend#` label -/
def chainPos : List AF :=
  (desugarC k brk ve n lt ch).1 ++ (endC lt ch, .label ve) :: ((chainRest k brk ve n lt ch ss).1 ++ post)

theorem desugarL_cond :
    desugarL k brk n lt (.cond ch :: ss) =
      ((desugarC k brk n (n + 1) lt ch).1 ++ (endC lt ch, .label n) :: (chainRest k brk n (n + 1) lt ch ss).1,
        (chainRest k brk n (n + 1) lt ch ss).2) := by
  simp only [desugarL, desugarS, endS, chainRest, List.append_assoc, List.cons_append, List.nil_append]

variable (isIf : Bool) (c : Expr) (thn : List Stmt) (rest : Chain)

theorem chainRest_elif :
    chainRest k brk ve n lt (.elif isIf c thn rest) ss =
      chainRest k brk ve (desugarB k brk (n + 1) lt thn).2 (endL lt thn) rest ss := by
  simp only [chainRest, desugarC, endC, desugarB, bookend_snd]

theorem chainPos_elif :
    chainPos k brk ve n lt (.elif isIf c thn rest) ss post =
      (lt, .cjmp (!isIf) c n) :: ((desugarB k brk (n + 1) lt thn).1 ++
        (gotoEnd (endL lt thn) ve rest ++ (endL lt thn, .label n) ::
          chainPos k brk ve (desugarB k brk (n + 1) lt thn).2 (endL lt thn) rest ss post)) := by
  simp only [chainPos, chainRest_elif]
  simp only [desugarC, endC, desugarB, bookend_snd, List.append_assoc, List.cons_append, List.nil_append]

end chains

/-- a run that starts no later than the lexical time ends at (a block) or no later than (a list) the lexical end time -/
def SimT : Cfg → St → Out → Prop
  | .seq lt ss, st, r => st.time ≤ lt → MonoL lt ss → ∀ st', r = .done st' → st'.time ≤ endL lt ss
  | .blk lt b, st, r => st.time ≤ lt → MonoL lt b → ∀ st', r = .done st' → st'.time = endL lt b
  | .chain lt ch ss, _, r => MonoC lt ch → MonoL (endC lt ch) ss →
      ∀ st', r = .done st' → st'.time ≤ endL (endC lt ch) ss
  | .iter lt s _ ss, st, r => st.time ≤ lt → MonoL lt s.body → MonoL (endL lt s.body) ss →
      ∀ st', r = .done st' → st'.time ≤ endL (endL lt s.body) ss
  | .again lt s _ ss, st, r => st.time ≤ endL lt s.body → MonoL lt s.body → MonoL (endL lt s.body) ss →
      ∀ st', r = .done st' → st'.time ≤ endL (endL lt s.body) ss

/-- The hidden counter of a `times` without counter variable lives in the temporary numbered `n + 1` (`n`: the gensym
counter at the statement).  `0 < j`: on a positive counter `--C > 0` and `--C != 0` agree (`int32_pred_pos`), which is why
`Big (some k)` leaves out negative counts. -/
def CounterOK (s : Stmt) (n : Nat) (j : Int32) (tm : Nat → Int32) : Prop :=
  match s with
  | .times none _ _ => tm (n + 1) = j ∧ 0 < j
  | _ => True

/-- `stf` (blocks and chains): the VM sets `time` itself when it enters a branch of a chain, the flat machine
gets there by the wait of the next statement; so the flat state may lag behind the VM state `st` in time.
`.again` needs the time EQUAL to the body's end time (the back jump and the tail wait for nothing); `Big.time` / `SimT`
exist to supply that equality. -/
def SimE (k : CJ) (P : List AF) : Cfg → St → Out → Prop
  | .seq lt ss, st, r => ∀ (brk n : Nat) (post : List AF) (tm : Nat → Int32),
      (desugarL k brk n lt ss).1 ++ post <:+ P → st.time ≤ lt → MonoL lt ss →
      Reach P brk n (desugarL k brk n lt ss).2 ((desugarL k brk n lt ss).1 ++ post) post ⟨st, tm⟩ r
  | .blk lt b, st, r => ∀ (brk n : Nat) (post : List AF) (tm : Nat → Int32) (stf : St),
      (desugarB k brk n lt b).1 ++ post <:+ P → st.time ≤ lt → MonoL lt b → wait lt stf = wait lt st →
      Reach P brk n (desugarB k brk n lt b).2 ((desugarB k brk n lt b).1 ++ post) post ⟨stf, tm⟩ r
  | .chain lt ch ss, st, r => ∀ (brk ve n : Nat) (post : List AF) (tm : Nat → Int32) (stf : St),
      chainPos k brk ve n lt ch ss post <:+ P → MonoC lt ch → MonoL (endC lt ch) ss →
      wait lt stf = some (st.setTime lt) →
      Reach P brk n (chainRest k brk ve n lt ch ss).2 (chainPos k brk ve n lt ch ss post) post ⟨stf, tm⟩ r
  | .iter lt s j ss, st, r => s.isLoop = true → ∀ (brk n : Nat) (post : List AF) (tm : Nat → Int32),
      (desugarL k brk n lt (s :: ss)).1 ++ post <:+ P →
      st.time ≤ lt → MonoL lt s.body → MonoL (endL lt s.body) ss → CounterOK s n j tm →
      Reach P brk n (desugarL k brk n lt (s :: ss)).2 (bodyPos k brk n lt s ss post) post ⟨st, tm⟩ r
  | .again lt s j ss, st, r => s.isLoop = true → ∀ (brk n : Nat) (post : List AF) (tm : Nat → Int32),
      (desugarL k brk n lt (s :: ss)).1 ++ post <:+ P →
      st.time = endL lt s.body → MonoL lt s.body → MonoL (endL lt s.body) ss → CounterOK s n j tm →
      Reach P brk n (desugarL k brk n lt (s :: ss)).2 (jmpPos k brk n lt s ss post) post ⟨st, tm⟩ r

theorem simple_flat {s : Stmt} {st0 st1 : St} (he : simpleEff s st0 = some st1) :
    ∃ f : FStmt, (∀ k brk n lt, desugarS k brk n lt s = ([(stmtTime lt s, f)], n)) ∧
      (∀ t st tm, wait t st = some st0 → effect (t, f) ⟨st, tm⟩ = some (⟨st1, tm⟩, none)) ∧
      st1.time = st0.time ∧ (∀ lt, endS lt s = stmtTime lt s) ∧ (∀ lt, MonoS lt s → lt ≤ stmtTime lt s) := by
  cases s with
  | call op args =>
    cases he
    exact ⟨.call op args, fun _ _ _ _ => rfl, fun _ _ _ h => eff_call h, rfl, fun _ => rfl, fun _ _ => Int.le_refl _⟩
  | assign r e =>
    cases he
    exact ⟨.assign (.reg r) e, fun _ _ _ _ => rfl, fun _ _ _ h => eff_assign_reg h, rfl, fun _ => rfl,
      fun _ _ => Int.le_refl _⟩
  | tabs t =>
    cases he
    exact ⟨.tabs t, fun _ _ _ _ => rfl, fun _ _ _ h => eff_tabs h, rfl, fun _ => rfl, fun _ h => h⟩
  | trel d =>
    cases he
    exact ⟨.trel d, fun _ _ _ _ => rfl, fun _ _ _ h => eff_trel h, rfl, fun _ => rfl, fun _ h => h⟩
  | _ => cases he

theorem needZero_of_eval_zero {count : Expr} {σ : Nat → Int32} (h : count.eval σ = 0) : needZeroTest count = true := by
  cases count <;> simp_all [needZeroTest, Expr.asConst, Expr.eval]

theorem exec_zeroTest_skip {P : List AF} {lt : Int} {v : Var} {l : Nat} {c : Expr} {rest : List AF} {st : St} {tm : Nat → Int32}
    (ht : st.time = lt) (hv : (FS.mk st tm).get v ≠ 0) :
    ExecS P (zeroTest lt v l c ++ rest) ⟨st, tm⟩ rest ⟨st, tm⟩ := by
  unfold zeroTest
  split
  · exact ExecS.next (eff_jz_no (wait_self ht) hv)
  · exact ExecS.refl _ _

theorem exec_zeroTest_jump {P J : List AF} {lt : Int} {v : Var} {l : Nat} {c : Expr} {rest : List AF} {st : St}
    {tm σ : Nat → Int32} {fsJ : FS} (ht : st.time = lt) (hz : c.eval σ = 0) (hv : (FS.mk st tm).get v = 0)
    (hj : jumpS P l ⟨st, tm⟩ = some (J, fsJ)) : ExecS P (zeroTest lt v l c ++ rest) ⟨st, tm⟩ J fsJ := by
  unfold zeroTest
  rw [if_pos (needZero_of_eval_zero hz)]
  exact ExecS.jump (eff_jz_yes (wait_self ht) hv) hj

section loops
variable {k : CJ} {brk n : Nat} {lt : Int} {s : Stmt} {ss : List Stmt} {post P : List AF}

/-- the gensym counter along the code of a loop statement: `n` is its `@loop_end#`, `n + 1` the hidden counter of a
`times` without counter variable, the body runs from `nb`, the statements after the loop from where the body ends -/
structure LoopLe (k : CJ) (brk n : Nat) (lt : Int) (s : Stmt) (ss : List Stmt) : Prop where
  cnt_nb : n + 1 < (lay k n lt s).nb
  n_nb : n ≤ (lay k n lt s).nb
  n_body : n ≤ (desugarB k n (lay k n lt s).nb lt s.body).2
  body_end : (desugarB k n (lay k n lt s).nb lt s.body).2 ≤ (desugarL k brk n lt (s :: ss)).2
  cnt_end : n + 1 < (desugarL k brk n lt (s :: ss)).2

theorem loop_le (k : CJ) (brk n : Nat) (lt : Int) (s : Stmt) (ss : List Stmt) (h : s.isLoop = true) :
    LoopLe k brk n lt s ss := by
  have h1 : n + 1 < (lay k n lt s).nb := by
    cases s, h using Stmt.loopCases with
    | loop b | doWhile c b => exact Nat.lt_succ_self _
    | while_ c b | timesS x count b => exact Nat.lt_succ_of_lt (Nat.lt_succ_self _)
    | timesN count b => exact Nat.lt_succ_of_lt (Nat.lt_succ_of_lt (Nat.lt_succ_self _))
  have h2 := (freshB k n (lay k n lt s).nb lt s.body).le
  have h3 := (freshL k brk (desugarB k n (lay k n lt s).nb lt s.body).2 (endL lt s.body) ss).le
  have h0 := Nat.le_of_lt (Nat.lt_of_succ_lt h1)
  refine ⟨h1, h0, Nat.le_trans h0 h2, ?_, ?_⟩ <;> rw [loop_snd _ _ _ _ _ _ h]
  · exact h3
  · exact Nat.lt_of_lt_of_le h1 (Nat.le_trans h2 h3)

theorem Frame.counter (h : s.isLoop = true) (tm : Nat → Int32) (x : Int32) :
    Frame n (desugarL k brk n lt (s :: ss)).2 tm (fun i => if i = n + 1 then x else tm i) :=
  Frame.update tm x (Nat.le_succ n) (loop_le k brk n lt s ss h).cnt_end

theorem tail_exec (k : CJ) (n : Nat) (lt : Int) (s : Stmt) (h : s.isLoop = true) (c : List AF)
    {st : St} (tm : Nat → Int32) (ht : st.time = endL lt s.body) :
    ExecS P ((lay k n lt s).tail ++ c) ⟨st, tm⟩ c ⟨st, tm⟩ := by
  cases s, h using Stmt.loopCases with
  | loop b | doWhile c' b => exact ExecS.refl _ _
  | while_ c' b | timesS x count b => exact ExecS.label_here ht
  | timesN count b => exact (ExecS.label_here ht).trans (ExecS.next (eff_scopeEnd (wait_self ht)))

theorem exit_tail (hl : s.isLoop = true) {st : St} {tm : Nat → Int32} {r : Out} (ht : st.time = endL lt s.body)
    (hs : Reach P brk (desugarB k n (lay k n lt s).nb lt s.body).2 (restCode k brk n lt s ss).2
      ((restCode k brk n lt s ss).1 ++ post) post ⟨st, tm⟩ r) :
    Reach P brk n (desugarL k brk n lt (s :: ss)).2 (tailPos k brk n lt s ss post) post ⟨st, tm⟩ r := by
  have hc := loop_le k brk n lt s ss hl
  rw [loop_snd _ _ _ _ _ _ hl]
  exact Reach.prefix' ((tail_exec k n lt s hl _ tm ht).trans (ExecS.label_here ht)) (hs.mono hc.n_body (Nat.le_refl _))

variable (hl : s.isLoop = true) (hat : (desugarL k brk n lt (s :: ss)).1 ++ post <:+ P)
include hl hat

theorem at_lp : (lay k n lt s).head ++ lpPos k brk n lt s ss post <:+ P := by
  rwa [loop_code _ _ _ _ _ _ _ hl] at hat
theorem at_body : bodyPos k brk n lt s ss post <:+ P := (at_lp hl hat).drop.next
theorem at_tail : tailPos k brk n lt s ss post <:+ P := (at_body hl hat).drop.next
theorem at_rest : (restCode k brk n lt s ss).1 ++ post <:+ P := (at_tail hl hat).drop.next

variable (hnd : (labelsOf P).Nodup)
include hnd

theorem jump_lp (fs : FS) :
    jumpS P (lay k n lt s).lp fs = some (lpPos k brk n lt s ss post, fs.setTime lt) :=
  jumpS_suffix hnd (at_lp hl hat) fs

theorem jump_le (fs : FS) : jumpS P n fs = some (lePos k brk n lt s ss post, fs.setTime (endL lt s.body)) :=
  jumpS_suffix hnd (at_tail hl hat) fs

/-- jump to the first label of the tail (`@cond#` of a `while`, `@times_zero#`) -/
theorem jump_tail {z : Nat} {tl : List AF}
    (htl : (lay k n lt s).tail = (endL lt s.body, .label z) :: tl) (fs : FS) :
    jumpS P z fs = some (tailPos k brk n lt s ss post, fs.setTime (endL lt s.body)) := by
  have h := at_tail hl hat
  have hp : tailPos k brk n lt s ss post = [] ++ (endL lt s.body, .label z) :: (tl ++ lePos k brk n lt s ss post) := by
    rw [tailPos, htl]; rfl
  rw [hp] at h ⊢
  exact jumpS_suffix hnd h fs

omit hl hat hnd

theorem CounterOK.frame {s : Stmt} {n : Nat} {j : Int32} {tm tm1 : Nat → Int32} {a a' : Nat}
    (h : CounterOK s n j tm) (hf : Frame a a' tm tm1) (ha : n + 1 < a) : CounterOK s n j tm1 := by
  cases s with
  | times clob count b =>
    cases clob with
    | none => simp only [CounterOK] at h ⊢; rw [hf (n+1) (Or.inl ha)]; exact h
    | some x => trivial
  | _ => trivial

end loops

end TruthModel.Blocks
