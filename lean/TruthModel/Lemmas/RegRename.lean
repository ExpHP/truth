import TruthModel.Props.C05
import TruthModel.Lemmas.BodyVM
/-
C02, composition with register assignment (C05): executing the stream AFTER `assign_registers` replaced every
local / temporary by its register does what executing the stream before does.  Under `InitOK` the timed machine `execT`
on the rewritten stream runs in lock step with `execT` on the original stream (`assign_preserves_execT`): same log with
the same `real_time` stamps, same time, and `Rel` at the end, so every mentioned register and every
non-general-purpose register ends with the same value.  The two facts of C05 that carry the proof: no two live
locals share a register (`Inv.inj`) and no register that is handed out is mentioned anywhere (`Inv.liveGood`,
`explicit .deep = mentioned`).
-/
namespace TruthModel.Lower
open TruthModel TruthModel.Regs TruthModel.C05

/-- what `assign_registers` does to the arguments of one statement -/
def renameJ (live : List (Def × Reg)) : JStmt → Option JStmt
  | .base (.instr i) => match rewriteList live i.args with
    | some as => some (.base (.instr { i with args := as }))
    | none => none
  | .condJmp m op ty a b l tm => match a.rewrite live, b.rewrite live with
    | some a', some b' => some (.condJmp m op ty a' b' l tm)
    | _, _ => none
  | .cmp m ty a b => match a.rewrite live, b.rewrite live with
    | some a', some b' => some (.cmp m ty a' b')
    | _, _ => none
  | .countJmp m k x l tm => match x.rewrite live with
    | some x' => some (.countJmp m k x' l tm)
    | none => none
  | s => some s

def _root_.TruthModel.Regs.Arg.isAtom : Arg → Bool
  | .switch _ => false
  | _ => true

/-- the operands `renameJ` rewrites: the arguments `toRegsStmtJ` lists in front of the jump arguments (`regs_mentioned`).
`readArgsOf` / `writeArgOf` below are those `execInstr` / `stepJ` reads / writes, by kind and arity as in `execInstr`'s `match`. -/
def stmtArgs : JStmt → List Arg
  | .base (.instr i) => i.args
  | .condJmp _ _ _ a b _ _ => [a, b]
  | .cmp _ _ a b => [a, b]
  | .countJmp _ _ x _ _ => [x]
  | _ => []

/-- registers `assign_registers` may hand out -/
def Allocatable (h : Hooks) (ex : List Reg) (r : Reg) : Prop :=
  (r ∈ h.general .int ∨ r ∈ h.general .float) ∧ r ∉ ex

/-- the store before (`σ`: locals are variables) and after (`τ`: locals live in registers): an initialised live local
has the value of its register; every register that is not allocatable has its own value -/
structure Rel (h : Hooks) (ex : List Reg) (live : List (Def × Reg)) (D : List Def) (σ τ : Store) : Prop where
  loc : ∀ d r, lookup live d = some r → d ∈ D → τ (.reg r) = σ (.loc d)
  reg : ∀ r, ¬ Allocatable h ex r → τ (.reg r) = σ (.reg r)

/-- what is used of `C05.Inv`, without its parameters -/
structure LiveOK (h : Hooks) (ex : List Reg) (live : List (Def × Reg)) : Prop where
  inj : ∀ e1 ∈ live, ∀ e2 ∈ live, e1.2 = e2.2 → e1.1 = e2.1
  alloc : ∀ e ∈ live, Allocatable h ex e.2

theorem liveOK_of_inv {h : Hooks} {tyOf : Def → RTy} {ex : List Reg} {st : State} (hi : Inv h tyOf ex [] st) :
    LiveOK h ex st.live where
  inj := fun e1 h1 e2 h2 he => hi.inj e1 h1 e2 h2 he List.not_mem_nil
  alloc := by
    intro e he
    have := hi.liveGood e he List.not_mem_nil
    refine ⟨?_, this.2⟩
    cases hty : tyOf e.1 with
    | int => rw [hty] at this; exact Or.inl this.1
    | float => rw [hty] at this; exact Or.inr this.1

theorem selectArg_atom (k : Nat) {a : Arg} (ha : a.isAtom = true) : selectArg 8 k a = a := by
  cases a with
  | switch cs => cases ha
  | _ => rfl

theorem rewrite_atom {live : List (Def × Reg)} {a a' : Arg} (ha : a.isAtom = true) (h : a.rewrite live = some a') :
    a'.isAtom = true := by
  cases a with
  | loc d ty =>
    simp only [Arg.rewrite] at h
    split at h
    · simp only [Option.some.injEq] at h; subst h; rfl
    · cases h
  | switch cs => cases ha
  | _ => simp only [Arg.rewrite, Option.some.injEq] at h; subst h; exact ha

theorem readArg_rewrite (F : FloatOps) (diff : Nat) {h : Hooks} {ex : List Reg} {live : List (Def × Reg)} {D : List Def}
    {σ τ : Store} (R : Rel h ex live D σ τ) {a a' : Arg} (ha : a.isAtom = true) (hrw : a.rewrite live = some a')
    (hD : ∀ d ty, a = .loc d ty → d ∈ D) (hex : ∀ r ∈ a.regs, r ∈ ex) :
    readArg F diff τ a' = readArg F diff σ a := by
  cases a with
  | raw r ty =>
    simp only [Arg.rewrite, Option.some.injEq] at hrw
    subst hrw
    have : τ (.reg r) = σ (.reg r) := R.reg r (fun hal => hal.2 (hex r (List.mem_singleton.mpr rfl)))
    simp only [readArg, selectArg, this]
  | loc d ty =>
    simp only [Arg.rewrite] at hrw
    split at hrw
    · rename_i r hl
      cases hrw
      have : τ (.reg r) = σ (.loc d) := R.loc d r hl (hD d ty rfl)
      simp only [readArg, selectArg, this]
    · cases hrw
  | switch cs => cases ha
  | _ => simp only [Arg.rewrite, Option.some.injEq] at hrw; subst hrw; rfl

theorem Rel.weaken {h : Hooks} {ex : List Reg} {live live' : List (Def × Reg)} {D D' : List Def} {σ τ : Store}
    (R : Rel h ex live D σ τ) (hl : ∀ d r, lookup live' d = some r → d ∈ D' → lookup live d = some r ∧ d ∈ D) :
    Rel h ex live' D' σ τ :=
  ⟨fun d r h1 h2 => R.loc d r (hl d r h1 h2).1 (hl d r h1 h2).2, R.reg⟩

theorem Rel.nilWrite {h : Hooks} {ex : List Reg} {live : List (Def × Reg)} {D : List Def} {σ τ : Store}
    (R : Rel h ex live D σ τ) : Rel h ex live ([] ++ D) σ τ := R

def argLocs : Arg → List Def
  | .loc d _ => [d]
  | _ => []

def readArgsOf : JStmt → List Arg
  | .base (.instr i) => match i.kind, i.args with
    | .assignOp .set _, [_, src] => [src]
    | .assignOp _ _, [dst, src] => [dst, src]
    | .binOp _ _, [_, a, b] => [a, b]
    | .unOp _ _, [_, a] => [a]
    | .plain _, args => args
    | _, _ => []
  | .condJmp _ _ _ a b _ _ => [a, b]
  | .cmp _ _ a b => [a, b]
  | .countJmp _ _ x _ _ => [x]
  | _ => []

def writeArgOf : JStmt → Option Arg
  | .base (.instr i) => match i.kind, i.args with
    | .assignOp _ _, [dst, _] => some dst
    | .binOp _ _, [dst, _, _] => some dst
    | .unOp _ _, [dst, _] => some dst
    | _, _ => none
  | .countJmp _ _ x _ _ => some x
  | _ => none

def readLocs (s : JStmt) : List Def := (readArgsOf s).flatMap argLocs
def writeLocs (diff : Nat) (s : JStmt) : List Def :=
  if maskOn (stmtMask s) diff then (match writeArgOf s with | some a => argLocs a | none => []) else []

theorem rewriteList_append {live : List (Def × Reg)} : ∀ {as bs as' bs' : List Arg},
    rewriteList live as = some as' → rewriteList live bs = some bs' → rewriteList live (as ++ bs) = some (as' ++ bs') := by
  intro as
  induction as with
  | nil => intro bs as' bs' h1 h2; rw [rewriteList_nil_inv h1]; exact h2
  | cons a as ih =>
    intro bs as' bs' h1 h2
    obtain ⟨a', t', rfl, ha, ht⟩ := rewriteList_cons_inv h1
    simp only [List.cons_append, rewriteList, ha, ih ht h2]

section store
variable {F : FloatOps} {diff : Nat} {h : Hooks} {ex : List Reg} {live : List (Def × Reg)} {D : List Def} {σ τ : Store}

theorem readArgs_rewrite (R : Rel h ex live D σ τ) {as : List Arg} : ∀ {as' : List Arg}, (∀ a ∈ as, a.isAtom = true) →
    rewriteList live as = some as' → (∀ a ∈ as, ∀ d ty, a = .loc d ty → d ∈ D) → (∀ a ∈ as, ∀ r ∈ a.regs, r ∈ ex) →
    readArgs F diff τ as' = readArgs F diff σ as := by
  induction as with
  | nil => intro as' _ hrw _ _; rw [rewriteList_nil_inv hrw]; rfl
  | cons a as ih =>
    intro as' hat hrw hD hex
    obtain ⟨a', t', rfl, h1, h2⟩ := rewriteList_cons_inv hrw
    have e1 := readArg_rewrite F diff R (hat a (List.mem_cons_self ..)) h1 (hD a (List.mem_cons_self ..)) (hex a (List.mem_cons_self ..))
    have e2 := ih (fun x hx => hat x (List.mem_cons_of_mem _ hx)) h2 (fun x hx => hD x (List.mem_cons_of_mem _ hx))
      (fun x hx => hex x (List.mem_cons_of_mem _ hx))
    simp only [readArgs, e1, e2]

theorem argLocs_mem {a : Arg} {d : Def} {ty : RTy} (h : a = .loc d ty) : d ∈ argLocs a := by subst h; exact List.mem_singleton.mpr rfl

theorem readArg_rename (R : Rel h ex live D σ τ) {s : JStmt} (hat : ∀ a ∈ stmtArgs s, a.isAtom = true)
    (hD : ∀ d ∈ readLocs s, d ∈ D) (hex : ∀ a ∈ stmtArgs s, ∀ r ∈ a.regs, r ∈ ex) {a a' : Arg} (hm : a ∈ stmtArgs s)
    (hr : a ∈ readArgsOf s) (hrw : a.rewrite live = some a') : readArg F diff τ a' = readArg F diff σ a :=
  readArg_rewrite F diff R (hat a hm) hrw (fun _ _ e => hD _ (List.mem_flatMap.mpr ⟨a, hr, argLocs_mem e⟩)) (hex a hm)

/-- a local counts as initialised once written.  Two facts of the live map carry this: no register that is handed out is
mentioned, and no two live locals share one. -/
theorem write_rewrite (R : Rel h ex live D σ τ) (L : LiveOK h ex live) {dst dst' : Arg} {x : VarName} (hrw : dst.rewrite live = some dst')
    (hx : argVar dst = some x) (hex : ∀ r ∈ dst.regs, r ∈ ex) (v : Value) :
    ∃ x', argVar dst' = some x' ∧ Rel h ex live (argLocs dst ++ D) (upd σ x v) (upd τ x' v) := by
  cases dst with
  | raw r ty =>
    simp only [Arg.rewrite, Option.some.injEq] at hrw
    subst hrw
    cases hx
    have hr : r ∈ ex := hex r (List.mem_singleton.mpr rfl)
    refine ⟨.reg r, rfl, ?_, ?_⟩
    · intro d r' hl hd
      have hne : r' ≠ r := fun e => (L.alloc (d, r') (mem_of_lookup hl)).2 (e ▸ hr)
      rw [upd_of_ne _ v (fun e => hne (VarName.reg.inj e)), upd_of_ne _ (x := .reg r) (y := .loc d) v nofun]
      exact R.loc d r' hl hd
    · intro r' hna
      by_cases e : r' = r
      · subst e; simp only [upd, if_true]
      · rw [upd_of_ne _ v (fun e' => e (VarName.reg.inj e')), upd_of_ne _ v (fun e' => e (VarName.reg.inj e'))]
        exact R.reg r' hna
  | loc d ty =>
    simp only [Arg.rewrite] at hrw
    split at hrw
    · rename_i r hl
      cases hrw
      cases hx
      refine ⟨.reg r, rfl, ?_, ?_⟩
      · intro d' r' hl' hd'
        by_cases e : d' = d
        · subst e
          cases hl.symm.trans hl'
          simp only [upd, if_true]
        · have hne : r' ≠ r := fun e' => e (L.inj (d', r') (mem_of_lookup hl') (d, r) (mem_of_lookup hl) e')
          rw [upd_of_ne _ v (fun e' => hne (VarName.reg.inj e')), upd_of_ne _ v (fun e' => e (VarName.loc.inj e'))]
          exact R.loc d' r' hl' ((List.mem_cons.mp hd').resolve_left e)
      · intro r' hna
        have hne : r' ≠ r := fun e => hna (e ▸ L.alloc (d, r) (mem_of_lookup hl))
        rw [upd_of_ne _ v (fun e' => hne (VarName.reg.inj e')), upd_of_ne _ (x := .loc d) (y := .reg r') v nofun]
        exact R.reg r' hna
    · cases hrw
  | _ => cases hx

theorem writeLocs_off {diff : Nat} {s : JStmt} (hm : maskOn (stmtMask s) diff = false) : writeLocs diff s = [] :=
  if_neg (fun h' => Bool.noConfusion (hm.symm.trans h'))

theorem writeLocs_on {diff : Nat} (s : JStmt) (hm : maskOn (stmtMask s) diff = true) :
    writeLocs diff s = match writeArgOf s with | some a => argLocs a | none => [] :=
  if_pos hm

theorem execInstr_rename (R : Rel h ex live D σ τ) (L : LiveOK h ex live) {i : LInstr} {as' : List Arg}
    {log : List (Nat × List Value)} {t : Int} {m1 : Machine}
    (hat : ∀ a ∈ i.args, a.isAtom = true) (hrw : rewriteList live i.args = some as')
    (hD : ∀ d ∈ readLocs (.base (.instr i)), d ∈ D) (hex : ∀ a ∈ i.args, ∀ r ∈ a.regs, r ∈ ex)
    (hrun : InstrStep F diff ⟨σ, log, t⟩ i m1) :
    ∃ τ1, InstrStep F diff ⟨τ, log, t⟩ { i with args := as' } ⟨τ1, m1.log, m1.time⟩ ∧
      Rel h ex live (writeLocs diff (.base (.instr i)) ++ D) m1.store τ1 := by
  have rd := @readArg_rename F diff h ex live D σ τ R (.base (.instr i)) hat hD hex
  have wr : ∀ {dst dst' : Arg} {x : VarName} (v : Value), maskOn i.mask diff = true → writeArgOf (.base (.instr i)) = some dst →
      dst ∈ i.args → dst.rewrite live = some dst' → argVar dst = some x →
      ∃ x', argVar dst' = some x' ∧ Rel h ex live (writeLocs diff (.base (.instr i)) ++ D) (upd σ x v) (upd τ x' v) :=
    fun v hm hw hmem hrw hx => by
      rw [writeLocs_on (.base (.instr i)) hm, hw]; exact write_rewrite R L hrw hx (hex _ hmem) v
  cases hrun with
  | off hm =>
    exact ⟨τ, .off hm, by rw [writeLocs_off (s := .base (.instr i)) hm]; exact R⟩
  | @set mask ty dst src x v hm hx hv =>
    obtain ⟨dst', _, rfl, hdst, h2⟩ := rewriteList_cons_inv hrw
    obtain ⟨src', _, rfl, hsrc, h3⟩ := rewriteList_cons_inv h2
    cases rewriteList_nil_inv h3
    obtain ⟨x', hx', R'⟩ := wr v hm rfl (.head _) hdst hx
    exact ⟨upd τ x' v, .set hm hx' ((rd (.tail _ (.head _)) (.head _) hsrc).trans hv), R'⟩
  | @assignOp mask op ty dst src x b va vb v hm hx hb ha hs hv =>
    obtain ⟨dst', _, rfl, hdst, h2⟩ := rewriteList_cons_inv hrw
    obtain ⟨src', _, rfl, hsrc, h3⟩ := rewriteList_cons_inv h2
    cases rewriteList_nil_inv h3
    obtain ⟨x', hx', R'⟩ := wr v hm rfl (.head _) hdst hx
    have hr : readArgsOf (.base (.instr ⟨mask, .assignOp op ty, [dst, src]⟩)) = [dst, src] := by
      cases op with
      | set => cases hb
      | _ => rfl
    exact ⟨upd τ x' v, .assignOp hm hx' hb ((rd (.head _) (by rw [hr]; exact .head _) hdst).trans ha)
      ((rd (.tail _ (.head _)) (by rw [hr]; exact .tail _ (.head _)) hsrc).trans hs) hv, R'⟩
  | @binOp mask op ty dst a b x va vb v hm hx ha hb hv =>
    obtain ⟨dst', _, rfl, hdst, h2⟩ := rewriteList_cons_inv hrw
    obtain ⟨a', _, rfl, ha', h3⟩ := rewriteList_cons_inv h2
    obtain ⟨b', _, rfl, hb', h4⟩ := rewriteList_cons_inv h3
    cases rewriteList_nil_inv h4
    obtain ⟨x', hx', R'⟩ := wr v hm rfl (.head _) hdst hx
    exact ⟨upd τ x' v, .binOp hm hx' ((rd (.tail _ (.head _)) (.head _) ha').trans ha)
      ((rd (.tail _ (.tail _ (.head _))) (.tail _ (.head _)) hb').trans hb) hv, R'⟩
  | @unOp mask op ty dst a x va v hm hx ha hv =>
    obtain ⟨dst', _, rfl, hdst, h2⟩ := rewriteList_cons_inv hrw
    obtain ⟨a', _, rfl, ha', h3⟩ := rewriteList_cons_inv h2
    cases rewriteList_nil_inv h3
    obtain ⟨x', hx', R'⟩ := wr v hm rfl (.head _) hdst hx
    exact ⟨upd τ x' v, .unOp hm hx' ((rd (.tail _ (.head _)) (.head _) ha').trans ha) hv, R'⟩
  | @plain mask opcode args vs hm hv =>
    have hra : readArgs F diff τ as' = readArgs F diff σ args :=
      readArgs_rewrite R hat hrw (fun a ha d ty e => hD d (List.mem_flatMap.mpr ⟨a, ha, argLocs_mem e⟩)) hex
    exact ⟨τ, .plain hm (hra.trans hv), by rw [writeLocs_on (.base (.instr ⟨mask, _, _⟩)) hm]; exact R⟩

/-- the rewrite touches operands only: marker and mask stay, and so does what `findLabelJ` sees of the statement -/
theorem renameJ_shape {s s' : JStmt} (hrn : renameJ live s = some s') :
    s'.isMarker = s.isMarker ∧ stmtMask s' = stmtMask s ∧
    ∀ (c c' : List JStmt) (l k : Nat), findLabelJ c' l (k + 1) = findLabelJ c l (k + 1) →
      findLabelJ (s' :: c') l k = findLabelJ (s :: c) l k := by
  revert hrn
  fun_cases renameJ live s
  case case1 => intro h; cases h; exact ⟨rfl, rfl, fun _ _ _ _ h => h⟩
  case case3 => intro h; cases h; exact ⟨rfl, rfl, fun _ _ _ _ h => h⟩
  case case5 => intro h; cases h; exact ⟨rfl, rfl, fun _ _ _ _ h => h⟩
  case case7 => intro h; cases h; exact ⟨rfl, rfl, fun _ _ _ _ h => h⟩
  case case9 =>
    intro h; cases h
    refine ⟨rfl, rfl, fun c c' l k h => ?_⟩
    cases s with
    | label t l' => simp only [findLabelJ, h]
    | _ => exact h
  all_goals nofun

theorem stepJ_rename (R : Rel h ex live D σ τ) (L : LiveOK h ex live) {s s' : JStmt}
    {log : List (Nat × List Value)} {t : Int} {cmp : Option (Value × Value)} {j1 : JM} {f : Flow}
    (hat : ∀ a ∈ stmtArgs s, a.isAtom = true) (hrn : renameJ live s = some s')
    (hD : ∀ d ∈ readLocs s, d ∈ D) (hex : ∀ a ∈ stmtArgs s, ∀ r ∈ a.regs, r ∈ ex)
    (hrun : JStep F diff ⟨⟨σ, log, t⟩, cmp⟩ s j1 f) :
    ∃ τ1, JStep F diff ⟨⟨τ, log, t⟩, cmp⟩ s' ⟨⟨τ1, j1.m.log, j1.m.time⟩, j1.cmp⟩ f ∧
      Rel h ex live (writeLocs diff s ++ D) j1.m.store τ1 := by
  have rd := @readArg_rename F diff h ex live D σ τ R s hat hD hex
  have R0 : writeArgOf s = none → Rel h ex live (writeLocs diff s ++ D) σ τ := fun h0 => by
    unfold writeLocs; rw [h0]; split <;> exact R
  cases hrun with
  | off hm =>
    refine ⟨τ, .off ((renameJ_shape hrn).2.1 ▸ hm), ?_⟩
    rw [writeLocs_off hm]; exact R
  | @base b m' hb =>
    cases b with
    | instr i =>
      simp only [renameJ] at hrn
      split at hrn
      · rename_i as' hrw
        cases hrn
        obtain ⟨τ1, hτ, R'⟩ := execInstr_rename R L hat hrw hD hex (.of_exec hb)
        exact ⟨τ1, .base (b := .instr { i with args := as' }) hτ.exec, R'⟩
      · cases hrn
    | _ => cases hrn; cases hb; exact ⟨τ, .base rfl, R0 rfl⟩
  | label => cases hrn; exact ⟨τ, .label, R0 rfl⟩
  | jmp hm => cases hrn; exact ⟨τ, .jmp hm, R0 rfl⟩
  | cmpJmp hm hc hf => cases hrn; exact ⟨τ, .cmpJmp hm hc hf, R0 rfl⟩
  | condJmp hm ha hb hf =>
    simp only [renameJ] at hrn
    split at hrn
    · rename_i a' b' ha' hb'
      cases hrn
      exact ⟨τ, .condJmp hm ((rd (.head _) (.head _) ha').trans ha) ((rd (.tail _ (.head _)) (.tail _ (.head _)) hb').trans hb) hf,
        R0 rfl⟩
    · cases hrn
  | cmp hm ha hb =>
    simp only [renameJ] at hrn
    split at hrn
    · rename_i a' b' ha' hb'
      cases hrn
      exact ⟨τ, .cmp hm ((rd (.head _) (.head _) ha').trans ha) ((rd (.tail _ (.head _)) (.tail _ (.head _)) hb').trans hb),
        R0 rfl⟩
    · cases hrn
  | @countJmp mask k x l time name n hm hx hv =>
    simp only [renameJ] at hrn
    split at hrn
    · rename_i x' hx'
      cases hrn
      obtain ⟨name', hn', R'⟩ := write_rewrite R L hx' hx (hex x (.head _)) (.int (n - 1))
      exact ⟨_, .countJmp hm hn' ((rd (.head _) (.head _) hx').trans hv),
        by rw [writeLocs_on (.countJmp mask k x l time) hm]; exact R'⟩
    · cases hrn
end store

/-- `Regs.run` over the stream, keeping the state in front of every statement (and the final one) and the
statements with their arguments rewritten -/
def scanJ (h : Hooks) (tyOf : Def → RTy) (clash : List Reg) (I : JIntrinsics) (order : JumpOrder) :
    State → List (Int × JStmt) → Outcome (List State × List (Int × JStmt))
  | st, [] => .ok ([st], [])
  | st, (t, s) :: rest => match step h tyOf clash st (toRegsStmtJ I order t s), renameJ st.live s with
    | .ok st', some s' => match scanJ h tyOf clash I order st' rest with
      | .ok (sts, P') => .ok (st :: sts, (t, s') :: P')
      | .err c => .err c
      | .panic p => .panic p
    | .ok _, none => .panic "index out of bounds: local_regs[&def_id]"
    | .err c, _ => .err c
    | .panic p, _ => .panic p

section scan
variable {h : Hooks} {tyOf : Def → RTy} {clash : List Reg} {I : JIntrinsics} {order : JumpOrder}

theorem rewriteList_jumpArgs (live : List (Def × Reg)) (order : JumpOrder) (l : Nat) (tm : Option Int) :
    rewriteList live (jumpArgs order l tm) = some (jumpArgs order l tm) := by
  cases order <;> cases tm <;> rfl

theorem step_stmtJ {st st' : State} {t : Int} {s : JStmt} (hs : step h tyOf clash st (toRegsStmtJ I order t s) = .ok st') :
    ∃ s', renameJ st.live s = some s' ∧ st'.out = toRegsStmtJ I order t s' :: st.out ∧
      ∀ d r, lookup st'.live d = some r → lookup st.live d = some r ∨ ∃ ty, s = .base (.alloc d ty) := by
  have keep : st'.live = st.live → ∀ d r, lookup st'.live d = some r →
      lookup st.live d = some r ∨ ∃ ty, s = .base (.alloc d ty) := fun e d r hl => Or.inl (e ▸ hl)
  cases s with
  | base b =>
    cases b with
    | alloc d0 ty =>
      obtain ⟨r0, rest, _, _, rfl⟩ := step_alloc_ok hs
      refine ⟨_, rfl, rfl, fun d r hl => ?_⟩
      simp only [lookup] at hl
      split at hl
      · rename_i e; subst e; exact Or.inr ⟨ty, rfl⟩
      · exact Or.inl (by cases tyOf d0 <;> exact hl)
    | free d0 =>
      obtain ⟨_, _, rfl⟩ := step_free_ok hs
      exact ⟨_, rfl, by cases tyOf d0 <;> rfl, fun d r hl => Or.inl (lookup_remove (by cases tyOf d0 <;> exact hl))⟩
    | instr i =>
      obtain ⟨as', hrw, hout, hlive⟩ := step_instr hs
      exact ⟨.base (.instr { i with args := as' }), by simp only [renameJ, hrw], hout, keep hlive⟩
  | label tl l => cases hs; exact ⟨_, rfl, rfl, keep rfl⟩
  | jmp | cmpJmp =>
    obtain ⟨as', hrw, hout, hlive⟩ := step_instr hs
    cases (rewriteList_jumpArgs _ _ _ _).symm.trans hrw
    exact ⟨_, rfl, hout, keep hlive⟩
  | condJmp m op ty a b l tm =>
    obtain ⟨as', hrw, hout, hlive⟩ := step_instr hs
    obtain ⟨a', _, rfl, ha, h2⟩ := rewriteList_cons_inv hrw
    obtain ⟨b', _, rfl, hb, h3⟩ := rewriteList_cons_inv h2
    cases (rewriteList_jumpArgs _ _ _ _).symm.trans h3
    exact ⟨.condJmp m op ty a' b' l tm, by simp only [renameJ, ha, hb], hout, keep hlive⟩
  | cmp m ty a b =>
    obtain ⟨as', hrw, hout, hlive⟩ := step_instr hs
    obtain ⟨a', _, rfl, ha, h2⟩ := rewriteList_cons_inv hrw
    obtain ⟨b', _, rfl, hb, h3⟩ := rewriteList_cons_inv h2
    cases rewriteList_nil_inv h3
    exact ⟨.cmp m ty a' b', by simp only [renameJ, ha, hb], hout, keep hlive⟩
  | countJmp m k x l tm =>
    obtain ⟨as', hrw, hout, hlive⟩ := step_instr hs
    obtain ⟨x', _, rfl, hx, h2⟩ := rewriteList_cons_inv hrw
    cases (rewriteList_jumpArgs _ _ _ _).symm.trans h2
    exact ⟨.countJmp m k x' l tm, by simp only [renameJ, hx], hout, keep hlive⟩

theorem scanJ_head {P : List (Int × JStmt)} {st : State} {sts : List State} {P' : List (Int × JStmt)}
    (hs : scanJ h tyOf clash I order st P = .ok (sts, P')) : sts[0]? = some st := by
  revert hs
  fun_cases scanJ h tyOf clash I order st P
  case case1 => intro hs; cases hs; rfl
  case case2 => intro hs; cases hs; rfl
  all_goals nofun

theorem scanJ_get {ex : List Reg} {P : List (Int × JStmt)} {st : State} {sts : List State} {P' : List (Int × JStmt)}
    (hi : Inv h tyOf ex [] st) (hs : scanJ h tyOf clash I order st P = .ok (sts, P')) : P'.length = P.length ∧
    ∀ pc t s, P[pc]? = some (t, s) → ∃ stp stn s', sts[pc]? = some stp ∧ sts[pc + 1]? = some stn ∧ Inv h tyOf ex [] stp ∧
      step h tyOf clash stp (toRegsStmtJ I order t s) = .ok stn ∧ renameJ stp.live s = some s' ∧ P'[pc]? = some (t, s') := by
  revert hi hs
  fun_induction scanJ h tyOf clash I order st P generalizing sts P' with
  | case1 => intro _ hs; cases hs; exact ⟨rfl, fun pc t s hp => nomatch hp⟩
  | case2 st t s rest st' s' h2 h1 sts' P'' h3 ih =>
    intro hi hs
    cases hs
    obtain ⟨hlen, hget⟩ := ih (step_inv hi (stmtOk_nil _) h1) h3
    refine ⟨congrArg (· + 1) hlen, fun pc t s hp => ?_⟩
    cases pc with
    | zero =>
      cases hp
      exact ⟨st, st', s', rfl, scanJ_head h3, hi, h1, h2, rfl⟩
    | succ pc => exact hget pc t s hp
  | _ => nofun

theorem scanJ_labels {P : List (Int × JStmt)} {st : State} {sts : List State} {P' : List (Int × JStmt)} (l k : Nat)
    (hs : scanJ h tyOf clash I order st P = .ok (sts, P')) : findLabelJ (P'.map (·.2)) l k = findLabelJ (P.map (·.2)) l k := by
  revert hs
  fun_induction scanJ h tyOf clash I order st P generalizing sts P' k with
  | case1 => intro hs; cases hs; rfl
  | case2 st t s rest st' s' h2 h1 sts' P'' h3 ih =>
    intro hs
    cases hs
    exact (renameJ_shape h2).2.2 _ _ l k (ih (k + 1) h3)
  | _ => nofun

end scan

/-- every register an operand of the stream names is `mentioned` (C05's specification of "explicitly used") -/
theorem regs_mentioned {I : JIntrinsics} {order : JumpOrder} {P : List (Int × JStmt)} {pc : Nat} {t : Int} {s : JStmt}
    (hp : P[pc]? = some (t, s)) {a : Arg} (ha : a ∈ stmtArgs s) {r : Reg} (hr : r ∈ a.regs) :
    r ∈ mentioned (P.map (fun x => toRegsStmtJ I order x.1 x.2)) := by
  have hmem : (t, s) ∈ P := List.mem_of_getElem? hp
  refine List.mem_flatMap.mpr ⟨toRegsStmtJ I order t s, List.mem_map.mpr ⟨(t, s), hmem, rfl⟩, List.mem_flatMap.mpr ⟨a, ?_, hr⟩⟩
  -- the operands come first among the arguments of the instruction
  cases s with
  | base b =>
    cases b with
    | instr i => exact ha
    | _ => cases ha
  | condJmp | countJmp => exact List.mem_append_left _ ha
  | cmp => exact ha
  | _ => cases ha

/-- what has to be known about the program besides the success of `assign_registers`: an annotation `D pc` of locals
certainly initialised in front of statement `pc` (every local read is in it; it only grows by what a statement writes;
a fresh `alloc` is not in it) that is consistent along every jump, and scopes that are lexical along every jump (what is
live at the target of a jump is live, in the same register, at the jump) -/
structure InitOK (diff : Nat) (P : List (Int × JStmt)) (sts : List State) (D : Nat → List Def) : Prop where
  atoms : ∀ (pc : Nat) (t : Int) (s : JStmt), P[pc]? = some (t, s) → ∀ a ∈ stmtArgs s, a.isAtom = true
  reads : ∀ (pc : Nat) (t : Int) (s : JStmt), P[pc]? = some (t, s) → ∀ d ∈ readLocs s, d ∈ D pc
  next : ∀ (pc : Nat) (t : Int) (s : JStmt), P[pc]? = some (t, s) → ∀ d ∈ D (pc + 1), d ∈ writeLocs diff s ∨ d ∈ D pc
  alloc : ∀ (pc : Nat) (t : Int) (d : Def) (ty : RTy), P[pc]? = some (t, JStmt.base (.alloc d ty)) → d ∉ D (pc + 1)
  jump : ∀ (pc : Nat) (t : Int) (s : JStmt) (l : Nat) (tm : Option Int) (i : Nat) (tl : Int), P[pc]? = some (t, s) → jumpOf s = some (l, tm) →
    findLabelJ (P.map (·.2)) l 0 = some (i, tl) →
    (∀ d ∈ D i, d ∈ writeLocs diff s ∨ d ∈ D pc) ∧
    (∀ stp sti, sts[pc]? = some stp → sts[i]? = some sti → ∀ d r, lookup sti.live d = some r → lookup stp.live d = some r)

def liveAt (sts : List State) (pc : Nat) : List (Def × Reg) :=
  match sts[pc]? with
  | some st => st.live
  | none => []

structure RelT (h : Hooks) (ex : List Reg) (live : List (Def × Reg)) (D : List Def) (s u : TVM) : Prop where
  real : u.vm.real = s.vm.real
  stamps : u.vm.stamps = s.vm.stamps
  log : u.vm.m.log = s.vm.m.log
  time : u.vm.m.time = s.vm.m.time
  cmp : u.cmp = s.cmp
  store : Rel h ex live D s.vm.m.store u.vm.m.store

theorem RelT.waitTo {h : Hooks} {ex : List Reg} {live : List (Def × Reg)} {D : List Def} {s u : TVM}
    (R : RelT h ex live D s u) (t : Int) : RelT h ex live D ⟨s.vm.waitTo t, s.cmp⟩ ⟨u.vm.waitTo t, u.cmp⟩ :=
  have hc := VM.waitTo_congr t R.time R.real
  ⟨hc.2, by rw [VM.waitTo_stamps, VM.waitTo_stamps]; exact R.stamps, by rw [VM.waitTo_log, VM.waitTo_log]; exact R.log, hc.1,
    R.cmp, by rw [VM.waitTo_store, VM.waitTo_store]; exact R.store⟩

theorem RelT.after {h : Hooks} {ex : List Reg} {live live' : List (Def × Reg)} {D D' : List Def} {s u : TVM}
    (R : RelT h ex live D s u) {m1 : Machine} {τ1 : Store} (c : Option (Value × Value))
    (hs : Rel h ex live' D' m1.store τ1) : RelT h ex live' D' ⟨s.vm.after m1, c⟩ ⟨u.vm.after ⟨τ1, m1.log, m1.time⟩, c⟩ :=
  ⟨R.real, by simp only [VM.after, R.stamps, R.log, R.real], rfl, rfl, rfl, hs⟩

theorem RelT.setTime {h : Hooks} {ex : List Reg} {live : List (Def × Reg)} {D : List Def} {s u : TVM}
    (R : RelT h ex live D s u) (t : Int) : RelT h ex live D ⟨s.vm.setTime t, s.cmp⟩ ⟨u.vm.setTime t, u.cmp⟩ :=
  ⟨R.real, R.stamps, R.log, rfl, R.cmp, R.store⟩

section whole
variable {F : FloatOps} {diff : Nat} {h : Hooks} {tyOf : Def → RTy} {clash : List Reg} {I : JIntrinsics} {order : JumpOrder}
  {P P' : List (Int × JStmt)} {sts : List State} {st0 : State} {D : Nat → List Def} {ex : List Reg}

theorem stepT_rename (hscan : scanJ h tyOf clash I order st0 P = .ok (sts, P'))
    (hinv : Inv h tyOf ex [] st0)
    (hexm : ∀ (pc : Nat) (t : Int) (s : JStmt), P[pc]? = some (t, s) → ∀ a ∈ stmtArgs s, ∀ r ∈ a.regs, r ∈ ex)
    (hD : InitOK diff P sts D) {pc : Nat} {s u : TVM}
    (R : RelT h ex (liveAt sts pc) (D pc) s u) :
    (stepT F diff P pc s = .ok none → stepT F diff P' pc u = .ok none) ∧
    (∀ pc' s', stepT F diff P pc s = .ok (some (pc', s')) →
      ∃ u', stepT F diff P' pc u = .ok (some (pc', u')) ∧
        RelT h ex (liveAt sts pc') (D pc') s' u') := by
  obtain ⟨hlen, hget⟩ := scanJ_get hinv hscan
  refine ⟨fun hst => ?_, fun pc' s' hst => ?_⟩
  · have hp := stepT_none hst
    rw [List.getElem?_eq_none_iff, ← hlen, ← List.getElem?_eq_none_iff] at hp
    simp only [stepT, hp]
  · obtain ⟨t, st, v1s, j1, f, hp, hv1s, hj, hnext⟩ := stepT_some hst
    obtain ⟨stp, stn, st', hsp, hsn, hip, hstp, hrn, hp'⟩ := hget pc t st hp
    have hlive : liveAt sts pc = stp.live := by simp only [liveAt, hsp]
    have hliven : liveAt sts (pc + 1) = stn.live := by simp only [liveAt, hsn]
    have L := liveOK_of_inv hip
    have hmk := (renameJ_shape hrn).1
    -- both machines wait (or not) alike
    obtain ⟨v1u, hv1u, R1⟩ : ∃ v1u, (if st'.isMarker then u.vm else u.vm.waitTo t) = v1u ∧
        RelT h ex stp.live (D pc) ⟨v1s, s.cmp⟩ ⟨v1u, u.cmp⟩ := by
      rw [hmk, ← hlive, ← hv1s]
      cases st.isMarker
      · exact ⟨_, rfl, R.waitTo t⟩
      · exact ⟨_, rfl, R⟩
    obtain ⟨τ1, hju, Rw⟩ := stepJ_rename R1.store L (hD.atoms pc t st hp) hrn (hD.reads pc t st hp)
      (hexm pc t st hp) (.of_exec (show stepJ F diff ⟨⟨v1s.m.store, v1s.m.log, v1s.m.time⟩, s.cmp⟩ st = .ok (j1, f) from hj))
    have hju' : stepJ F diff ⟨v1u.m, u.cmp⟩ st' = .ok (⟨⟨τ1, j1.m.log, j1.m.time⟩, j1.cmp⟩, f) := by
      have : (⟨v1u.m, u.cmp⟩ : JM) = ⟨⟨v1u.m.store, v1s.m.log, v1s.m.time⟩, s.cmp⟩ := by
        rw [← R1.log, ← R1.time, ← R1.cmp]
      rw [this]; exact hju.exec
    cases f with
    | next =>
      obtain ⟨rfl, rfl⟩ := hnext
      refine ⟨⟨v1u.after ⟨τ1, j1.m.log, j1.m.time⟩, j1.cmp⟩, stepT_next hp' hv1u hju', ?_⟩
      rw [hliven]
      refine R1.after j1.cmp (Rw.weaken ?_)
      intro d r hl hd
      obtain ⟨_, _, _, hlv⟩ := step_stmtJ hstp
      rcases hlv d r hl with h1 | ⟨ty, rfl⟩
      · exact ⟨h1, List.mem_append.mpr (hD.next pc t st hp d hd)⟩
      · exact absurd hd (hD.alloc pc t d ty hp)
    | jump l tm =>
      obtain ⟨tl, hfl, rfl⟩ := hnext
      have hfl' : findLabelJ (P'.map (·.2)) l 0 = some (pc', tl) := by rw [scanJ_labels l 0 hscan]; exact hfl
      refine ⟨⟨(v1u.after ⟨τ1, j1.m.log, j1.m.time⟩).setTime (tm.getD tl), j1.cmp⟩, stepT_jump hp' hv1u hju' hfl', ?_⟩
      obtain ⟨hDi, hLi⟩ := hD.jump pc t st l tm pc' tl hp (stepJ_jump hj) hfl
      refine (R1.after j1.cmp (Rw.weaken ?_)).setTime _
      intro d r hl hd
      cases hsi : sts[pc']? with
      | none => simp only [liveAt, hsi] at hl; cases hl
      | some sti =>
        have hl' : lookup sti.live d = some r := by simp only [liveAt, hsi] at hl; exact hl
        exact ⟨hLi stp sti hsp hsi d r hl', List.mem_append.mpr (hDi d hd)⟩

/-- **assign_preserves_execT**: the stream with every local replaced by the register `assign_registers` gave it runs
in lock step with the stream before the replacement -/
theorem assign_preserves_execT (hscan : scanJ h tyOf clash I order st0 P = .ok (sts, P'))
    (hinv : Inv h tyOf ex [] st0)
    (hexm : ∀ (pc : Nat) (t : Int) (s : JStmt), P[pc]? = some (t, s) → ∀ a ∈ stmtArgs s, ∀ r ∈ a.regs, r ∈ ex)
    (hD : InitOK diff P sts D) :
    ∀ (fuel pc : Nat) (s u sf : TVM), execT F diff P fuel pc s = .ok sf →
      RelT h ex (liveAt sts pc) (D pc) s u →
      ∃ uf pcf, execT F diff P' fuel pc u = .ok uf ∧
        RelT h ex (liveAt sts pcf) (D pcf) sf uf := by
  intro fuel pc s
  fun_induction execT F diff P fuel pc s with
  | case2 fuel pc s hst =>
    intro u sf hrun R
    cases hrun
    exact ⟨u, pc, by rw [execT, (stepT_rename (F := F) hscan hinv hexm hD R).1 hst], R⟩
  | case3 fuel pc s pc' s' hst ih =>
    intro u sf hrun R
    obtain ⟨u', hu', R'⟩ := (stepT_rename (F := F) hscan hinv hexm hD R).2 pc' s' hst
    obtain ⟨uf, pcf, hf, Rf⟩ := ih u' sf hrun R'
    exact ⟨uf, pcf, by rw [execT, hu']; exact hf, Rf⟩
  | case1 | case4 | case5 => intro _ _ h; cases h

end whole

section loop
variable {h : Hooks} {tyOf : Def → RTy} {clash : List Reg} {I : JIntrinsics} {order : JumpOrder}

/-- `scanJ` is the loop of `assign_registers`: same success, same output stream -/
theorem scanJ_of_run :
    ∀ (P : List (Int × JStmt)) (st stf : State),
    run h tyOf clash st (P.map (fun x => toRegsStmtJ I order x.1 x.2)) = .ok stf →
    ∃ sts P', scanJ h tyOf clash I order st P = .ok (sts, P') ∧
      stf.out = (P'.map (fun x => toRegsStmtJ I order x.1 x.2)).reverse ++ st.out := by
  intro P
  induction P with
  | nil => intro st stf hr; cases hr; exact ⟨[st], [], rfl, rfl⟩
  | cons ts rest ih =>
    intro st stf hr
    obtain ⟨t, s⟩ := ts
    simp only [List.map_cons, run] at hr
    split at hr
    · rename_i st' h1
      obtain ⟨s', hrn, hout, _⟩ := step_stmtJ h1
      obtain ⟨sts, P', hsc, hout'⟩ := ih st' stf hr
      refine ⟨st :: sts, (t, s') :: P', by simp only [scanJ, h1, hrn, hsc], ?_⟩
      rw [hout', hout, List.map_cons, List.reverse_cons, List.append_assoc]
      rfl
    all_goals cases hr

end loop

/-- the same for `assign_registers` as a whole (no parameters, the repaired explicit-register scan) -/
theorem scanJ_of_assign {h : Hooks} {tyOf : Def → RTy} {I : JIntrinsics} {order : JumpOrder} {P : List (Int × JStmt)} {res : Result}
    (ha : assign .deep h tyOf [] (P.map (fun x => toRegsStmtJ I order x.1 x.2)) = .ok res) :
    ∃ sts P', scanJ h tyOf (clashing (mentioned (P.map (fun x => toRegsStmtJ I order x.1 x.2))) []) I order
        (init h (mentioned (P.map (fun x => toRegsStmtJ I order x.1 x.2))) []) P = .ok (sts, P') ∧
      res.stream = P'.map (fun x => toRegsStmtJ I order x.1 x.2) := by
  simp only [assign, explicit_deep_eq_mentioned] at ha
  split at ha
  · rename_i stf hr
    split at ha
    · cases ha
    · cases ha
      obtain ⟨sts, P', hsc, hout⟩ := scanJ_of_run P _ stf hr
      exact ⟨sts, P', hsc, by simp [hout, init]⟩
  all_goals cases ha

def initStep (diff : Nat) (D : List Def) : JStmt → List Def
  | .base (.alloc d _) => D.filter (· ≠ d)
  | s => writeLocs diff s ++ D

/-- what is certainly initialised in front of statement `pc`, going through the stream in order -/
def linD (diff : Nat) (P : List (Int × JStmt)) : Nat → List Def
  | 0 => []
  | pc + 1 => match P[pc]? with
    | some (_, s) => initStep diff (linD diff P pc) s
    | none => linD diff P pc

/-- a stream without jumps in which every operand is a single operand and every local is written before it is read
(in stream order) satisfies `InitOK` with the linear analysis -/
theorem initOK_linear (diff : Nat) (P : List (Int × JStmt)) (sts : List State)
    (hnj : ∀ (pc : Nat) (t : Int) (s : JStmt), P[pc]? = some (t, s) → jumpOf s = none)
    (hat : ∀ (pc : Nat) (t : Int) (s : JStmt), P[pc]? = some (t, s) → ∀ a ∈ stmtArgs s, a.isAtom = true)
    (hrd : ∀ (pc : Nat) (t : Int) (s : JStmt), P[pc]? = some (t, s) → ∀ d ∈ readLocs s, d ∈ linD diff P pc) :
    InitOK diff P sts (linD diff P) where
  atoms := hat
  reads := hrd
  next := by
    intro pc t s hp d hd
    simp only [linD, hp] at hd
    cases s with
    | base b =>
      cases b with
      | alloc d0 ty => exact Or.inr (List.mem_filter.mp hd).1
      | _ => exact List.mem_append.mp hd
    | _ => exact List.mem_append.mp hd
  alloc := by
    intro pc t d ty hp hd
    simp only [linD, hp, initStep, List.mem_filter] at hd
    exact of_decide_eq_true hd.2 rfl
  jump := by
    intro pc t s l tm i tl hp hj
    rw [hnj pc t s hp] at hj
    cases hj

end TruthModel.Lower
