import TruthModel.Model.Basic
/-
How the outcome of a binary reader or writer is described.

Readers (C16).  `Ends L Q o`: `o` is a value satisfying `Q`, or one of the diagnostics `L`, and not a panic.  One walk
through a reader's definition proves `Ends L Q (reader bs)`; "never panics", "only these diagnostics" and "a result
satisfies `Q`" (bytes consumed, sizes built) are its three projections.

Writers (C03).  `Wrote o good bad a`: `o` is the value `a` and `good` holds, or a diagnostic and `good` does not hold, or a
panic and `bad` holds.  `a` is the layout of the format, a function of what was asked with no `Outcome` in it; one walk
through a writer's definition proves `Wrote (writer x) (Fits x) bad (bytes x)`, and the failure condition (`Decides`),
"what it accepts fits" and "what it wrote is `bytes x`" are projections.  The round trips are then theorems about
`bytes x` alone.

A step whose conclusion spells out a `match` of the model (`Wrote.append` here; `Ends.nat`, `Ends.f2` and their siblings in
`Props/C16Instr.lean`, `Props/C16Files.lean`, where the primitive reads are known) has to be stated at the model's
concrete types, one lemma per type of the scrutinee and order of the arms: the `match` of a statement with a type variable
is another matcher, and the step then fails to apply with a mismatch between two terms that print alike.  The steps past
a sub-reader or a part of a writer (`Ends.step`, `Wrote.step`) have no `match` in their statements: they ask for what the
whole does when its first part fails, which rewriting the first part in the whole settles for any `match`.
-/
namespace TruthModel.C16
open TruthModel

theorem ne_panic_of {α} {o : Outcome α} (h : o.isPanic = false) (p : String) : o ≠ .panic p := by
  intro e; rw [e] at h; cases h

def ErrIn {α} (l : List String) (o : Outcome α) : Prop := ∀ c, o = .err c → c ∈ l

theorem ErrIn.mono {α} {l l' : List String} {o : Outcome α} (h : ErrIn l o) (hs : ∀ c ∈ l, c ∈ l') : ErrIn l' o :=
  fun c hc => hs c (h c hc)

theorem total_of {α} {l : List String} {o : Outcome α} (hp : o.isPanic = false) (he : ErrIn l o) :
    (∃ a, o = .ok a) ∨ ∃ c ∈ l, o = .err c := by
  cases o with
  | ok a => exact .inl ⟨a, rfl⟩
  | err c => exact .inr ⟨c, he c rfl, rfl⟩
  | panic p => cases hp

def Ends {α} (L : List String) (Q : α → Prop) : Outcome α → Prop
  | .ok a => Q a
  | .err c => c ∈ L
  | .panic _ => False

namespace Ends
variable {α β : Type} {L L' : List String} {Q : α → Prop} {Q' : β → Prop} {o : Outcome α}

theorem ok {a : α} (h : Q a) : Ends L Q (.ok a) := h

theorem err {c : String} (h : c ∈ L) : Ends L Q (.err c) := h

theorem isPanic (h : Ends L Q o) : o.isPanic = false := by
  cases o with
  | panic p => exact h.elim
  | ok a => rfl
  | err c => rfl

theorem ne_panic (h : Ends L Q o) (p : String) : o ≠ .panic p := ne_panic_of h.isPanic p

theorem errIn (h : Ends L Q o) : ErrIn L o := by
  intro c hc; subst hc; exact h

theorem of_ok (h : Ends L Q o) {a : α} (ha : o = .ok a) : Q a := by
  subst ha; exact h

theorem total (h : Ends L Q o) : (∃ a, o = .ok a) ∨ ∃ c ∈ L, o = .err c := total_of h.isPanic h.errIn

theorem err_of {c : String} (h : Ends L Q o) (hc : o = .err c) (hL : ∀ c ∈ L, c ∈ L') : Ends L' Q' (.err c : Outcome β) :=
  hL c (h.errIn c hc)

theorem pass_err {c : String} (h : Ends L Q o) (hc : o = .err c) : Ends L Q' (.err c : Outcome β) :=
  h.err_of hc fun _ h => h

/-- an inner reader's panic cannot occur, so the caller's arm that passes it on is vacuous -/
theorem panic_of {p : String} (h : Ends L Q o) (hp : o = .panic p) : Ends L' Q' (.panic p : Outcome β) :=
  h.ne_panic p hp

/-- One step of a reader `m` that first runs the sub-reader `x` and passes its failure on: what remains is `m` after `x`
has returned `a` (`rw` with the equation, as after `split`).  `herr` is discharged by rewriting `x` in `m`, whatever
the order and patterns of the model's `match`; compare `C03.Wrote.step`. -/
theorem step {x : Outcome α} {m : Outcome β} (hx : Ends L Q x) (hok : ∀ a, x = .ok a → Q a → Ends L Q' m)
    (herr : ∀ c, x = .err c → m = .err c := by exact fun c hc => by rw [hc]) : Ends L Q' m := by
  cases h : x with
  | ok a => exact hok a h (hx.of_ok h)
  | err c => rw [herr c h]; exact hx.pass_err h
  | panic p => exact (hx.ne_panic p h).elim

/-- a conditional: used instead of `split`, which rewrites the whole remaining reader -/
theorem ite {c : Prop} [Decidable c] {a b : Outcome α} (ht : c → Ends L Q a) (hf : ¬ c → Ends L Q b) :
    Ends L Q (if c then a else b) := by
  by_cases h : c
  · rw [if_pos h]; exact ht h
  · rw [if_neg h]; exact hf h

theorem mono {Q₂ : α → Prop} (h : Ends L Q o) (hL : ∀ c ∈ L, c ∈ L') (hQ : ∀ a, Q a → Q₂ a) : Ends L' Q₂ o := by
  cases o with
  | ok a => exact hQ a h
  | err c => exact hL c h
  | panic p => exact h

end Ends

end TruthModel.C16

namespace TruthModel.C03
open TruthModel

def Decides {α} (o : Outcome α) (good : Prop) : Prop :=
  (good → ∃ a, o = .ok a) ∧ (¬ good → ∃ c, o = .err c)

theorem Decides.no_panic {α} {o : Outcome α} {good : Prop} (h : Decides o good) : o.isPanic = false := by
  by_cases hg : good
  · obtain ⟨a, ha⟩ := h.1 hg; rw [ha]; rfl
  · obtain ⟨c, hc⟩ := h.2 hg; rw [hc]; rfl

theorem Decides.err_iff {α} {o : Outcome α} {good : Prop} (h : Decides o good) : (∃ c, o = .err c) ↔ ¬ good := by
  constructor
  · rintro ⟨c, hc⟩ hg
    obtain ⟨a, ha⟩ := h.1 hg
    rw [ha] at hc; cases hc
  · exact h.2

def Wrote {α} (o : Outcome α) (good bad : Prop) (a : α) : Prop :=
  match o with
  | .ok b => good ∧ b = a
  | .err _ => ¬ good
  | .panic _ => bad

namespace Wrote
variable {α β : Type} {o : Outcome α} {good bad : Prop} {a : α}

theorem of_ok {b : α} (h : Wrote o good bad a) (e : o = .ok b) : good ∧ b = a := by subst e; exact h

theorem of_panic {p : String} (h : Wrote o good bad a) (e : o = .panic p) : bad := by subst e; exact h

theorem eq_ok (h : Wrote o good bad a) (hg : good) (hb : ¬ bad := by exact id) : o = .ok a := by
  cases o with
  | ok b => rw [h.2]
  | err c => exact absurd hg h
  | panic s => exact absurd h hb

theorem decides (h : Wrote o good bad a) (hb : ¬ bad := by exact id) : Decides o good := by
  cases o with
  | ok b => exact ⟨fun _ => ⟨b, rfl⟩, fun hn => absurd h.1 hn⟩
  | err c => exact ⟨fun hg => absurd hg h, fun _ => ⟨c, rfl⟩⟩
  | panic s => exact absurd h hb

theorem iff {good' : Prop} (h : Wrote o good bad a) (e : good ↔ good') : Wrote o good' bad a := by
  cases o with
  | ok b => exact ⟨e.1 h.1, h.2⟩
  | err c => exact fun hg => h (e.2 hg)
  | panic s => exact h

theorem mono {bad' : Prop} (h : Wrote o good bad a) (hb : bad → bad') : Wrote o good bad' a := by
  cases o with
  | ok b => exact h
  | err c => exact h
  | panic s => exact hb h

theorem ok (a : α) : Wrote (.ok a) True bad a := ⟨trivial, rfl⟩

/-- One step of a writer `o` that first runs `o₁`: if `o₁` fails or panics so does `o`, and if `o₁` returns `a`, `o` is described
by what follows.  (The hypotheses are discharged by rewriting `o₁` in `o`.) -/
theorem stepP {o₁ : Outcome α} {o : Outcome β} {p q : Prop} {b : β} (h1 : Wrote o₁ p bad a)
    (hok : o₁ = .ok a → Wrote o q bad b) (herr : ∀ c, o₁ = .err c → ∃ c', o = .err c')
    (hpanic : ∀ s, o₁ = .panic s → ∃ s', o = .panic s') : Wrote o (p ∧ q) bad b := by
  cases o₁ with
  | ok a' =>
    obtain ⟨hp, rfl⟩ := h1
    exact (hok rfl).iff (and_iff_right hp).symm
  | err c => obtain ⟨c', rfl⟩ := herr c rfl; exact fun hg => h1 hg.1
  | panic s => obtain ⟨s', rfl⟩ := hpanic s rfl; exact h1

/-- the last step: `o` only wraps what `o₁` returns -/
theorem lastP {o₁ : Outcome α} {o : Outcome β} {p : Prop} {b : β} (h1 : Wrote o₁ p bad a)
    (hok : o₁ = .ok a → o = .ok b) (herr : ∀ c, o₁ = .err c → ∃ c', o = .err c')
    (hpanic : ∀ s, o₁ = .panic s → ∃ s', o = .panic s') : Wrote o p bad b :=
  (h1.stepP (q := True) (fun e => hok e ▸ .ok b) herr hpanic).iff (and_iff_left trivial)

/-- `stepP` for a first part that cannot panic -/
theorem step {o₁ : Outcome α} {o : Outcome β} {p q : Prop} {b : β} (h1 : Wrote o₁ p False a)
    (hok : o₁ = .ok a → Wrote o q bad b)
    (herr : ∀ c, o₁ = .err c → ∃ c', o = .err c' := by exact fun c hc => ⟨c, by rw [hc]⟩) : Wrote o (p ∧ q) bad b :=
  (h1.mono False.elim).stepP hok herr fun _ hs => (h1.of_panic hs).elim

theorem last {o₁ : Outcome α} {o : Outcome β} {p : Prop} {b : β} (h1 : Wrote o₁ p False a)
    (hok : o₁ = .ok a → o = .ok b := by exact fun h => by rw [h]; rfl)
    (herr : ∀ c, o₁ = .err c → ∃ c', o = .err c' := by exact fun c hc => ⟨c, by rw [hc]⟩) : Wrote o p bad b :=
  (h1.mono False.elim).lastP hok herr fun _ hs => (h1.of_panic hs).elim

theorem check {c : Prop} [Decidable c] {e : String} {q : Prop} (h : Wrote o q bad a) :
    Wrote (if c then .err e else o) (¬ c ∧ q) bad a := by
  by_cases hc : c
  · rw [if_pos hc]; exact fun hg => hg.1 hc
  · rw [if_neg hc]; exact h.iff (and_iff_right hc).symm

theorem checkB {b : Bool} {e : String} {q : Prop} (h : Wrote o q bad a) :
    Wrote (if !b then .err e else o) (b = true ∧ q) bad a := by
  cases b
  · exact fun hg => nomatch hg.1
  · exact h.iff (and_iff_right rfl).symm

theorem nil {γ : Type} (a : α) (P : γ → Prop) : Wrote (.ok a) (∀ x ∈ ([] : List γ), P x) bad a :=
  ⟨fun _ hx => (nomatch hx), rfl⟩

theorem cons {γ : Type} {P : γ → Prop} {x : γ} {xs : List γ} (h : Wrote o (P x ∧ ∀ y ∈ xs, P y) bad a) :
    Wrote o (∀ y ∈ x :: xs, P y) bad a :=
  h.iff List.forall_mem_cons.symm

/-- the output of `o₁` followed by the output of `o₂`: the closing `match` of every list writer (`writeInstrs`,
`writeStrs`, `writeInstances`, ...), so the lemma applies to each as it stands -/
theorem append {o₁ o₂ : Outcome (List UInt8)} {p q : Prop} {a b : List UInt8} (h1 : Wrote o₁ p False a)
    (h2 : Wrote o₂ q False b) :
    Wrote (match o₁ with
      | .ok b => match o₂ with
        | .ok bs => .ok (b ++ bs)
        | .err c => .err c
        | .panic p => .panic p
      | .err c => .err c
      | .panic p => .panic p) (p ∧ q) False (a ++ b) := by
  cases o₁ with
  | ok a' =>
    cases o₂ with
    | ok b' => exact ⟨⟨h1.1, h2.1⟩, by rw [h1.2, h2.2]⟩
    | err c => exact fun hg => h2 hg.2
    | panic s => exact h2
  | err c => exact fun hg => h1 hg.1
  | panic s => exact h1

theorem map {o : Outcome (List UInt8)} {p : Prop} {a : List UInt8} (h : Wrote o p False a) (g : List UInt8 → List UInt8) :
    Wrote (match o with
      | .ok t => .ok (g t)
      | .err c => .err c
      | .panic p => .panic p) p False (g a) := by
  cases o with
  | ok b => exact ⟨h.1, by rw [h.2]⟩
  | err c => exact h
  | panic s => exact h

end Wrote

/-- a closed statement "the writer succeeds and its output satisfies `P`", ready for evaluation -/
theorem exists_ok_of_decide {α} {o : Outcome α} {P : α → Prop} [DecidablePred P]
    (h : (match o with | .ok a => decide (P a) | _ => false) = true) : ∃ a, o = .ok a ∧ P a := by
  cases o with
  | ok a => exact ⟨a, rfl, of_decide_eq_true h⟩
  | err c => cases h
  | panic p => cases h

end TruthModel.C03
