import TruthModel.Model.Types
import TruthModel.Lemmas.Outcome
/-
C09, the lemmas behind `Props/C09.lean` (and the progress part of C04).  Every executable check that does not
walk the syntax has one statement `_spec`: it succeeds exactly when the declarative rule applies, and has no
panic of its own (`Spec`).  For `check_expr`, no panic, sound and complete are separate walks over the mutually
recursive syntax types; for `check_stmts`, sound and complete are one walk (`checkStmt_iff`) and no panic
another (`checkStmt_np`, `Props/C04.lean`).
-/
namespace TruthModel.C09
open TruthModel TruthModel.Types

theorem ite_ok_iff {p : Prop} [Decidable p] {c : String} :
    (if p then Outcome.ok () else .err c) = .ok () ↔ p := by
  split <;> simp [*]

theorem np_ok {α} {a : α} (s : String) : Outcome.ok a ≠ .panic s := nofun

theorem np_err {α} {c : String} (s : String) : (Outcome.err c : Outcome α) ≠ .panic s := nofun

theorem ite_ne_panic {p : Prop} [Decidable p] {α} {x y : Outcome α} {s : String}
    (hx : x ≠ .panic s) (hy : y ≠ .panic s) : (if p then x else y) ≠ .panic s := by
  split <;> assumption

structure Spec {α} (x : Outcome α) (Q : α → Prop) : Prop where
  ok_iff : ∀ a, x = .ok a ↔ Q a
  np : ∀ s, x ≠ .panic s

theorem Spec.ok {α} (a : α) : Spec (.ok a) (· = a) :=
  ⟨fun _ => ⟨fun h => (Outcome.ok.inj h).symm, fun h => h ▸ rfl⟩, np_ok⟩

theorem Spec.ite {p : Prop} [Decidable p] {c : String} :
    Spec (if p then .ok () else .err c) fun _ => p :=
  ⟨fun _ => ite_ok_iff, fun s => ite_ne_panic (np_ok s) (np_err s)⟩

theorem Spec.congr {α} {x : Outcome α} {Q Q' : α → Prop} (h : Spec x Q) (hQ : ∀ a, Q a ↔ Q' a) :
    Spec x Q' :=
  ⟨fun a => (h.ok_iff a).trans (hQ a), h.np⟩

/-! ### The model's `?`

`check_expr` is written with `?`: in the model a `match` that passes `err` and `panic` on.  What there is to
say about it is said once, for `Binds` (`Lemmas/Outcome.lean`, where the reason for the indirection is given). -/

theorem bindTy {β} {x : Outcome Ty} {f : Ty → Outcome β} :
    Binds x f (match x with | .ok a => f a | .err c => .err c | .panic s => .panic s) :=
  ⟨by rintro a rfl; rfl, by rintro c rfl; rfl, by rintro s rfl; rfl⟩

theorem bindETy {β} {x : Outcome ETy} {f : ETy → Outcome β} :
    Binds x f (match x with | .ok a => f a | .err c => .err c | .panic s => .panic s) :=
  ⟨by rintro a rfl; rfl, by rintro c rfl; rfl, by rintro s rfl; rfl⟩

theorem bindUnit {β} {x : Outcome Unit} {y : Outcome β} :
    Binds x (fun _ => y) (match x with | .ok () => y | .err c => .err c | .panic s => .panic s) :=
  ⟨by rintro a rfl; rfl, by rintro c rfl; rfl, by rintro s rfl; rfl⟩

theorem Spec.bind {α β : Type} {x : Outcome α} {f : α → Outcome β} {m : Outcome β}
    (hb : Binds x f m) {Q : α → Prop} {R : α → β → Prop} (hx : Spec x Q)
    (hf : ∀ a, Spec (f a) (R a)) : Spec m fun b => ∃ a, Q a ∧ R a b :=
  ⟨fun b =>
      ⟨fun h => (hb.inv h).elim fun a h => ⟨a, (hx.ok_iff a).mp h.1, ((hf a).ok_iff b).mp h.2⟩,
        fun ⟨a, ha, h⟩ => (hb.ok a ((hx.ok_iff a).mpr ha)).trans (((hf a).ok_iff b).mpr h)⟩,
    hb.np hx.np fun a _ => (hf a).np⟩

theorem Spec.bindUnit {β : Type} {x : Outcome Unit} {y m : Outcome β}
    (hb : Binds x (fun _ => y) m) {p : Prop} {R : β → Prop} (hx : Spec x fun _ => p)
    (hy : Spec y R) : Spec m fun b => p ∧ R b :=
  (hx.bind hb fun _ => hy).congr fun _ => ⟨fun ⟨_, h⟩ => h, fun h => ⟨(), h⟩⟩

theorem andThen_ok_iff (a b : Outcome Unit) :
    a.andThen b = .ok () ↔ a = .ok () ∧ b = .ok () := by
  cases a <;> cases b <;> simp [Outcome.andThen]

theorem andThen_congr {a b : Outcome Unit} {p q : Prop} (ha : a = .ok () ↔ p) (hb : b = .ok () ↔ q) :
    a.andThen b = .ok () ↔ p ∧ q :=
  (andThen_ok_iff a b).trans (and_congr ha hb)

theorem andThen_assoc (a b c : Outcome Unit) :
    (a.andThen b).andThen c = a.andThen (b.andThen c) := by
  cases a <;> cases b <;> cases c <;> rfl

theorem ok_andThen (a : Outcome Unit) : (Outcome.ok ()).andThen a = a := by cases a <;> rfl

theorem andThen_np {a b : Outcome Unit} (ha : ∀ s, a ≠ .panic s) (hb : ∀ s, b ≠ .panic s) (s : String) :
    a.andThen b ≠ .panic s := by
  cases a with
  | panic q => exact absurd rfl (ha q)
  | err c =>
    cases b with
    | panic q => exact absurd rfl (hb q)
    | _ => exact np_err s
  | ok u =>
    cases b with
    | panic q => exact absurd rfl (hb q)
    | ok v => exact np_ok s
    | err c => exact np_err s

theorem Spec.andThen {a b : Outcome Unit} {p q : Prop} (ha : Spec a fun _ => p)
    (hb : Spec b fun _ => q) : Spec (a.andThen b) fun _ => p ∧ q :=
  ⟨fun _ => andThen_congr (ha.ok_iff ()) (hb.ok_iff ()), andThen_np ha.np hb.np⟩

theorem Spec.switch {b : Bool} {x : Outcome Unit} {p : Prop} (h : Spec x fun _ => p) :
    Spec (if b = true then x else .ok ()) fun _ => b = true → p := by
  cases b with
  | true => exact h.congr fun _ => ⟨fun h _ => h, fun h => h rfl⟩
  | false => exact (Spec.ok ()).congr fun _ => iff_of_true rfl nofun

theorem checkVar_ok_iff {inh : VarTy} {sig : Option Sigil} {t : Ty} :
    checkVar inh sig = .ok t ↔ ReadTy inh sig t := by
  cases sig <;> cases inh with
  | untyped => simp [checkVar, readTy, ReadTy, eq_comm]
  | typed u => cases u <;> simp [checkVar, readTy, ReadTy, eq_comm]

theorem checkVar_spec (inh : VarTy) (sig : Option Sigil) : Spec (checkVar inh sig) (ReadTy inh sig) := by
  refine ⟨fun _ => checkVar_ok_iff, fun s => ?_⟩
  fun_cases checkVar inh sig with
  | case1 => exact np_err s
  | case2 inh sig t ht _ => rw [ht]; exact np_ok s
  | case3 inh sig ht _ => rw [ht]; exact np_err s

theorem checkVar_readTy {inh : VarTy} {sig : Option Sigil} {t : Ty}
    (h : checkVar inh sig = .ok t) : readTy inh sig = .typed t := by
  rw [checkVar_ok_iff] at h
  cases sig with
  | none => exact h
  | some s => rw [h.1]; rfl

theorem requireExact_spec (t u : Ty) : Spec (requireExact t u) fun _ => t = u := .ite

theorem requireExact_ok_iff {t u : Ty} : requireExact t u = .ok () ↔ t = u := ite_ok_iff

theorem requireSame_ok_iff {t u v : Ty} : requireSame t u = .ok v ↔ (t = u ∧ v = t) := by
  unfold requireSame; split <;> simp_all [eq_comm]

theorem requireSame_spec (t u : Ty) : Spec (requireSame t u) fun v => t = u ∧ v = t :=
  ⟨fun _ => requireSame_ok_iff, fun s => ite_ne_panic (np_ok s) (np_err s)⟩

theorem checkAssignable_ok_iff (Γ : Ctx) (v : VarRef) :
    checkAssignable Γ v = .ok () ↔ Assignable Γ v := by
  unfold checkAssignable Assignable
  cases v.isReg <;> cases Γ.isConst v.id <;> simp

theorem checkAssignable_spec (Γ : Ctx) (v : VarRef) :
    Spec (checkAssignable Γ v) fun _ => Assignable Γ v :=
  ⟨fun _ => checkAssignable_ok_iff Γ v, fun s => ite_ne_panic (np_err s) (np_ok s)⟩

theorem paramCheck_ok_iff {p : Param} {t : Ty} : paramCheck p t = .ok () ↔ ParamAccepts p t := by
  unfold paramCheck ParamAccepts
  cases hp : p.ty with
  | untyped => simp
  | typed u => by_cases h : t = u <;> simp [h, eq_comm]

theorem paramCheck_spec (p : Param) (t : Ty) : Spec (paramCheck p t) fun _ => ParamAccepts p t := by
  refine ⟨fun _ => paramCheck_ok_iff, fun s => ?_⟩
  unfold paramCheck
  split
  · exact ite_ne_panic (np_err s) (np_ok s)
  · exact np_ok s

theorem pseudoCheck_spec (k : PseudoKind) (t : Ty) : Spec (pseudoCheck k t) fun _ => PseudoTy k = t := by
  cases k <;> exact Spec.ite.congr fun _ => eq_comm

theorem pseudoCheck_ok_iff {k : PseudoKind} {t : Ty} : pseudoCheck k t = .ok () ↔ PseudoTy k = t :=
  (pseudoCheck_spec k t).ok_iff ()

theorem checkValue_ok {x : Outcome ETy} {t : Ty} :
    (x >>= requireValue) = .ok t ↔ x = .ok (.value t) := by
  cases x with
  | ok τ => cases τ <;> simp [requireValue]
  | _ => simp

theorem bind_requireValue_ne_panic {x : Outcome ETy} (h : ∀ s, x ≠ .panic s) (s : String) :
    (x >>= requireValue) ≠ .panic s := by
  cases x with
  | ok e => cases e <;> simp [requireValue]
  | err c => simp
  | panic s' => exact absurd rfl (h s')

/-! ### Operators

The rule of a binary operator depends on its class only: which operand types the class accepts
and what the result type is.  `binop_check` and the declarative `BinopTy` are each stated once
in these terms. -/

theorem numeric_iff (t : Ty) : Numeric t ↔ (t != .str) = true := by
  cases t <;> simp [Numeric]

def _root_.TruthModel.Types.OpClass.accepts : OpClass → Ty → Bool
  | .arithmetic, t | .comparison, t => t != .str
  | .bitwise, t | .logical, t | .shift, t => t == .int

def _root_.TruthModel.Types.OpClass.result : OpClass → Ty → Ty
  | .arithmetic, t => t
  | _, _ => .int

theorem binopTy_iff (op : BinOp) (t t' : Ty) :
    BinopTy op t t' ↔ op.cls.accepts t = true ∧ t' = op.cls.result t := by
  cases op with
  | add | sub | mul | div | rem | eq | ne | lt | le | gt | ge =>
    exact and_congr_left' (numeric_iff t)
  | _ => exact and_congr_left' beq_iff_eq.symm

theorem binopCheck_eq (op : BinOp) (a b : Ty) :
    binopCheck op a b = if op.cls.accepts a = true ∧ a = b then .ok () else .err tyErr := by
  unfold binopCheck
  generalize op.cls = c
  cases c <;> cases a <;> cases b <;> rfl

theorem binopCheck_ok_iff (op : BinOp) (a b : Ty) :
    binopCheck op a b = .ok () ↔ (a = b ∧ BinopTy op a (op.cls.result a)) := by
  simp only [binopCheck_eq, ite_ok_iff, binopTy_iff, and_true]
  exact and_comm

theorem binopTy_exists_iff (op : BinOp) (t : Ty) :
    (∃ t', BinopTy op t t') ↔ BinopTy op t (op.cls.result t) := by
  simp only [binopTy_iff, exists_and_left, exists_eq, and_true]

theorem binopCheck_spec (op : BinOp) (a b : Ty) :
    Spec (binopCheck op a b) fun _ => a = b ∧ BinopTy op a (op.cls.result a) :=
  ⟨fun _ => binopCheck_ok_iff op a b,
    fun s => binopCheck_eq op a b ▸ ite_ne_panic (np_ok s) (np_err s)⟩

/-- the same for the unary operators, operator by operator -/
def _root_.TruthModel.UnOp.accepts : UnOp → Ty → Bool
  | .neg, t | .sigI, t | .sigF, t | .castI, t | .castF, t => t != .str
  | .not, t | .bnot, t => t == .int
  | .sin, t | .cos, t | .tan, t | .asin, t | .acos, t | .atan, t | .sqrt, t => t == .float

def _root_.TruthModel.UnOp.result : UnOp → Ty → Ty
  | .neg, t => t
  | .not, _ | .bnot, _ | .sigI, _ | .castI, _ => .int
  | _, _ => .float

theorem unopTy_iff (op : UnOp) (t t' : Ty) :
    UnopTy op t t' ↔ op.accepts t = true ∧ t' = op.result t := by
  cases op with
  | neg | sigI | sigF | castI | castF => exact and_congr_left' (numeric_iff t)
  | _ => exact and_congr_left' beq_iff_eq.symm

theorem requireNumeric_eq (t : Ty) :
    requireNumeric t = if (t != .str) = true then .ok () else .err tyErr := by
  cases t <;> rfl

theorem requireExact_eq (t u : Ty) :
    requireExact t u = if (t == u) = true then .ok () else .err tyErr := by
  cases t <;> cases u <;> rfl

theorem unopCheck_eq (op : UnOp) (t : Ty) :
    unopCheck op t = if op.accepts t = true then .ok () else .err tyErr := by
  cases op with
  | neg | sigI | sigF | castI | castF => exact requireNumeric_eq t
  | not | bnot => exact requireExact_eq t .int
  | _ => exact requireExact_eq t .float

theorem unopCheck_ok_iff (op : UnOp) (t : Ty) :
    unopCheck op t = .ok () ↔ UnopTy op t (op.result t) := by
  simp only [unopCheck_eq, ite_ok_iff, unopTy_iff, and_true]

theorem unopCheck_spec (op : UnOp) (t : Ty) :
    Spec (unopCheck op t) fun _ => UnopTy op t (op.result t) :=
  ⟨fun _ => unopCheck_ok_iff op t, fun s => unopCheck_eq op t ▸ ite_ne_panic (np_ok s) (np_err s)⟩

/-! ### Signatures: the arity test counts required parameters, optional ones stand at the end (`SigsOk`) -/

theorem minArgs_all_optional (ps : List Param) (h : ps.all (·.optional) = true) : minArgs ps = 0 := by
  induction ps with
  | nil => rfl
  | cons p ps ih =>
    rw [List.all_cons, Bool.and_eq_true] at h
    rw [minArgs, if_pos h.1, ih h.2]

theorem required_of_minArgs_zero (ps : List Param) (h : minArgs ps = 0) : required ps = [] := by
  induction ps with
  | nil => rfl
  | cons p ps ih =>
    simp only [minArgs] at h
    by_cases hp : p.optional
    · simp_all [required]
    · simp [hp] at h

theorem length_of_argsTyped (Γ : Ctx) (as : TArgs) (ps : List Param) (h : ArgsTyped Γ as ps) :
    as.length = ps.length := by
  fun_induction TArgs.length as generalizing ps with
  | case1 => cases h; rfl
  | case2 a as ih =>
    cases h with
    | cons _ _ hr => exact congrArg (· + 1) (ih _ hr)

theorem minArgs_eq_required (ps : List Param) : minArgs ps = (required ps).length := by
  induction ps with
  | nil => rfl
  | cons p ps ih =>
    by_cases hp : p.optional
    · simp only [minArgs, required, hp, if_true, Nat.zero_add, ih]
    · simp only [minArgs, required, hp, Bool.false_eq_true, if_false, List.length_cons, ih,
        Nat.add_comm]

theorem arity_ok {Γ : Ctx} {args : TArgs} {ps : List Param} (h : ArgsTyped Γ args (required ps)) :
    minArgs ps ≤ args.length ∧ args.length ≤ maxArgs ps := by
  have := length_of_argsTyped Γ _ _ h
  rw [← minArgs_eq_required] at this
  exact ⟨Nat.le_of_eq this.symm, Nat.le_of_eq this⟩

theorem noDefaults (ts : List VarTy) :
    trailingOptional (ts.map fun t => ⟨t, false⟩) = true ∧
      required (ts.map fun t => ⟨t, false⟩) = ts.map fun t => ⟨t, false⟩ := by
  induction ts with
  | nil => exact ⟨rfl, rfl⟩
  | cons t ts ih => simpa [trailingOptional, required] using ih

theorem fparams_trailing (Γ : Ctx) (f : Nat) : trailingOptional (Γ.fparams f) = true :=
  (noDefaults (Γ.fsig f).1).1

theorem fparams_required (Γ : Ctx) (f : Nat) : required (Γ.fparams f) = Γ.fparams f :=
  (noDefaults (Γ.fsig f).1).2

theorem calleeSig_false {Γ : Ctx} {f : Nat} {ps : List Param} {rt : ETy}
    (h : Γ.calleeSig false f = some (ps, rt)) : Γ.sig f = some ps ∧ rt = .void := by
  unfold Ctx.calleeSig at h
  simp only [Bool.false_eq_true, if_false] at h
  cases hs : Γ.sig f with
  | none => rw [hs] at h; cases h
  | some qs => rw [hs] at h; cases h; exact ⟨rfl, rfl⟩

theorem calleeSig_true {Γ : Ctx} {f : Nat} {ps : List Param} {rt : ETy}
    (h : Γ.calleeSig true f = some (ps, rt)) : ps = Γ.fparams f ∧ rt = (Γ.fsig f).2 := by
  cases h; exact ⟨rfl, rfl⟩

theorem calleeSig_trailing (Γ : Ctx) (hΓ : SigsOk Γ) (user : Bool) (f : Nat) (ps : List Param)
    (rt : ETy) (h : Γ.calleeSig user f = some (ps, rt)) : trailingOptional ps = true := by
  cases user with
  | true => rw [(calleeSig_true h).1]; exact fparams_trailing Γ f
  | false => exact hΓ f ps (calleeSig_false h).1

section
variable {Γ : Ctx} {τ : ETy}

/-- the checker's answer for an operator IS `compute_ty`'s (`unop_ty(op, &x.value, ctx)`) -/
theorem check_unop_inv {op : UnOp} {x : TExpr} (h : check Γ (.unop op x) = .ok τ) :
    ∃ tx, check Γ x = .ok (.value tx) ∧ unopCheck op tx = .ok () ∧
      computeTy Γ (.unop op x) = .ok τ := by
  obtain ⟨tx, hx, h⟩ := bindTy.inv h
  obtain ⟨hu, h⟩ := bindUnit.invUnit h
  exact ⟨tx, checkValue_ok.mp hx, hu, h⟩

theorem check_binop_inv {op : BinOp} {a b : TExpr} (h : check Γ (.binop op a b) = .ok τ) :
    ∃ ta tb, check Γ a = .ok (.value ta) ∧ check Γ b = .ok (.value tb) ∧
      binopCheck op ta tb = .ok () ∧ computeTy Γ (.binop op a b) = .ok τ := by
  obtain ⟨ta, ha, h⟩ := bindTy.inv h
  obtain ⟨tb, hb, h⟩ := bindTy.inv h
  obtain ⟨hu, h⟩ := bindUnit.invUnit h
  exact ⟨ta, tb, checkValue_ok.mp ha, checkValue_ok.mp hb, hu, h⟩

theorem check_ternary_inv {c l r : TExpr} (h : check Γ (.ternary c l r) = .ok τ) :
    ∃ t, check Γ c = .ok (.value .int) ∧ check Γ l = .ok (.value t) ∧
      check Γ r = .ok (.value t) ∧ τ = .value t := by
  obtain ⟨tl, hl, h⟩ := bindTy.inv h
  obtain ⟨tr, hr, h⟩ := bindTy.inv h
  obtain ⟨tc, hc, h⟩ := bindTy.inv h
  obtain ⟨hi, h⟩ := bindUnit.invUnit h
  obtain ⟨u, hs, hτ⟩ := bindTy.inv (f := fun t => .ok (ETy.value t)) h
  obtain rfl := requireExact_ok_iff.mp hi
  obtain ⟨rfl, rfl⟩ := requireSame_ok_iff.mp hs
  cases hτ
  exact ⟨_, checkValue_ok.mp hc, checkValue_ok.mp hl, checkValue_ok.mp hr, rfl⟩

/-- the tail of `check_expr_call`: the arity test, then the arguments -/
theorem ok_callTail {args : TArgs} {ps : List Param} {rt : ETy}
    (h : (if minArgs ps ≤ args.length ∧ args.length ≤ maxArgs ps then
        match checkArgs Γ args ps with
        | .ok () => .ok rt
        | .err c => .err c
        | .panic s => .panic s
      else .err arityErr) = Outcome.ok τ) :
    args.length = minArgs ps ∧ checkArgs Γ args ps = .ok () ∧ τ = rt := by
  split at h
  · rename_i hlen
    obtain ⟨hargs, h⟩ := bindUnit.invUnit h
    cases h
    exact ⟨Nat.le_antisymm hlen.2 hlen.1, hargs, rfl⟩
  · cases h

theorem check_call_inv {f : Nat} {args : TArgs} (h : check Γ (.call f args) = .ok τ) :
    ∃ ps, Γ.sig f = some ps ∧ args.length = minArgs ps ∧ checkArgs Γ args ps = .ok () ∧
      τ = .void := by
  rw [check] at h
  split at h
  · cases h
  · obtain ⟨hl, hargs, rfl⟩ := ok_callTail h
    exact ⟨_, ‹_›, hl, hargs, rfl⟩

theorem check_diffSwitch_inv {first : TExpr} {rest : TCases}
    (h : check Γ (.diffSwitch first rest) = .ok τ) :
    ∃ t, check Γ first = .ok (.value t) ∧ checkCases Γ t rest = .ok () ∧ τ = .value t := by
  obtain ⟨t, hf, h⟩ := bindTy.inv h
  obtain ⟨hc, h⟩ := bindUnit.invUnit h
  cases h
  exact ⟨t, checkValue_ok.mp hf, hc, rfl⟩

theorem check_xcrement_inv {pre inc : Bool} {v : VarRef}
    (h : check Γ (.xcrement pre inc v) = .ok τ) :
    checkVar (Γ.refTy v) v.sig = .ok .int ∧
      (checksXcrementTarget = true → checkAssignable Γ v = .ok ()) ∧ τ = .value .int := by
  obtain ⟨t, hv, h⟩ := bindTy.inv h
  -- the switch is kept out of the unifier's sight: with it off, the `if` and the `match` on it reduce away
  generalize hx : (if checksXcrementTarget = true then checkAssignable Γ v else .ok ()) = x at h
  obtain ⟨ha, h⟩ := bindUnit.invUnit h
  obtain ⟨hi, h⟩ := bindUnit.invUnit h
  obtain rfl := requireExact_ok_iff.mp hi
  cases h
  exact ⟨hv, fun hsw => by rw [← hx, if_pos hsw] at ha; exact ha, rfl⟩

theorem check_callx_inv {user : Bool} {f : Nat} {pseudos : TPseudos} {args : TArgs}
    (h : check Γ (.callx user f pseudos args) = .ok τ) :
    checkPseudos Γ pseudos = .ok () ∧ (user = true → pseudos = .nil) ∧
      ((pseudos.hasBlob = true ∧ args = .nil ∧ τ = .void) ∨
       (pseudos.hasBlob = false ∧ ∃ ps, Γ.calleeSig user f = some (ps, τ) ∧
          args.length = minArgs ps ∧ checkArgs Γ args ps = .ok ())) := by
  obtain ⟨hp, h⟩ := bindUnit.invUnit h
  by_cases hnu : user = true ∧ pseudos.isNil = false
  · rw [if_pos hnu] at h; cases h
  rw [if_neg hnu] at h
  have hnil : user = true → pseudos = .nil := fun hu => by
    cases pseudos with
    | nil => rfl
    | cons _ _ _ => exact absurd ⟨hu, rfl⟩ hnu
  refine ⟨hp, hnil, ?_⟩
  by_cases hb : pseudos.hasBlob = true
  · rw [if_pos hb] at h
    cases args with
    | nil => cases h; exact .inl ⟨hb, rfl, rfl⟩
    | cons _ _ => cases h
  rw [if_neg hb] at h
  cases hsig : Γ.calleeSig user f with
  | none => rw [hsig] at h; cases h
  | some p =>
    rw [hsig] at h
    obtain ⟨hl, hargs, rfl⟩ := ok_callTail h
    exact .inr ⟨Bool.not_eq_true _ ▸ hb, p.1, rfl, hl, hargs⟩

theorem checkArgs_cons_inv {a : TExpr} {as : TArgs} {p : Param} {ps : List Param}
    (h : checkArgs Γ (.cons a as) (p :: ps) = .ok ()) :
    ∃ t, check Γ a = .ok (.value t) ∧ paramCheck p t = .ok () ∧ checkArgs Γ as ps = .ok () := by
  obtain ⟨t, ha, h⟩ := bindTy.inv h
  obtain ⟨hp, h⟩ := bindUnit.invUnit h
  exact ⟨t, checkValue_ok.mp ha, hp, h⟩

theorem checkCases_case_inv {t : Ty} {e : TExpr} {cs : TCases}
    (h : checkCases Γ t (.case e cs) = .ok ()) :
    check Γ e = .ok (.value t) ∧ checkCases Γ t cs = .ok () := by
  obtain ⟨t', he, h⟩ := bindTy.inv h
  obtain ⟨u, hs, hcs⟩ := bindTy.inv (f := fun _ => checkCases Γ t cs) h
  obtain ⟨rfl, rfl⟩ := requireSame_ok_iff.mp hs
  exact ⟨checkValue_ok.mp he, hcs⟩

theorem checkPseudos_cons_inv {k : PseudoKind} {e : TExpr} {ps : TPseudos}
    (h : checkPseudos Γ (.cons k e ps) = .ok ()) :
    ∃ t, check Γ e = .ok (.value t) ∧ pseudoCheck k t = .ok () ∧ checkPseudos Γ ps = .ok () := by
  obtain ⟨t, he, h⟩ := bindTy.inv h
  obtain ⟨hk, h⟩ := bindUnit.invUnit h
  exact ⟨t, checkValue_ok.mp he, hk, h⟩

end

theorem sub_left {α} {x : α} {a b : List α} : a ⊆ x :: (a ++ b) :=
  List.subset_cons_of_subset _ (List.subset_append_left _ _)

theorem sub_right {α} {x : α} {a b : List α} : b ⊆ x :: (a ++ b) :=
  List.subset_cons_of_subset _ (List.subset_append_right _ _)

theorem mem_subsE_self (e : TExpr) : e ∈ subsE e := by
  cases e <;> exact List.mem_cons_self

/-- `compute_ty` asks `enum_ty` (switch `computeTyEnumIsInt` off), or no qualified constant of a string
enum, the one place where it can disagree with `check_expr`, occurs in `e`.  As Model/Types.lean sets the
switch the first disjunct holds by `rfl` (`C09.computeTy_agrees`). -/
def EnumOk (Γ : Ctx) (e : TExpr) : Prop := computeTyEnumIsInt = false ∨ NoStrEnumConst Γ e

theorem EnumOk.sub {Γ : Ctx} {e x : TExpr} (h : EnumOk Γ e) (hs : subsE x ⊆ subsE e) :
    EnumOk Γ x :=
  h.imp id (fun hn en n hm => hn en n (hs hm))

/-- The second disjunct serves the checker's own calls of `compute_ty` on an operand (`unopTyWith_of_check`):
`compute_ty` descends only where the part has the type it returns, so an answer other than `string` never
comes from a string-enum constant. -/
theorem computeTy_of_check_gen (Γ : Ctx) : (e : TExpr) → (t : ETy) → check Γ e = .ok t →
    (EnumOk Γ e ∨ t ≠ .value .str) → computeTy Γ e = .ok t
  | .litI v | .litF v | .litS v | .labelProp v => fun t h _ => h
  | .reg _ sig | .var _ sig => fun t h _ => by
    obtain ⟨u, hu, h⟩ := bindTy.inv h
    cases h
    simp only [computeTy, checkVar_readTy hu]
  | .unop op x => fun t h _ => (check_unop_inv h).choose_spec.2.2
  | .binop op a b => fun t h _ => by
    obtain ⟨_, _, _, _, _, hc⟩ := check_binop_inv h
    exact hc
  | .ternary c l r => fun t h hE => by
    obtain ⟨u, _, hl, _, rfl⟩ := check_ternary_inv h
    exact computeTy_of_check_gen Γ l _ hl
      (hE.imp (fun h => h.sub ((List.subset_append_right _ _).trans sub_left)) id)
  | .call f args => fun t h _ => by
    obtain ⟨ps, hps, _, _, rfl⟩ := check_call_inv h
    simp only [computeTy, hps]
  | .diffSwitch first rest => fun t h hE => by
    obtain ⟨u, hf, _, rfl⟩ := check_diffSwitch_inv h
    exact computeTy_of_check_gen Γ first _ hf
      (hE.imp (fun h => h.sub sub_left) id)
  | .xcrement pre inc v => fun t h _ => by
    obtain ⟨_, _, rfl⟩ := check_xcrement_inv h
    rfl
  | .enumConst en n => fun t h hE => by
    cases h
    simp only [computeTy]
    rcases hE with hE | hE
    · rcases hE with hE | hE
      · simp [hE]
      · have := hE en n (mem_subsE_self _)
        simp [Ctx.enumTy, this]
    · cases hs : Γ.enumStr en <;> simp_all [Ctx.enumTy]
  | .callx user f pseudos args => fun t h _ => by
    obtain ⟨_, _, ⟨hb, _, rfl⟩ | ⟨hb, ps, hsig, _, _⟩⟩ := check_callx_inv h
    · simp only [computeTy, hb, if_true]
    · simp [computeTy, hb, hsig]

theorem computeTy_of_check (Γ : Ctx) (e : TExpr) (t : ETy) (h : check Γ e = .ok t)
    (hE : EnumOk Γ e) : computeTy Γ e = .ok t :=
  computeTy_of_check_gen Γ e t h (Or.inl hE)

/-- `_unop_ty` / `_binop_ty` ask `compute_ty` for the operand type only where the result depends
on it (`-x`, arithmetic); there the accepted operand types are not `string`, so `compute_ty`
agrees with the checker on the operand -/
theorem unopTyWith_of_check {Γ : Ctx} {op : UnOp} {x : TExpr} {tx : Ty}
    (hx : check Γ x = .ok (.value tx)) (hu : unopCheck op tx = .ok ()) :
    unopTyWith op (fun _ => expectValue (computeTy Γ x)) = .ok (op.result tx) := by
  rw [unopCheck_eq, ite_ok_iff] at hu
  cases op with
  | neg =>
    have hne : ETy.value tx ≠ .value .str := fun h => by cases h; cases hu
    simp only [unopTyWith, computeTy_of_check_gen Γ x _ hx (Or.inr hne)]; rfl
  | _ => rfl

theorem binopTyWith_of_check {Γ : Ctx} {op : BinOp} {a : TExpr} {ta tb : Ty}
    (ha : check Γ a = .ok (.value ta)) (hu : binopCheck op ta tb = .ok ()) :
    binopTyWith op (fun _ => expectValue (computeTy Γ a)) = .ok (op.cls.result ta) := by
  rw [binopCheck_eq, ite_ok_iff] at hu
  unfold binopTyWith
  generalize op.cls = c at hu ⊢
  cases c with
  | arithmetic =>
    have hne : ETy.value ta ≠ .value .str := fun h => by cases h; cases hu.1
    simp only [computeTy_of_check_gen Γ a _ ha (Or.inr hne)]; rfl
  | _ => rfl

mutual
theorem subs_accepted (Γ : Ctx) : (e : TExpr) → (t : ETy) → check Γ e = .ok t →
    ∀ e' ∈ subsE e, ∃ t', check Γ e' = .ok t'
  | .litI _ | .litF _ | .litS _ | .reg _ _ | .var _ _
  | .xcrement _ _ _ | .enumConst _ _ | .labelProp _ => fun t h =>
    List.forall_mem_singleton.mpr ⟨t, h⟩
  | .unop op x => fun t h => by
    obtain ⟨tx, hx, _, _⟩ := check_unop_inv h
    exact List.forall_mem_cons.mpr ⟨⟨t, h⟩, subs_accepted Γ x _ hx⟩
  | .binop op a b => fun t h => by
    obtain ⟨ta, tb, ha, hb, _, _⟩ := check_binop_inv h
    exact List.forall_mem_cons.mpr ⟨⟨t, h⟩,
      List.forall_mem_append.mpr ⟨subs_accepted Γ a _ ha, subs_accepted Γ b _ hb⟩⟩
  | .ternary c l r => fun t h => by
    obtain ⟨u, hc, hl, hr, _⟩ := check_ternary_inv h
    exact List.forall_mem_cons.mpr ⟨⟨t, h⟩, List.forall_mem_append.mpr
      ⟨List.forall_mem_append.mpr ⟨subs_accepted Γ c _ hc, subs_accepted Γ l _ hl⟩,
        subs_accepted Γ r _ hr⟩⟩
  | .call f args => fun t h => by
    obtain ⟨ps, _, _, hargs, _⟩ := check_call_inv h
    exact List.forall_mem_cons.mpr ⟨⟨t, h⟩, args_subs_accepted Γ args ps hargs⟩
  | .diffSwitch first rest => fun t h => by
    obtain ⟨u, hf, hc, _⟩ := check_diffSwitch_inv h
    exact List.forall_mem_cons.mpr ⟨⟨t, h⟩,
      List.forall_mem_append.mpr ⟨subs_accepted Γ first _ hf, cases_subs_accepted Γ u rest hc⟩⟩
  | .callx user f pseudos args => fun t h => by
    obtain ⟨hp, _, hrest⟩ := check_callx_inv h
    refine List.forall_mem_cons.mpr ⟨⟨t, h⟩,
      List.forall_mem_append.mpr ⟨pseudos_subs_accepted Γ pseudos hp, ?_⟩⟩
    rcases hrest with ⟨_, rfl, _⟩ | ⟨_, ps, _, _, hargs⟩
    · exact nofun
    · exact args_subs_accepted Γ args ps hargs
theorem args_subs_accepted (Γ : Ctx) : (as : TArgs) → (ps : List Param) →
    checkArgs Γ as ps = .ok () → ∀ e' ∈ subsA as, ∃ t', check Γ e' = .ok t'
  | .nil, _ => fun _ => nofun
  | .cons a as, [] => fun h => by
    obtain ⟨τ, ha, hrest⟩ := bindETy.inv h
    exact List.forall_mem_append.mpr ⟨subs_accepted Γ a _ ha, args_subs_accepted Γ as [] hrest⟩
  | .cons a as, p :: ps => fun h => by
    obtain ⟨t, ha, _, hrest⟩ := checkArgs_cons_inv h
    exact List.forall_mem_append.mpr ⟨subs_accepted Γ a _ ha, args_subs_accepted Γ as ps hrest⟩
theorem cases_subs_accepted (Γ : Ctx) (t : Ty) : (cs : TCases) →
    checkCases Γ t cs = .ok () → ∀ e' ∈ subsC cs, ∃ t', check Γ e' = .ok t'
  | .nil => fun _ => nofun
  | .blank cs => cases_subs_accepted Γ t cs
  | .case e cs => fun h => by
    obtain ⟨he, hrest⟩ := checkCases_case_inv h
    exact List.forall_mem_append.mpr ⟨subs_accepted Γ e _ he, cases_subs_accepted Γ t cs hrest⟩
theorem pseudos_subs_accepted (Γ : Ctx) : (ps : TPseudos) →
    checkPseudos Γ ps = .ok () → ∀ e' ∈ subsP ps, ∃ t', check Γ e' = .ok t'
  | .nil => fun _ => nofun
  | .cons k e ps => fun h => by
    obtain ⟨t, he, _, hrest⟩ := checkPseudos_cons_inv h
    exact List.forall_mem_append.mpr ⟨subs_accepted Γ e _ he, pseudos_subs_accepted Γ ps hrest⟩
end

mutual
theorem subsE_trans : (e : TExpr) → ∀ e' ∈ subsE e, ∀ y ∈ subsE e', y ∈ subsE e
  | .litI _ | .litF _ | .litS _ | .reg _ _ | .var _ _ | .xcrement _ _ _ | .enumConst _ _
  | .labelProp _ => List.forall_mem_singleton.mpr fun _ hy => hy
  | .unop _ x => List.forall_mem_cons.mpr ⟨fun _ hy => hy,
      fun e' he' y hy => List.mem_cons_of_mem _ (subsE_trans x e' he' y hy)⟩
  | .binop _ a b => List.forall_mem_cons.mpr ⟨fun _ hy => hy, List.forall_mem_append.mpr
      ⟨fun e' he' y hy => sub_left (subsE_trans a e' he' y hy),
        fun e' he' y hy => sub_right (subsE_trans b e' he' y hy)⟩⟩
  | .ternary c l r => List.forall_mem_cons.mpr ⟨fun _ hy => hy, List.forall_mem_append.mpr
      ⟨List.forall_mem_append.mpr
        ⟨fun e' he' y hy => sub_left (List.mem_append_left _ (subsE_trans c e' he' y hy)),
          fun e' he' y hy => sub_left (List.mem_append_right _ (subsE_trans l e' he' y hy))⟩,
        fun e' he' y hy => sub_right (subsE_trans r e' he' y hy)⟩⟩
  | .call _ args => List.forall_mem_cons.mpr ⟨fun _ hy => hy,
      fun e' he' y hy => List.mem_cons_of_mem _ (subsA_trans args e' he' y hy)⟩
  | .diffSwitch first rest => List.forall_mem_cons.mpr ⟨fun _ hy => hy, List.forall_mem_append.mpr
      ⟨fun e' he' y hy => sub_left (subsE_trans first e' he' y hy),
        fun e' he' y hy => sub_right (subsC_trans rest e' he' y hy)⟩⟩
  | .callx _ _ ps args => List.forall_mem_cons.mpr ⟨fun _ hy => hy, List.forall_mem_append.mpr
      ⟨fun e' he' y hy => sub_left (subsP_trans ps e' he' y hy),
        fun e' he' y hy => sub_right (subsA_trans args e' he' y hy)⟩⟩
theorem subsA_trans : (as : TArgs) → ∀ e' ∈ subsA as, ∀ y ∈ subsE e', y ∈ subsA as
  | .nil => nofun
  | .cons a as => List.forall_mem_append.mpr
      ⟨fun e' he' y hy => List.mem_append_left _ (subsE_trans a e' he' y hy),
        fun e' he' y hy => List.mem_append_right _ (subsA_trans as e' he' y hy)⟩
theorem subsC_trans : (cs : TCases) → ∀ e' ∈ subsC cs, ∀ y ∈ subsE e', y ∈ subsC cs
  | .nil => nofun
  | .blank cs => subsC_trans cs
  | .case e cs => List.forall_mem_append.mpr
      ⟨fun e' he' y hy => List.mem_append_left _ (subsE_trans e e' he' y hy),
        fun e' he' y hy => List.mem_append_right _ (subsC_trans cs e' he' y hy)⟩
theorem subsP_trans : (ps : TPseudos) → ∀ e' ∈ subsP ps, ∀ y ∈ subsE e', y ∈ subsP ps
  | .nil => nofun
  | .cons _ e ps => List.forall_mem_append.mpr
      ⟨fun e' he' y hy => List.mem_append_left _ (subsE_trans e e' he' y hy),
        fun e' he' y hy => List.mem_append_right _ (subsP_trans ps e' he' y hy)⟩
end

mutual
/-- The type checker has no panic of its own on any expression (the `expect`s inside
`compute_ty` are only reached for operands that were already accepted). -/
theorem check_ne_panic (Γ : Ctx) : (e : TExpr) → (s : String) → check Γ e ≠ .panic s
  | .litI _ | .litF _ | .litS _ | .enumConst _ _ | .labelProp _ => np_ok
  | .reg _ _ | .var _ _ => bindTy.np ((checkVar_spec _ _).np) fun _ _ => np_ok
  | .unop op x => fun s => by
    refine bindTy.np (bind_requireValue_ne_panic (check_ne_panic Γ x)) (fun tx hx =>
      bindUnit.npUnit ((unopCheck_spec op tx).np) fun hu => ?_) s
    rw [unopTyWith_of_check (checkValue_ok.mp hx) hu]
    exact np_ok
  | .binop op a b => fun s => by
    refine bindTy.np (bind_requireValue_ne_panic (check_ne_panic Γ a)) (fun ta ha =>
      bindTy.np (bind_requireValue_ne_panic (check_ne_panic Γ b)) fun tb _ =>
        bindUnit.npUnit ((binopCheck_spec op ta tb).np) fun hu => ?_) s
    rw [binopTyWith_of_check (checkValue_ok.mp ha) hu]
    exact np_ok
  | .ternary c l r =>
    bindTy.np (bind_requireValue_ne_panic (check_ne_panic Γ l)) fun tl _ =>
      bindTy.np (bind_requireValue_ne_panic (check_ne_panic Γ r)) fun tr _ =>
        bindTy.np (bind_requireValue_ne_panic (check_ne_panic Γ c)) fun tc _ =>
          bindUnit.npUnit ((requireExact_spec tc .int).np) fun _ =>
            bindTy.np ((requireSame_spec tl tr).np) fun _ _ => np_ok
  | .call f args => fun s => by
    rw [check]
    cases Γ.sig f with
    | none => exact np_err s
    | some ps =>
      exact ite_ne_panic (bindUnit.npUnit (checkArgs_ne_panic Γ args ps) (fun _ => np_ok) s) (np_err s)
  | .diffSwitch first rest =>
    bindTy.np (bind_requireValue_ne_panic (check_ne_panic Γ first)) fun t _ =>
      bindUnit.npUnit (checkCases_ne_panic Γ t rest) fun _ => np_ok
  | .xcrement pre inc v =>
    bindTy.np ((checkVar_spec _ _).np) fun t _ =>
      bindUnit.npUnit (x := if checksXcrementTarget = true then checkAssignable Γ v else .ok ())
        (checkAssignable_spec Γ v).switch.np fun _ =>
          bindUnit.npUnit ((requireExact_spec t .int).np) fun _ => np_ok
  | .callx user f pseudos args => fun s => by
    refine bindUnit.npUnit (checkPseudos_ne_panic Γ pseudos) (fun _ s => ?_) s
    refine ite_ne_panic (np_err s) (ite_ne_panic (ite_ne_panic (np_ok s) (np_err s)) ?_)
    cases Γ.calleeSig user f with
    | none => exact np_err s
    | some p =>
      obtain ⟨ps, rt⟩ := p
      exact ite_ne_panic (bindUnit.npUnit (checkArgs_ne_panic Γ args ps) (fun _ => np_ok) s) (np_err s)
theorem checkArgs_ne_panic (Γ : Ctx) : (as : TArgs) → (ps : List Param) → (s : String) →
    checkArgs Γ as ps ≠ .panic s
  | .nil, _ => np_ok
  | .cons a as, [] => bindETy.np (check_ne_panic Γ a) fun _ _ => checkArgs_ne_panic Γ as []
  | .cons a as, p :: ps =>
    bindTy.np (bind_requireValue_ne_panic (check_ne_panic Γ a)) fun t _ =>
      bindUnit.npUnit ((paramCheck_spec p t).np) fun _ => checkArgs_ne_panic Γ as ps
theorem checkCases_ne_panic (Γ : Ctx) (t : Ty) : (cs : TCases) → (s : String) →
    checkCases Γ t cs ≠ .panic s
  | .nil => np_ok
  | .blank cs => checkCases_ne_panic Γ t cs
  | .case e cs =>
    bindTy.np (bind_requireValue_ne_panic (check_ne_panic Γ e)) fun t' _ =>
      bindTy.np ((requireSame_spec t t').np) fun _ _ => checkCases_ne_panic Γ t cs
theorem checkPseudos_ne_panic (Γ : Ctx) : (ps : TPseudos) → (s : String) →
    checkPseudos Γ ps ≠ .panic s
  | .nil => np_ok
  | .cons k e ps =>
    bindTy.np (bind_requireValue_ne_panic (check_ne_panic Γ e)) fun t _ =>
      bindUnit.npUnit ((pseudoCheck_spec k t).np) fun _ => checkPseudos_ne_panic Γ ps
end

/-- `check_expr` looks at the operand's assignability (switch `checksXcrementTarget` on: the tree as
repaired in e098828), or no `++` / `--` among the expressions `L` has a constant operand.  With the switch as
Model/Types.lean sets it the first disjunct holds by `rfl` (`check_iff`): the hypothesis has content for the
other setting only. -/
def XOk (Γ : Ctx) (L : List TExpr) : Prop :=
  checksXcrementTarget = true ∨ ∀ pre inc v, .xcrement pre inc v ∈ L → Assignable Γ v

theorem XOk.mono {Γ : Ctx} {L L' : List TExpr} (h : XOk Γ L) (hs : L' ⊆ L) : XOk Γ L' :=
  h.imp id (fun hn pre inc v hm => hn pre inc v (hs hm))

mutual
theorem check_sound_aux (Γ : Ctx) (hΓ : SigsOk Γ) : (e : TExpr) → (t : ETy) → check Γ e = .ok t →
    XOk Γ (subsE e) → HasType Γ e t
  | .litI _ | .litF _ | .litS _ | .enumConst _ _ | .labelProp _ => fun t h _ => by
    cases h; constructor
  | .reg r sig => fun t h _ => by
    obtain ⟨u, hu, h⟩ := bindTy.inv h
    cases h
    exact .reg (checkVar_ok_iff.mp hu)
  | .var n sig => fun t h _ => by
    obtain ⟨u, hu, h⟩ := bindTy.inv h
    cases h
    exact .var (checkVar_ok_iff.mp hu)
  | .unop op x => fun t h hX => by
    obtain ⟨tx, hx, hu, hc⟩ := check_unop_inv h
    rw [computeTy, unopTyWith_of_check hx hu] at hc
    cases hc
    exact .unop ((unopCheck_ok_iff op tx).mp hu)
      (check_sound_aux Γ hΓ x _ hx (hX.mono (List.subset_cons_self _ _)))
  | .binop op a b => fun t h hX => by
    obtain ⟨ta, tb, ha, hb, hu, hc⟩ := check_binop_inv h
    rw [computeTy, binopTyWith_of_check ha hu] at hc
    cases hc
    obtain ⟨rfl, hop⟩ := (binopCheck_ok_iff op ta tb).mp hu
    exact .binop hop
      (check_sound_aux Γ hΓ a _ ha (hX.mono sub_left))
      (check_sound_aux Γ hΓ b _ hb (hX.mono sub_right))
  | .ternary c l r => fun t h hX => by
    obtain ⟨u, hc, hl, hr, rfl⟩ := check_ternary_inv h
    exact .ternary
      (check_sound_aux Γ hΓ c _ hc (hX.mono ((List.subset_append_left _ _).trans sub_left)))
      (check_sound_aux Γ hΓ l _ hl (hX.mono ((List.subset_append_right _ _).trans sub_left)))
      (check_sound_aux Γ hΓ r _ hr (hX.mono sub_right))
  | .call f args => fun t h hX => by
    obtain ⟨ps, hps, hl, hargs, rfl⟩ := check_call_inv h
    exact .call hps (checkArgs_sound_aux Γ hΓ args ps (hΓ f ps hps) hl hargs
      (hX.mono (List.subset_cons_self _ _)))
  | .diffSwitch first rest => fun t h hX => by
    obtain ⟨u, hf, hc, rfl⟩ := check_diffSwitch_inv h
    exact .diffSwitch
      (check_sound_aux Γ hΓ first _ hf (hX.mono sub_left))
      (checkCases_sound_aux Γ hΓ u rest hc (hX.mono sub_right))
  | .xcrement pre inc v => fun t h hX => by
    obtain ⟨hv, ha, rfl⟩ := check_xcrement_inv h
    refine .xcrement (checkVar_ok_iff.mp hv) ?_
    rcases hX with hX | hX
    · exact (checkAssignable_ok_iff Γ v).mp (ha hX)
    · exact hX pre inc v (List.mem_singleton.mpr rfl)
  | .callx user f pseudos args => fun t h hX => by
    obtain ⟨hps, hnil, hrest⟩ := check_callx_inv h
    have hpt := checkPseudos_sound_aux Γ hΓ pseudos hps (hX.mono sub_left)
    rcases hrest with ⟨hb, rfl, rfl⟩ | ⟨hb, ps, hsig, hl, hargs⟩
    · cases user with
      | false => exact .callBlob hpt hb
      | true => rw [hnil rfl] at hb; cases hb
    · have hat := checkArgs_sound_aux Γ hΓ args ps (calleeSig_trailing Γ hΓ user f ps _ hsig) hl
        hargs (hX.mono sub_right)
      cases user with
      | false =>
        obtain ⟨hs, rfl⟩ := calleeSig_false hsig
        exact .callIns hpt hb hs hat
      | true =>
        obtain ⟨rfl, rfl⟩ := calleeSig_true hsig
        rw [fparams_required] at hat
        rw [hnil rfl]
        exact .callUser hat
theorem checkArgs_sound_aux (Γ : Ctx) (hΓ : SigsOk Γ) : (as : TArgs) → (ps : List Param) →
    trailingOptional ps = true → as.length = minArgs ps → checkArgs Γ as ps = .ok () →
    XOk Γ (subsA as) → ArgsTyped Γ as (required ps)
  | .nil, ps => fun _ hl _ _ => by
    simp only [TArgs.length] at hl
    rw [required_of_minArgs_zero ps hl.symm]
    exact .nil
  | .cons a as, [] => fun _ hl _ _ => by
    simp [TArgs.length, minArgs] at hl
  | .cons a as, p :: ps => fun htr hl h hX => by
    by_cases hp : p.optional
    · -- an optional parameter is followed by optional ones only: no argument is required
      simp only [trailingOptional, hp, if_true] at htr
      simp [TArgs.length, minArgs, hp, minArgs_all_optional ps htr] at hl
    · simp only [trailingOptional, hp] at htr
      simp only [TArgs.length, minArgs, hp] at hl
      obtain ⟨t, ha, hpc, hrest⟩ := checkArgs_cons_inv h
      simp only [required, hp]
      exact .cons (check_sound_aux Γ hΓ a _ ha (hX.mono (List.subset_append_left _ _)))
        (paramCheck_ok_iff.mp hpc)
        (checkArgs_sound_aux Γ hΓ as ps (by simpa using htr)
          (Nat.add_right_cancel (hl.trans (Nat.add_comm _ _))) hrest
          (hX.mono (List.subset_append_right _ _)))
theorem checkCases_sound_aux (Γ : Ctx) (hΓ : SigsOk Γ) (t : Ty) : (cs : TCases) →
    checkCases Γ t cs = .ok () → XOk Γ (subsC cs) → CasesTyped Γ t cs
  | .nil => fun _ _ => .nil
  | .blank cs => fun h hX => .blank (checkCases_sound_aux Γ hΓ t cs h hX)
  | .case e cs => fun h hX => by
    obtain ⟨he, hrest⟩ := checkCases_case_inv h
    exact .case (check_sound_aux Γ hΓ e _ he (hX.mono (List.subset_append_left _ _)))
      (checkCases_sound_aux Γ hΓ t cs hrest (hX.mono (List.subset_append_right _ _)))
theorem checkPseudos_sound_aux (Γ : Ctx) (hΓ : SigsOk Γ) : (ps : TPseudos) →
    checkPseudos Γ ps = .ok () → XOk Γ (subsP ps) → PseudosTyped Γ ps
  | .nil => fun _ _ => .nil
  | .cons k e ps => fun h hX => by
    obtain ⟨t, he, hk, hrest⟩ := checkPseudos_cons_inv h
    exact .cons (check_sound_aux Γ hΓ e _ he (hX.mono (List.subset_append_left _ _)))
      (pseudoCheck_ok_iff.mp hk)
      (checkPseudos_sound_aux Γ hΓ ps hrest (hX.mono (List.subset_append_right _ _)))
end

/-- the premises of the typing rule that applies to an expression, where there is exactly one; `callx` has
three (`callIns`, `callBlob`, `callUser`): there `cases h` on the derivation tells them apart -/
def Premises (Γ : Ctx) (τ : ETy) : TExpr → Prop
    | .reg r sig => ∃ t, ReadTy (Γ.regTy r) sig t ∧ τ = .value t
    | .var n sig => ∃ t, ReadTy (Γ.varTy n) sig t ∧ τ = .value t
    | .unop op x => ∃ t t', UnopTy op t t' ∧ HasType Γ x (.value t) ∧ τ = .value t'
    | .binop op a b =>
      ∃ t t', BinopTy op t t' ∧ HasType Γ a (.value t) ∧ HasType Γ b (.value t) ∧ τ = .value t'
    | .ternary c l r =>
      ∃ t, HasType Γ c (.value .int) ∧ HasType Γ l (.value t) ∧ HasType Γ r (.value t) ∧ τ = .value t
    | .call f args => ∃ ps, Γ.sig f = some ps ∧ ArgsTyped Γ args (required ps) ∧ τ = .void
    | .diffSwitch first rest => ∃ t, HasType Γ first (.value t) ∧ CasesTyped Γ t rest ∧ τ = .value t
    | .xcrement _ _ v => ReadTy (Γ.refTy v) v.sig .int ∧ Assignable Γ v ∧ τ = .value .int
    | _ => True

theorem hasType_inv {Γ : Ctx} {e : TExpr} {τ : ETy} (h : HasType Γ e τ) : Premises Γ τ e := by
  cases h with
  | reg hr => exact ⟨_, hr, rfl⟩
  | var hr => exact ⟨_, hr, rfl⟩
  | unop hop hx => exact ⟨_, _, hop, hx, rfl⟩
  | binop hop ha hb => exact ⟨_, _, hop, ha, hb, rfl⟩
  | ternary hc hl hr => exact ⟨_, hc, hl, hr, rfl⟩
  | call hps hargs => exact ⟨_, hps, hargs, rfl⟩
  | diffSwitch hf hr => exact ⟨_, hf, hr, rfl⟩
  | xcrement hr ha => exact ⟨hr, ha, rfl⟩
  | _ => trivial

mutual
theorem check_complete_aux (Γ : Ctx) (hΓ : SigsOk Γ) : (e : TExpr) → (t : ETy) → HasType Γ e t →
    check Γ e = .ok t
  | .litI _ | .litF _ | .litS _ | .enumConst _ _ | .labelProp _ => fun t h => by
    cases h; rfl
  | .reg _ sig | .var _ sig => fun t h => by
    obtain ⟨u, hr, rfl⟩ := hasType_inv h
    simp only [check, checkVar_ok_iff.mpr hr]
  | .unop op x => fun t h => by
    obtain ⟨tx, t', hu, hx, rfl⟩ := hasType_inv h
    have cx := check_complete_aux Γ hΓ x _ hx
    obtain rfl := ((unopTy_iff op tx t').mp hu).2
    have hck := (unopCheck_ok_iff op tx).mpr hu
    simp only [check, checkValue_ok.mpr cx, hck, unopTyWith_of_check cx hck]
  | .binop op a b => fun t h => by
    obtain ⟨tx, t', hu, ha, hb, rfl⟩ := hasType_inv h
    have ca := check_complete_aux Γ hΓ a _ ha
    have cb := check_complete_aux Γ hΓ b _ hb
    obtain rfl := ((binopTy_iff op tx t').mp hu).2
    have hck := (binopCheck_ok_iff op tx tx).mpr ⟨rfl, hu⟩
    simp only [check, checkValue_ok.mpr ca, checkValue_ok.mpr cb, hck,
      binopTyWith_of_check ca hck]
  | .ternary c l r => fun t h => by
    obtain ⟨u, hc, hl, hr, rfl⟩ := hasType_inv h
    have cc := check_complete_aux Γ hΓ c _ hc
    have cl := check_complete_aux Γ hΓ l _ hl
    have cr := check_complete_aux Γ hΓ r _ hr
    simp [check, checkValue_ok.mpr cc, checkValue_ok.mpr cl,
      checkValue_ok.mpr cr, requireExact, requireSame]
  | .call f args => fun t h => by
    obtain ⟨ps, hps, hargs, rfl⟩ := hasType_inv h
    have := checkArgs_complete_aux Γ hΓ args ps (hΓ f ps hps) hargs
    simp [check, hps, arity_ok hargs, this]
  | .diffSwitch first rest => fun t h => by
    obtain ⟨u, hf, hr, rfl⟩ := hasType_inv h
    have cf := check_complete_aux Γ hΓ first _ hf
    have cr := checkCases_complete_aux Γ hΓ _ rest hr
    simp [check, checkValue_ok.mpr cf, cr]
  | .xcrement pre inc v => fun t h => by
    obtain ⟨hr, ha, rfl⟩ := hasType_inv h
    -- for every setting of the switch: an assignable operand passes `check_var_is_assignable`
    have hca := (checkAssignable_ok_iff Γ v).mpr ha
    cases hsw : checksXcrementTarget <;>
      simp [check, hsw, hca, checkVar_ok_iff.mpr hr, requireExact]
  | .callx user f pseudos args => fun t h => by
    cases h with
    | callIns hp hb hps hargs =>
      rename_i ps
      have ha := checkArgs_complete_aux Γ hΓ args ps (hΓ f ps hps) hargs
      have hcp := checkPseudos_complete_aux Γ hΓ pseudos hp
      simp [check, hcp, hb, Ctx.calleeSig, hps, arity_ok hargs, ha]
    | callBlob hp hb =>
      have hcp := checkPseudos_complete_aux Γ hΓ pseudos hp
      simp [check, hcp, hb, TArgs.isNil]
    | callUser hargs =>
      rw [← fparams_required] at hargs
      have ha := checkArgs_complete_aux Γ hΓ args _ (fparams_trailing Γ f) hargs
      simp [check, checkPseudos, TPseudos.isNil, TPseudos.hasBlob, Ctx.calleeSig, arity_ok hargs, ha]
theorem checkArgs_complete_aux (Γ : Ctx) (hΓ : SigsOk Γ) : (as : TArgs) → (ps : List Param) →
    trailingOptional ps = true → ArgsTyped Γ as (required ps) → checkArgs Γ as ps = .ok ()
  | .nil, _ => fun _ _ => rfl
  | .cons a as, [] => fun _ h => by simp only [required] at h; cases h
  | .cons a as, p :: ps => fun htr h => by
    by_cases hp : p.optional
    · simp only [trailingOptional, hp, if_true] at htr
      have := required_of_minArgs_zero ps (minArgs_all_optional ps htr)
      simp only [required, hp, if_true, this] at h
      cases h
    · simp only [trailingOptional, hp] at htr
      simp only [required, hp] at h
      cases h with
      | cons ha hpa hr =>
        have ca := check_complete_aux Γ hΓ a _ ha
        have := checkArgs_complete_aux Γ hΓ as ps (by simpa using htr) hr
        simp [checkArgs, checkValue_ok.mpr ca, paramCheck_ok_iff.mpr hpa, this]
theorem checkCases_complete_aux (Γ : Ctx) (hΓ : SigsOk Γ) (t : Ty) : (cs : TCases) →
    CasesTyped Γ t cs → checkCases Γ t cs = .ok ()
  | .nil => fun _ => rfl
  | .blank cs => fun h => by
    cases h with
    | blank hr => simp [checkCases, checkCases_complete_aux Γ hΓ t cs hr]
  | .case e cs => fun h => by
    cases h with
    | case he hr =>
      have ce := check_complete_aux Γ hΓ e _ he
      simp [checkCases, checkValue_ok.mpr ce, requireSame,
        checkCases_complete_aux Γ hΓ t cs hr]
theorem checkPseudos_complete_aux (Γ : Ctx) (hΓ : SigsOk Γ) : (ps : TPseudos) →
    PseudosTyped Γ ps → checkPseudos Γ ps = .ok ()
  | .nil => fun _ => rfl
  | .cons k e ps => fun h => by
    cases h with
    | cons he hk hr =>
      have ce := check_complete_aux Γ hΓ e _ he
      simp [checkPseudos, checkValue_ok.mpr ce, pseudoCheck_ok_iff.mpr hk,
        checkPseudos_complete_aux Γ hΓ ps hr]
end

theorem check_iff (Γ : Ctx) (hΓ : SigsOk Γ) (e : TExpr) (t : ETy) :
    check Γ e = .ok t ↔ HasType Γ e t :=
  -- `rfl`: `checksXcrementTarget` is on in Model/Types.lean (e098828)
  ⟨fun h => check_sound_aux Γ hΓ e t h (Or.inl rfl), check_complete_aux Γ hΓ e t⟩

/-! ### The checks of the statement level

`J` is a reading of `check`'s answers:
`HasType Γ` by `check_iff`, or the answers as they are (`C04.answersAsIs`), so that the second half needs no `SigsOk`. -/

theorem lit_hasType (Γ : Ctx) (e : TExpr) (t : Ty) (h : litTy e = some t) : HasType Γ e (.value t) := by
  revert h
  fun_cases litTy e <;> intro h <;> cases h
  · exact .litI _
  · exact .litF _
  · exact .litS _

section
variable {Γ : Ctx} {J : TExpr → ETy → Prop} (hJ : ∀ e t, check Γ e = .ok t ↔ J e t)
include hJ

theorem checkValue_spec (e : TExpr) : Spec (check Γ e >>= requireValue) fun t => J e (.value t) :=
  ⟨fun _ => checkValue_ok.trans (hJ _ _), bind_requireValue_ne_panic (check_ne_panic Γ e)⟩

theorem checkCond_spec (c : TExpr) : Spec (checkCond Γ c) fun _ => J c (.value .int) :=
  ((checkValue_spec hJ c).bind bindTy fun t => requireExact_spec t .int).congr fun _ => exists_eq_right

theorem checkExprStmt_spec (e : TExpr) : Spec (checkExprStmt Γ e) fun _ => J e .void := by
  refine (Spec.bind bindETy (R := fun t _ => t = .void) ⟨hJ e, check_ne_panic Γ e⟩ fun t => ?_).congr
    fun _ => exists_eq_right
  cases t with
  | void => exact ⟨fun _ => iff_of_true rfl rfl, np_ok⟩
  | value u => exact ⟨fun _ => iff_of_false nofun nofun, np_err⟩

theorem checkAssignTyped_spec (v : VarRef) (op : AssignOp) (e : TExpr) :
    Spec (checkAssignTyped Γ v op e) fun _ =>
      ∃ t, ReadTy (Γ.refTy v) v.sig t ∧ J e (.value t) ∧ AssignTy op t := by
  unfold checkAssignTyped AssignTy
  cases op.binop with
  | none =>
    exact ((checkVar_spec _ _).bind bindTy fun tv => (checkValue_spec hJ e).bind bindTy fun te =>
      (requireSame_spec tv te).bind bindTy fun _ => .ok ()).congr fun _ => by
        simp only [and_true, exists_eq_right', eq_comm]
  | some b =>
    exact ((checkVar_spec _ _).bind bindTy fun tv => (checkValue_spec hJ e).bind bindTy fun te =>
      binopCheck_spec b tv te).congr fun _ => by
        simp only [binopTy_exists_iff]
        constructor
        · rintro ⟨t, hv, _, he, rfl, hop⟩; exact ⟨t, hv, he, hop⟩
        · rintro ⟨t, hv, he, hop⟩; exact ⟨t, hv, t, he, rfl, hop⟩

theorem checkAssign_spec (v : VarRef) (op : AssignOp) (e : TExpr) :
    Spec (checkAssign Γ v op e) fun _ => Assignable Γ v ∧
      ∃ t, ReadTy (Γ.refTy v) v.sig t ∧ J e (.value t) ∧ AssignTy op t :=
  (checkAssignable_spec Γ v).bindUnit bindUnit (checkAssignTyped_spec hJ v op e)

omit hJ in
theorem checkClobber_spec (Γ : Ctx) (v : VarRef) (tc : Ty) :
    Spec (checkClobber Γ v tc) fun _ => Assignable Γ v ∧ ReadTy (Γ.refTy v) v.sig tc :=
  ((checkAssignable_spec Γ v).bindUnit bindUnit ((checkVar_spec _ _).bind bindTy fun tv =>
    (requireSame_spec tv tc).bind bindTy fun _ => .ok ())).congr fun _ => by
      simp only [and_true, exists_eq_right]

theorem checkTimes_spec (cl : Option VarRef) (count : TExpr) :
    Spec (checkTimes Γ cl count) fun _ => J count (.value .int) ∧
      (match cl with
        | none => True
        | some v => Assignable Γ v ∧ ReadTy (Γ.refTy v) v.sig .int) := by
  unfold checkTimes
  cases cl with
  | none =>
    exact ((checkValue_spec hJ count).bind bindTy fun tc =>
      (requireExact_spec tc .int).bindUnit bindUnit (.ok ())).congr fun _ => by
        simp only [and_true, exists_eq_right]
  | some v =>
    exact ((checkValue_spec hJ count).bind bindTy fun tc =>
      (requireExact_spec tc .int).bindUnit bindUnit (checkClobber_spec Γ v tc)).congr fun _ => by
        constructor
        · rintro ⟨_, hc, rfl, hv⟩; exact ⟨hc, hv⟩
        · rintro ⟨hc, hv⟩; exact ⟨_, hc, rfl, hv⟩

theorem checkDecl_spec (x : Nat) (init : Option TExpr) :
    Spec (checkDecl Γ x init) fun _ => match init with
      | none => True
      | some e => ∃ t, Γ.varTy x = .typed t ∧ J e (.value t) := by
  cases init with
  | none => exact (Spec.ok ()).congr fun _ => iff_of_true rfl trivial
  | some e =>
    exact ((checkVar_spec _ none).bind bindTy fun tv => (checkValue_spec hJ e).bind bindTy fun te =>
      requireExact_spec te tv).congr fun _ => by
        simp only [exists_eq_right, ReadTy]

/-- with the switch off `walk_item` only visits the initialiser -/
theorem checkConstDecl_spec (cfg : Cfg) (x : Nat) (e : TExpr) :
    Spec (checkConstDecl cfg Γ x e) fun _ =>
      if cfg.checksConstDeclTy = true then ∃ t, Γ.varTy x = .typed t ∧ J e (.value t)
      else ∃ τ, J e τ := by
  unfold checkConstDecl
  split
  · exact checkDecl_spec hJ x (some e)
  · exact (Spec.bind bindETy ⟨hJ e, check_ne_panic Γ e⟩ fun _ => .ok ()).congr fun _ =>
      exists_congr fun _ => and_iff_left rfl

theorem checkReturn_spec (ρ : Option ETy) (e : Option TExpr) :
    Spec (checkReturn Γ ρ e) fun _ => match e with
      | none => ρ = some .void
      | some v => ∃ t, J v (.value t) ∧ ρ = some (.value t) := by
  unfold checkReturn
  cases ρ with
  | none => cases e <;> exact ⟨fun _ => iff_of_false nofun (by simp), np_err⟩
  | some rt =>
    cases e with
    | none => exact Spec.ite.congr fun _ => eq_comm.trans Option.some_inj.symm
    | some v =>
      exact ((checkValue_spec hJ v).bind bindTy fun t => .ite).congr fun _ =>
        exists_congr fun _ => and_congr_right' (eq_comm.trans Option.some_inj.symm)

theorem checkDecls_spec (ds : List (Nat × Option TExpr)) :
    Spec (checkDecls Γ ds) fun _ => ∀ p ∈ ds, match p.2 with
      | none => True
      | some e => ∃ t, Γ.varTy p.1 = .typed t ∧ J e (.value t) := by
  induction ds with
  | nil => exact (Spec.ok ()).congr fun _ => iff_of_true rfl nofun
  | cons d rest ih =>
    exact ((checkDecl_spec hJ d.1 d.2).andThen ih).congr fun _ => by
      rw [List.forall_mem_cons]

theorem checkConstDecls_spec (cfg : Cfg) (ds : List (Nat × TExpr)) :
    Spec (checkConstDecls cfg Γ ds) fun _ => ∀ p ∈ ds,
      if cfg.checksConstDeclTy = true then ∃ t, Γ.varTy p.1 = .typed t ∧ J p.2 (.value t)
      else ∃ τ, J p.2 τ := by
  induction ds with
  | nil => exact (Spec.ok ()).congr fun _ => iff_of_true rfl nofun
  | cons d rest ih =>
    exact ((checkConstDecl_spec hJ cfg d.1 d.2).andThen ih).congr fun _ => by
      rw [List.forall_mem_cons]

end

/-- what `Covered` is for: with the switch off the declared type goes unchecked, and the initialiser
is a literal of that type -/
theorem constDecl_covered {cfg : Cfg} {Γ : Ctx} {x : Nat} {e : TExpr}
    (hc : Covered cfg Γ (.constDecl x e)) :
    (if cfg.checksConstDeclTy = true then ∃ t, Γ.varTy x = .typed t ∧ HasType Γ e (.value t)
      else ∃ τ, HasType Γ e τ) ↔ DeclOk Γ x (some e) := by
  by_cases hcfg : cfg.checksConstDeclTy = true
  · rw [if_pos hcfg]; rfl
  · obtain ⟨t, hl, hx⟩ := hc.resolve_left hcfg
    have he := lit_hasType Γ e t hl
    rw [if_neg hcfg]
    exact iff_of_true ⟨_, he⟩ ⟨t, hx, he⟩

mutual
theorem checkStmt_iff (cfg : Cfg) (Γ : Ctx) (hΓ : SigsOk Γ) : (ρ : Option ETy) → (s : Stmt) →
    Covered cfg Γ s → (checkStmt cfg Γ ρ s = .ok () ↔ WellTypedStmt Γ ρ s)
  | _, .exprStmt e => fun _ => (checkExprStmt_spec (check_iff Γ hΓ) e).ok_iff ()
  | _, .assign v op e => fun _ => (checkAssign_spec (check_iff Γ hΓ) v op e).ok_iff ()
  | _, .decl x none => fun _ => (checkDecl_spec (check_iff Γ hΓ) x none).ok_iff ()
  | _, .decl x (some e) => fun _ => (checkDecl_spec (check_iff Γ hΓ) x (some e)).ok_iff ()
  | _, .constDecl x e => fun hc =>
    ((checkConstDecl_spec (check_iff Γ hΓ) cfg x e).ok_iff ()).trans (constDecl_covered hc)
  | ρ, .ite c t e => fun hc =>
    andThen_congr ((checkCond_spec (check_iff Γ hΓ) c).ok_iff ())
      (andThen_congr (checkStmts_iff cfg Γ hΓ ρ t hc.1) (checkStmts_iff cfg Γ hΓ ρ e hc.2))
  | ρ, .while_ c body => fun hc =>
    (andThen_congr (checkStmts_iff cfg Γ hΓ ρ body hc)
      ((checkCond_spec (check_iff Γ hΓ) c).ok_iff ())).trans And.comm
  | ρ, .doWhile c body => fun hc =>
    andThen_congr ((checkCond_spec (check_iff Γ hΓ) c).ok_iff ()) (checkStmts_iff cfg Γ hΓ ρ body hc)
  | ρ, .times cl count body => fun hc =>
    (andThen_congr ((checkTimes_spec (check_iff Γ hΓ) cl count).ok_iff ())
      (checkStmts_iff cfg Γ hΓ ρ body hc)).trans and_assoc
  | _, .condJump c => fun _ => (checkCond_spec (check_iff Γ hΓ) c).ok_iff ()
  | _, .inert => fun _ => iff_of_true rfl trivial
  | ρ, .block body => fun hc => by
    rw [checkStmt, if_pos hc.1]; exact checkStmts_iff cfg Γ hΓ ρ body hc.2
  | ρ, .ret none => fun _ => (checkReturn_spec (check_iff Γ hΓ) ρ none).ok_iff ()
  | ρ, .ret (some e) => fun _ => (checkReturn_spec (check_iff Γ hΓ) ρ (some e)).ok_iff ()
  | _, .func rt body => checkStmts_iff cfg Γ hΓ (some rt) body
  | ρ, .loop body | ρ, .script body => checkStmts_iff cfg Γ hΓ ρ body
  | _, .interruptLabel e | _, .relTimeLabel e => fun hc =>
    ((checkCond_spec (check_iff Γ hΓ) e).switch.ok_iff ()).trans
      ⟨fun h => hc.elim h (lit_hasType Γ e _), fun h _ => h⟩
  | _, .decls ds => fun _ => (checkDecls_spec (check_iff Γ hΓ) ds).ok_iff ()
  | _, .constDecls ds => fun hc =>
    ((checkConstDecls_spec (check_iff Γ hΓ) cfg ds).ok_iff ()).trans <| forall_congr' fun p =>
      forall_congr' fun hp => constDecl_covered (hc.imp id fun h => h p hp)
theorem checkStmts_iff (cfg : Cfg) (Γ : Ctx) (hΓ : SigsOk Γ) : (ρ : Option ETy) → (ss : Stmts) →
    CoveredS cfg Γ ss → (checkStmts cfg Γ ρ ss = .ok () ↔ WellTypedStmts Γ ρ ss)
  | _, .nil => fun _ => iff_of_true rfl trivial
  | ρ, .cons s ss => fun hc =>
    andThen_congr (checkStmt_iff cfg Γ hΓ ρ s hc.1) (checkStmts_iff cfg Γ hΓ ρ ss hc.2)
end

/-! ### Evaluation gives values of the static type (`ValOk`): `evalT`, and the steps C04's two later passes share -/

theorem ty_int_cases (v : Value) (h : v.ty = .int) : ∃ x, v = .int x := by
  cases v <;> simp_all [Value.ty]

theorem ty_float_cases (v : Value) (h : v.ty = .float) : ∃ x, v = .float x := by
  cases v <;> simp_all [Value.ty]

/-- what type preservation says about one evaluation: a value has the static type, and no
"type error" panic is reached -/
def ValOk (t : Ty) (o : Outcome Value) : Prop := (∀ v, o = .ok v → v.ty = t) ∧ (∀ s, o ≠ .panic s)

theorem ValOk.ok {t : Ty} {v : Value} (h : v.ty = t) : ValOk t (.ok v) :=
  ⟨fun _ hv => by cases hv; exact h, fun _ hv => (nomatch hv)⟩

theorem ValOk.err {t : Ty} {c : String} : ValOk t (.err c) :=
  ⟨fun _ hv => (nomatch hv), fun _ hv => (nomatch hv)⟩

theorem ValOk.ite {t : Ty} {p : Prop} [Decidable p] {x y : Outcome Value} (hx : ValOk t x)
    (hy : ValOk t y) : ValOk t (if p then x else y) := by
  split
  · exact hx
  · exact hy

theorem bindV {β} {x : Outcome Value} {f : Value → Outcome β} :
    Binds x f (match x with | .ok v => f v | .err c => .err c | .panic s => .panic s) :=
  ⟨by rintro a rfl; rfl, by rintro c rfl; rfl, by rintro s rfl; rfl⟩

theorem ValOk.bind {t t' : Ty} {x : Outcome Value} {f : Value → Outcome Value} (hx : ValOk t x)
    (hf : ∀ v, v.ty = t → ValOk t' (f v)) :
    ValOk t' (match x with | .ok v => f v | .err c => .err c | .panic s => .panic s) :=
  bindV.step (ValOk t') (fun _ => .err) hx.2 fun v h => hf v (hx.1 v h)

theorem castBySigil_ty (F : FloatOps) (v : Value) (sig : Option Sigil) (t : Ty)
    (h : ReadTy (.typed v.ty) sig t) : ∃ w, castBySigil F v sig = some w ∧ w.ty = t := by
  cases sig with
  | none =>
    simp only [ReadTy, VarTy.typed.injEq] at h
    exact ⟨v, rfl, h⟩
  | some s =>
    obtain ⟨rfl, hn⟩ := h
    cases v with
    | str x => exact absurd rfl hn
    | int x => cases s <;> exact ⟨_, rfl, rfl⟩
    | float x => cases s <;> exact ⟨_, rfl, rfl⟩

theorem _root_.TruthModel.Types.OpClass.result_int (c : OpClass) : c.result .int = .int := by cases c <;> rfl

theorem _root_.TruthModel.Types.OpClass.accepts_str (c : OpClass) : c.accepts .str = false := by cases c <;> rfl

theorem binopInt_valOk (op : BinOp) (a b : Int32) : ValOk .int (binopInt op a b) := by
  cases op with
  | div | rem => exact .ite .err (.ok rfl)
  | _ => exact .ok rfl

theorem binopFloat_valOk (F : FloatOps) (op : BinOp) (a b : UInt32)
    (h : op.cls.accepts .float = true) : ValOk (op.cls.result .float) (binopFloat F op a b) := by
  cases op with
  | add | sub | mul | div | rem | eq | ne | lt | le | gt | ge => exact .ok rfl
  | _ => cases h

theorem binop_ty (F : FloatOps) (op : BinOp) (va vb : Value) (t t' : Ty)
    (ha : va.ty = t) (hb : vb.ty = t) (hop : BinopTy op t t') : ValOk t' (binop F op va vb) := by
  obtain ⟨hacc, rfl⟩ := (binopTy_iff op t t').mp hop
  subst ha
  cases va with
  | int a =>
    obtain ⟨b, rfl⟩ := ty_int_cases vb hb
    exact op.cls.result_int.symm ▸ binopInt_valOk op a b
  | float a =>
    obtain ⟨b, rfl⟩ := ty_float_cases vb hb
    exact binopFloat_valOk F op a b hacc
  | str a => cases op.cls.accepts_str.symm.trans hacc

/-- `UnOpKind::const_eval` on an operand the rule accepts: no panic, a folded value has the result
type, and only the sigil operators are not folded -/
theorem unop_ty (F : FloatOps) (op : UnOp) (v : Value) (t t' : Ty) (hv : v.ty = t)
    (hop : UnopTy op t t') :
    ∃ ow, unop F op v = .ok ow ∧ (∀ w, ow = some w → w.ty = t') ∧
      (sigilOfUnop op = none → ow ≠ none) := by
  obtain ⟨hacc, rfl⟩ := (unopTy_iff op t t').mp hop
  subst hv
  cases v with
  | int x =>
    cases op with
    | sin | cos | tan | asin | acos | atan | sqrt => cases hacc
    | sigI | sigF => exact ⟨none, rfl, fun _ h => (nomatch h), fun h => (nomatch h)⟩
    | _ => exact ⟨_, rfl, fun _ hw => Option.some.inj hw ▸ rfl, fun _ => Option.some_ne_none _⟩
  | float x =>
    cases op with
    | not | bnot => cases hacc
    | sigI | sigF => exact ⟨none, rfl, fun _ h => (nomatch h), fun h => (nomatch h)⟩
    | _ => exact ⟨_, rfl, fun _ hw => Option.some.inj hw ▸ rfl, fun _ => Option.some_ne_none _⟩
  | str x => cases op <;> cases hacc

theorem unop_sigil_ty (F : FloatOps) (op : UnOp) (s : Sigil) (v : Value) (t t' : Ty)
    (hv : v.ty = t) (hop : UnopTy op t t') (hs : sigilOfUnop op = some s) :
    ∃ w, castBySigil F v (some s) = some w ∧ w.ty = t' := by
  obtain ⟨hacc, rfl⟩ := (unopTy_iff op t t').mp hop
  subst hv
  revert hs
  fun_cases sigilOfUnop op with
  | case1 | case2 =>
    rintro ⟨⟩
    cases v with
    | int x => exact ⟨_, rfl, rfl⟩
    | float x => exact ⟨_, rfl, rfl⟩
    | str x => cases hacc
  | case3 => exact fun h => nomatch h

theorem readVar_valOk (F : FloatOps) (Γ : Ctx) (cs : Consts) (env : Env) (hE : EnvOk Γ cs env)
    (n : Nat) (sig : Option Sigil) (t : Ty) (hr : ReadTy (Γ.varTy n) sig t) :
    ValOk t (match cs n with
      | some c => match castBySigil F c sig with
        | some w => Outcome.ok w
        | none => .panic "cannot cast"
      | none => .ok (env.loc n sig)) := by
  cases hc : cs n with
  | none => exact .ok (hE.loc n sig t hc hr)
  | some c =>
    rw [hE.const n c hc] at hr
    obtain ⟨w, hw, hwt⟩ := castBySigil_ty F c sig t hr
    simp only [hw]
    exact .ok hwt

/-- `read_var_by_ast` -/
theorem readRef_valOk (F : FloatOps) (Γ : Ctx) (cs : Consts) (env : Env) (hE : EnvOk Γ cs env)
    (v : VarRef) (t : Ty) (hr : ReadTy (Γ.refTy v) v.sig t) :
    ValOk t (if v.isReg then Outcome.ok (env.reg v.id v.sig) else
      match cs v.id with
      | some c => match castBySigil F c v.sig with
        | some w => Outcome.ok w
        | none => .panic "cannot cast"
      | none => .ok (env.loc v.id v.sig)) := by
  unfold Ctx.refTy at hr
  cases hreg : v.isReg with
  | true =>
    simp only [hreg, if_true] at hr ⊢
    exact .ok (hE.reg _ _ _ hr)
  | false =>
    simp only [hreg, Bool.false_eq_true, if_false] at hr ⊢
    exact readVar_valOk F Γ cs env hE v.id v.sig t hr

theorem xcrement_valOk {o : Outcome Value} (h : ValOk .int o) (pre inc : Bool) :
    ValOk .int (match (generalizing := false) o with
      | .ok (.int old) => .ok (.int (if pre then (if inc then old + 1 else old + (-1)) else old))
      | .ok _ => .panic "type error"
      | .err c => .err c
      | .panic s => .panic s) := by
  cases o with
  | ok w =>
    obtain ⟨i, rfl⟩ := ty_int_cases w (h.1 w rfl)
    exact .ok rfl
  | err c => exact .err
  | panic s => exact absurd rfl (h.2 s)

mutual
theorem preservationT_aux (F : FloatOps) (Γ : Ctx) (cs : Consts) (env : Env) (hE : EnvOk Γ cs env)
    (x : XEnv) (hX : XEnvOk Γ x) :
    (e : TExpr) → (t : Ty) → HasType Γ e (.value t) → ValOk t (evalT F cs env x e)
  | .litI i | .litF i | .litS i | .labelProp i => fun t h => by cases h; exact .ok rfl
  | .reg r sig => fun t h => by
    obtain ⟨_, hr, ht⟩ := hasType_inv h
    cases ht
    exact .ok (hE.reg r sig t hr)
  | .var n sig => fun t h => by
    obtain ⟨_, hr, ht⟩ := hasType_inv h
    cases ht
    exact readVar_valOk F Γ cs env hE n sig t hr
  | .unop op a => fun t h => by
    obtain ⟨tx, _, hop, hx, ht⟩ := hasType_inv h
    cases ht
    refine ValOk.bind (preservationT_aux F Γ cs env hE x hX a tx hx) fun v hv => ?_
    cases hs : sigilOfUnop op with
    | some s =>
      obtain ⟨w, hw, hwt⟩ := unop_sigil_ty F op s v tx t hv hop hs
      simp only [hw]
      exact .ok hwt
    | none =>
      obtain ⟨ow, hu, hty, hsome⟩ := unop_ty F op v tx t hv hop
      cases ow with
      | none => exact absurd rfl (hsome hs)
      | some w => simp only [hu]; exact .ok (hty w rfl)
  | .binop op a b => fun t h => by
    obtain ⟨tx, _, hop, ha, hb, ht⟩ := hasType_inv h
    cases ht
    exact ValOk.bind (preservationT_aux F Γ cs env hE x hX a tx ha) fun va hva =>
      ValOk.bind (preservationT_aux F Γ cs env hE x hX b tx hb) fun vb hvb =>
        binop_ty F op va vb tx t hva hvb hop
  | .ternary c l r => fun t h => by
    obtain ⟨_, hc, hl, hr, ht⟩ := hasType_inv h
    cases ht
    obtain ⟨htyc, hnpc⟩ := preservationT_aux F Γ cs env hE x hX c .int hc
    simp only [evalT]
    cases hec : evalT F cs env x c with
    | ok vc =>
      obtain ⟨i, rfl⟩ := ty_int_cases vc (htyc vc hec)
      exact .ite (preservationT_aux F Γ cs env hE x hX r t hr)
        (preservationT_aux F Γ cs env hE x hX l t hl)
    | err e => exact .err
    | panic s' => exact absurd hec (hnpc s')
  | .call f args => fun t h => by cases h
  | .diffSwitch first rest => fun t h => by
    obtain ⟨_, hf, hr, ht⟩ := hasType_inv h
    cases ht
    exact preservationCases_aux F Γ cs env hE x hX rest t hr x.diff _
      (preservationT_aux F Γ cs env hE x hX first t hf)
  | .xcrement pre inc v => fun t h => by
    obtain ⟨hr, _, ht⟩ := hasType_inv h
    cases ht
    exact xcrement_valOk (readRef_valOk F Γ cs env hE v .int hr) pre inc
  | .enumConst en n => fun t h => by cases h; exact .ok (hX.enum en n)
  | .callx user f ps args => fun t h => .err
theorem preservationCases_aux (F : FloatOps) (Γ : Ctx) (cs : Consts) (env : Env)
    (hE : EnvOk Γ cs env) (x : XEnv) (hX : XEnvOk Γ x) :
    (rest : TCases) → (t : Ty) → CasesTyped Γ t rest → (d : Nat) → (cur : Unit → Outcome Value) →
    ValOk t (cur ()) → ValOk t (evalCaseT F cs env x d cur rest)
  | rest, t, _, 0 => fun cur hc => by cases rest <;> exact hc
  | .nil, _, _, _ + 1 => fun _ _ => .err
  | .blank rest, t, h, d + 1 => fun cur hc => by
    cases h with
    | blank hr => exact preservationCases_aux F Γ cs env hE x hX rest t hr d cur hc
  | .case e rest, t, h, d + 1 => fun cur hc => by
    cases h with
    | case he hr =>
      exact preservationCases_aux F Γ cs env hE x hX rest t hr d _
        (preservationT_aux F Γ cs env hE x hX e t he)
end

/-- on the expressions of the C11 model `evalT` is the VM model `eval` -/
theorem evalT_erase (F : FloatOps) (cs : Consts) (env : Env) (x : XEnv) (e : TExpr) (e' : Expr)
    (h : e.erase = some e') : evalT F cs env x e = eval F cs env e' := by
  fun_induction TExpr.erase e generalizing e' with
  | case1 | case2 | case3 | case4 | case5 => cases h; rfl
  | case6 op a a' ha ih => cases h; rw [evalT, ih a' ha]; rfl
  | case8 op a b a' b' hb ha iha ihb => cases h; rw [evalT, iha a' ha, ihb b' hb]; rfl
  | case10 c l r c' l' r' hr hl hc ihc ihl ihr =>
    cases h; rw [evalT, ihc c' hc, ihl l' hl, ihr r' hr]; rfl
  | _ => cases h

end TruthModel.C09
