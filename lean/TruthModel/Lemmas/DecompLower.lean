/-
C07, semantic half, layer 3: the resolved code of `lower fresh t` is `denL` of the tree
(`resolve_lower`): the fresh labels that `lower` generates are pairwise distinct, distinct from the
labels of the tree, and stand exactly at the code indices `denL` computes structurally.
-/
import TruthModel.Lemmas.DecompDen
namespace TruthModel.Decomp
open List

def lowAtom (brk : Option Nat) : Atom → Atom
  | .jump .brk => (match brk with | some e => .jump (.goto e none) | none => .jump .brk)
  | .condJump kw c .brk => (match brk with | some e => .condJump kw c (.goto e none) | none => .condJump kw c .brk)
  | a => a

theorem lowerS_atom (brk : Option Nat) (d : Option String) (a : Atom) (n : Nat) :
    lowerS brk (.atom d a) n = ([(d, lowAtom brk a)], n) := by
  cases a with
  | jump j => cases j <;> cases brk <;> rfl
  | condJump kw c j => cases j <;> cases brk <;> rfl
  | _ => rfl

theorem lowAtom_none (a : Atom) : lowAtom none a = a := by
  cases a with
  | jump j => cases j <;> rfl
  | condJump kw c j => cases j <;> rfl
  | _ => rfl

theorem lowerS_loop (brk : Option Nat) (id : Nat) (b : List Stmt) (n : Nat) :
    lowerS brk (.node (.loop id) b) n =
      ((none, .label n) :: (lowerL (some (n + 1)) b (n + 2)).1 ++ [(none, .jump (.goto n none)), (none, .label (n + 1))],
       (lowerL (some (n + 1)) b (n + 2)).2) := rfl

theorem lowerS_doWhile (brk : Option Nat) (id : Nat) (c : Expr) (b : List Stmt) (n : Nat) :
    lowerS brk (.node (.doWhile id c) b) n =
      ((none, .label n) :: (lowerL (some (n + 1)) b (n + 2)).1 ++
          [(none, .condJump .if_ c (.goto n none)), (none, .label (n + 1))],
       (lowerL (some (n + 1)) b (n + 2)).2) := rfl

theorem lowerS_chain (brk : Option Nat) (b : List Stmt) (n : Nat) :
    lowerS brk (.node .chain b) n =
      ((lowerArms brk n b (n + 1)).1 ++ [(none, .label n)], (lowerArms brk n b (n + 1)).2) := rfl

theorem lowerS_arm (brk : Option Nat) (kw c) (b : List Stmt) (n : Nat) :
    lowerS brk (.node (.arm kw c) b) n = lowerL brk b n := rfl

theorem lowerS_els (brk : Option Nat) (b : List Stmt) (n : Nat) :
    lowerS brk (.node .els b) n = lowerL brk b n := rfl

theorem lowerL_nil (brk : Option Nat) (n : Nat) : lowerL brk [] n = ([], n) := rfl

theorem lowerL_cons (brk : Option Nat) (s : Stmt) (ss : List Stmt) (n : Nat) :
    lowerL brk (s :: ss) n =
      ((lowerS brk s n).1 ++ (lowerL brk ss (lowerS brk s n).2).1, (lowerL brk ss (lowerS brk s n).2).2) := rfl

theorem lowerArms_nil (brk : Option Nat) (e n : Nat) : lowerArms brk e [] n = ([], n) := rfl

theorem lowerArms_atom (brk : Option Nat) (e : Nat) (d a) (rest : List Stmt) (n : Nat) :
    lowerArms brk e (.atom d a :: rest) n = ((d, a) :: (lowerArms brk e rest n).1, (lowerArms brk e rest n).2) := rfl

theorem lowerArms_arm (brk : Option Nat) (e : Nat) (kw c) (b rest : List Stmt) (n : Nat) :
    lowerArms brk e (.node (.arm kw c) b :: rest) n =
      ((none, .condJump (flipKw kw) c (.goto n none)) :: (lowerL brk b (n + 1)).1 ++
        jtail e rest ++ [(none, .label n)] ++
        (lowerArms brk e rest (lowerL brk b (n + 1)).2).1,
       (lowerArms brk e rest (lowerL brk b (n + 1)).2).2) := by
  cases kw <;> cases rest <;> rfl

theorem lowerArms_other (brk : Option Nat) (e : Nat) (k : Kind) (hk : ∀ kw c, k ≠ .arm kw c) (b rest : List Stmt) (n : Nat) :
    lowerArms brk e (.node k b :: rest) n =
      ((lowerL brk b n).1 ++ (lowerArms brk e rest (lowerL brk b n).2).1, (lowerArms brk e rest (lowerL brk b n).2).2) := by
  cases k with
  | arm kw c => exact absurd rfl (hk kw c)
  | _ => rfl

def labsF (p : List Leaf) : List Nat := p.filterMap labOf

def layF : List Leaf → Nat → List (Nat × Nat)
  | [], _ => []
  | x :: rest, k =>
    match labOf x with
    | some l => (l, k) :: layF rest k
    | none => layF rest (k + 1)

theorem labsF_append (p q : List Leaf) : labsF (p ++ q) = labsF p ++ labsF q := by simp [labsF]

theorem layF_append (p q : List Leaf) (k : Nat) : layF (p ++ q) k = layF p k ++ layF q (k + (code p).length) := by
  fun_induction layF p k with
  | case1 k => rfl
  | case2 x rest k l hx ih =>
    rw [List.cons_append, layF, hx, ih, code_cons_lab (by rw [isLab, hx]; rfl)]; rfl
  | case3 x rest k hx ih =>
    rw [List.cons_append, layF, hx, ih, code_cons_code (by rw [isLab, hx]; rfl), List.length_cons, Nat.add_assoc,
      Nat.add_comm 1]

theorem mem_layF_labs {p : List Leaf} {k : Nat} {q : Nat × Nat} (h : q ∈ layF p k) : q.1 ∈ labsF p := by
  fun_induction layF p k with
  | case1 => cases h
  | case2 x rest k l hx ih =>
    rw [labsF, List.filterMap_cons, hx]
    rcases List.mem_cons.mp h with rfl | h
    · exact List.mem_cons_self ..
    · exact List.mem_cons_of_mem _ (ih h)
  | case3 x rest k hx ih => rw [labsF, List.filterMap_cons, hx]; exact ih h

/-- with pairwise distinct labels every definition is the first one -/
theorem ctgtFrom_of_mem_layF {p : List Leaf} (hnd : (labsF p).Nodup) {k : Nat} {q : Nat × Nat} (h : q ∈ layF p k) :
    ctgtFrom q.1 p k = some q.2 := by
  fun_induction layF p k with
  | case1 => cases h
  | case2 x rest k l hx ih =>
    rw [labsF, List.filterMap_cons, hx, List.nodup_cons] at hnd
    simp only [ctgtFrom, hx]
    rcases List.mem_cons.mp h with rfl | h
    · exact if_pos rfl
    · rw [if_neg (fun e : q.1 = l => hnd.1 (e ▸ mem_layF_labs h))]
      exact ih hnd.2 h
  | case3 x rest k hx ih =>
    rw [labsF, List.filterMap_cons, hx] at hnd
    simp only [ctgtFrom, hx]
    exact ih hnd h

theorem ctgtFrom_none {l : Nat} {p : List Leaf} (k : Nat) (h : l ∉ labsF p) : ctgtFrom l p k = none := by
  fun_induction ctgtFrom l p k with
  | case1 => rfl
  | case2 x rest k hx => exact absurd (by rw [labsF, List.filterMap_cons, hx]; exact List.mem_cons_self ..) h
  | case3 x rest k l' hx hl ih =>
    exact ih (fun hm => h (by rw [labsF, List.filterMap_cons, hx]; exact List.mem_cons_of_mem _ hm))
  | case4 x rest k hx ih => exact ih (fun hm => h (by rw [labsF, List.filterMap_cons, hx]; exact hm))

def Placed (tgt : Nat → Option Nat) (q : List Leaf) (o : Nat) : Prop := ∀ x ∈ layF q o, tgt x.1 = some x.2

theorem Placed.append {tgt : Nat → Option Nat} {p q : List Leaf} {o : Nat} :
    Placed tgt (p ++ q) o ↔ Placed tgt p o ∧ Placed tgt q (o + (code p).length) := by
  simp only [Placed, layF_append]
  exact List.forall_mem_append

theorem placed_ctgt {p : List Leaf} (hnd : (labsF p).Nodup) : Placed (ctgt p) p 0 :=
  fun _ hx => ctgtFrom_of_mem_layF hnd hx

def resolveWith (tgt : Nat → Option Nat) (q : List Leaf) : List Leaf := (code q).map (rLeaf tgt)

theorem resolveWith_append (tgt : Nat → Option Nat) (p q : List Leaf) :
    resolveWith tgt (p ++ q) = resolveWith tgt p ++ resolveWith tgt q := by
  simp [resolveWith, code_append]

/-- lowering a tree with labels `labels` from counter `n` gave `r`: the labels of `r.1` are the tree's or fresh in `[n, r.2)`,
pairwise distinct if the tree's are and lie below `n`, and `r.1` has `cl` code leaves.  With `Placed tgt q o` (`tgt` sends every
label of `q`, laid out from code index `o` by `layF`, to its index) this is all `resolve_lower` needs of `lower`. -/
structure LowOK (labels : List Nat) (n : Nat) (r : List Leaf × Nat) (cl : Nat) : Prop where
  mono : n ≤ r.2
  mem : ∀ l ∈ labsF r.1, l ∈ labels ∨ (n ≤ l ∧ l < r.2)
  nodup : labels.Nodup → (∀ l ∈ labels, l < n) → (labsF r.1).Nodup
  clen : (code r.1).length = cl

theorem LowOK.append {l1 l2 : List Nat} {n : Nat} {r1 r2 : List Leaf × Nat} {c1 c2 : Nat}
    (h1 : LowOK l1 n r1 c1) (h2 : LowOK l2 r1.2 r2 c2) : LowOK (l1 ++ l2) n (r1.1 ++ r2.1, r2.2) (c1 + c2) := by
  have m1 := h1.mono
  have m2 := h2.mono
  refine ⟨Nat.le_trans m1 m2, ?_, ?_, by simp [code_append, h1.clen, h2.clen]⟩
  · intro l hl
    simp only [labsF_append, List.mem_append] at hl ⊢
    rcases hl with hl | hl
    · rcases h1.mem l hl with h | h
      · exact .inl (.inl h)
      · exact .inr ⟨h.1, Nat.lt_of_lt_of_le h.2 m2⟩
    · rcases h2.mem l hl with h | h
      · exact .inl (.inr h)
      · exact .inr ⟨Nat.le_trans m1 h.1, h.2⟩
  · intro hnd hlt
    rw [List.nodup_append] at hnd
    simp only [labsF_append]
    rw [List.nodup_append]
    refine ⟨h1.nodup hnd.1 (fun l hl => hlt l (List.mem_append_left _ hl)),
      h2.nodup hnd.2.1 (fun l hl => Nat.lt_of_lt_of_le (hlt l (List.mem_append_right _ hl)) m1), ?_⟩
    intro a ha b hb hab
    subst hab
    rcases h1.mem a ha with h | h <;> rcases h2.mem a hb with h' | h'
    · exact hnd.2.2 a h a h' rfl
    · exact absurd (Nat.lt_of_lt_of_le (hlt a (List.mem_append_left _ h)) (Nat.le_trans m1 h'.1)) (Nat.lt_irrefl a)
    · exact absurd (Nat.lt_of_lt_of_le (hlt a (List.mem_append_right _ h')) h.1) (Nat.lt_irrefl a)
    · exact absurd (Nat.lt_of_lt_of_le h.2 h'.1) (Nat.lt_irrefl a)

theorem labsF_cons_lab (d : Option String) (l : Nat) (p : List Leaf) : labsF ((d, .label l) :: p) = l :: labsF p := rfl

theorem labsF_cons_code {x : Leaf} (h : isLab x = false) (p : List Leaf) : labsF (x :: p) = labsF p := by
  simp [labsF, labOf_eq_none h]

theorem isLab_lowAtom (brk : Option Nat) (d : Option String) (a : Atom) : labOf (d, lowAtom brk a) = labOf (d, a) := by
  cases a with
  | jump j => cases j <;> cases brk <;> rfl
  | condJump kw c j => cases j <;> cases brk <;> rfl
  | _ => rfl

theorem labOf_atom (d : Option String) (a : Atom) : labOf (d, a) = (match a with | .label l => some l | _ => none) := by
  cases a <;> rfl

theorem lowAtom_labs (brk : Option Nat) (d : Option String) (a : Atom) :
    labsF [(d, lowAtom brk a)] = (Stmt.atom d a).labels ∧ (code [(d, lowAtom brk a)]).length = clenAtom a := by
  cases a with
  | jump j => cases j <;> cases brk <;> exact ⟨rfl, rfl⟩
  | condJump kw c j => cases j <;> cases brk <;> exact ⟨rfl, rfl⟩
  | _ => exact ⟨rfl, rfl⟩

theorem lowAtom_ok (brk : Option Nat) (d : Option String) (a : Atom) (n : Nat) :
    LowOK (Stmt.atom d a).labels n ([(d, lowAtom brk a)], n) (clenAtom a) := by
  obtain ⟨h1, h2⟩ := lowAtom_labs brk d a
  refine ⟨Nat.le_refl _, ?_, ?_, h2⟩
  · intro l hl; left; rw [← h1]; exact hl
  · intro hnd _; rw [h1]; exact hnd

/-- one more fresh label `n` below those of `r`, put anywhere among its statements -/
theorem LowOK.fresh {L : List Nat} {n : Nat} {r : List Leaf × Nat} {c c' : Nat} (h : LowOK L (n + 1) r c) {q : List Leaf}
    (hl : (labsF q).Perm (n :: labsF r.1)) (hc : (code q).length = c') : LowOK L n (q, r.2) c' := by
  have m := h.mono
  refine ⟨Nat.le_of_succ_le m, ?_, ?_, hc⟩
  · intro l hl'
    rcases List.mem_cons.mp (hl.mem_iff.mp hl') with rfl | hl'
    · exact .inr ⟨Nat.le_refl _, m⟩
    · rcases h.mem l hl' with h' | h'
      · exact .inl h'
      · exact .inr ⟨Nat.le_of_succ_le h'.1, h'.2⟩
  · intro hnd hlt
    refine (hl.nodup_iff).mpr (List.nodup_cons.mpr ⟨fun hn => ?_, h.nodup hnd (fun l hl => Nat.lt_succ_of_lt (hlt l hl))⟩)
    rcases h.mem n hn with h' | h'
    · exact Nat.lt_irrefl n (hlt n h')
    · exact Nat.lt_irrefl n h'.1

theorem LowOK.loop {L : List Nat} {n : Nat} {r : List Leaf × Nat} {c : Nat} (x : Leaf) (hx : isLab x = false)
    (h : LowOK L (n + 2) r c) :
    LowOK L n ((none, .label n) :: r.1 ++ [x, (none, .label (n + 1))], r.2) (c + 1) := by
  have h1 : LowOK L (n + 1) (r.1 ++ [x, (none, .label (n + 1))], r.2) (c + 1) := by
    refine h.fresh ?_ ?_
    · rw [labsF_append, labsF_cons_code hx, labsF_cons_lab]; exact List.perm_append_singleton _ _
    · rw [code_append, code_cons_code hx, code_cons_lab (isLab_label _ _)]; simp [h.clen]
  refine h1.fresh (q := (none, .label n) :: r.1 ++ [x, (none, .label (n + 1))]) ?_ ?_
  · rw [List.cons_append, labsF_cons_lab]
  · rw [List.cons_append, code_cons_lab (isLab_label _ _)]; exact h1.clen

mutual
theorem lowerS_ok : ∀ (brk : Option Nat) (s : Stmt) (n : Nat), LowOK s.labels n (lowerS brk s n) (clenS s)
  | brk, .atom d a, n => by rw [lowerS_atom, clenS_atom]; exact lowAtom_ok brk d a n
  | brk, .node k b, n => by
    cases k with
    | loop id => exact LowOK.loop _ rfl (lowerL_ok (some (n + 1)) b (n + 2))
    | doWhile id c => exact LowOK.loop _ rfl (lowerL_ok (some (n + 1)) b (n + 2))
    | chain =>
      rw [lowerS_chain, clenS_chain, labels_node]
      have h := lowerArms_ok brk n b (n + 1)
      refine h.fresh ?_ ?_
      · rw [labsF_append]; exact List.perm_append_singleton n _
      · rw [code_append, code_cons_lab (isLab_label _ _), code_nil, List.append_nil, h.clen]
    | arm kw c => exact lowerL_ok brk b n
    | els => exact lowerL_ok brk b n
theorem lowerL_ok : ∀ (brk : Option Nat) (ss : List Stmt) (n : Nat), LowOK (labelsL ss) n (lowerL brk ss n) (clenL ss)
  | brk, [], n => by
    rw [lowerL_nil]
    exact ⟨Nat.le_refl _, fun _ h => (nomatch h), fun _ _ => List.nodup_nil, rfl⟩
  | brk, s :: ss, n => by
    rw [lowerL_cons, labelsL_cons, clenL_cons]
    exact (lowerS_ok brk s n).append (lowerL_ok brk ss _)
theorem lowerArms_ok : ∀ (brk : Option Nat) (e : Nat) (ss : List Stmt) (n : Nat),
    LowOK (labelsL ss) n (lowerArms brk e ss n) (clenArms ss)
  | brk, e, [], n => by
    rw [lowerArms_nil]
    exact ⟨Nat.le_refl _, fun _ h => (nomatch h), fun _ _ => List.nodup_nil, rfl⟩
  | brk, e, .atom d a :: rest, n => by
    rw [lowerArms_atom, labelsL_cons, clenArms_atom]
    have h1 := lowAtom_ok none d a n
    rw [lowAtom_none] at h1
    exact h1.append (lowerArms_ok brk e rest n)
  | brk, e, .node k b :: rest, n => by
    rcases k.arm_or with ⟨kw, c, rfl⟩ | hk
    · rw [lowerArms_arm, labelsL_cons, labels_node]
      have hb := lowerL_ok brk b (n + 1)
      have hr := lowerArms_ok brk e rest (lowerL brk b (n + 1)).2
      have hJ : labsF (jtail e rest) = [] ∧ (code (jtail e rest)).length = jcount rest := by
        cases rest <;> exact ⟨rfl, rfl⟩
      refine (hb.append hr).fresh ?_ ?_
      · simp only [List.cons_append, labsF_append, labsF_cons_code (x := (none, Atom.condJump (flipKw kw) c (.goto n none))) rfl,
          hJ.1, labsF_cons_lab, List.append_assoc, List.nil_append]
        exact List.perm_middle
      · simp only [List.cons_append, List.append_assoc, List.nil_append]
        rw [code_cons_code rfl, code_append, code_append, code_cons_lab (isLab_label _ _)]
        simp only [List.length_cons, List.length_append, hb.clen, hJ.2, hr.clen, clenArms_arm]
        rw [Nat.add_comm _ 1, ← Nat.add_assoc, ← Nat.add_assoc]
    · rw [lowerArms_other _ _ _ hk, labelsL_cons, labels_node, clenArms_other hk]
      exact (lowerL_ok brk b n).append (lowerArms_ok brk e rest _)
end

theorem placed_lab {tgt : Nat → Option Nat} {d : Option String} {l : Nat} {q : List Leaf} {o : Nat} :
    Placed tgt ((d, .label l) :: q) o ↔ tgt l = some o ∧ Placed tgt q o := by
  simp only [Placed, layF, labOf]
  exact List.forall_mem_cons

theorem placed_code {tgt : Nat → Option Nat} {x : Leaf} (hx : isLab x = false) {q : List Leaf} {o : Nat} :
    Placed tgt (x :: q) o ↔ Placed tgt q (o + 1) := by
  simp only [Placed, layF, labOf_eq_none hx]

theorem placed_nil (tgt : Nat → Option Nat) (o : Nat) : Placed tgt [] o := by simp [Placed, layF]

theorem resolveWith_lab (tgt : Nat → Option Nat) (d : Option String) (l : Nat) (q : List Leaf) :
    resolveWith tgt ((d, .label l) :: q) = resolveWith tgt q := by
  simp [resolveWith, code_cons_lab (isLab_label d l)]

theorem resolveWith_code (tgt : Nat → Option Nat) {x : Leaf} (hx : isLab x = false) (q : List Leaf) :
    resolveWith tgt (x :: q) = rLeaf tgt x :: resolveWith tgt q := by
  simp [resolveWith, code_cons_code hx]

@[simp] theorem resolveWith_nil (tgt : Nat → Option Nat) : resolveWith tgt [] = [] := rfl

theorem resolveWith_lowAtom (tgt : Nat → Option Nat) (brk : Option Nat) (d : Option String) (a : Atom) :
    resolveWith tgt [(d, lowAtom brk a)] = denAtom tgt (brk.bind tgt) d a := by
  cases a with
  | jump j => cases j <;> cases brk <;> rfl
  | condJump kw c j => cases j <;> cases brk <;> rfl
  | _ => rfl

theorem resolveWith_jtail (tgt : Nat → Option Nat) {e ee : Nat} (h : tgt e = some ee) (rest : List Stmt) :
    resolveWith tgt (jtail e rest) = jtail ee rest := by
  cases rest with
  | nil => rfl
  | cons s ss => show [(none, Atom.jump (rj tgt (.goto e none)))] = _; rw [rj, h]; rfl

theorem placed_jtail (tgt : Nat → Option Nat) (e : Nat) (rest : List Stmt) (q : List Leaf) (o : Nat) :
    Placed tgt (jtail e rest ++ q) o ↔ Placed tgt q (o + jcount rest) := by
  cases rest with
  | nil => simp
  | cons s ss => simp only [jtail_cons, jcount_cons, List.singleton_append]; exact placed_code rfl

/-- what the label statements of a tree say about `tgt`, given where they are in the lowering -/
def LabelsAt (tgt : Nat → Option Nat) (labels : List Nat) (inv : (Nat → Option Nat) → (Nat → Nat) → Prop) : Prop :=
  ∀ pos f, inv pos f → ∀ l ∈ labels, tgt l = pos l

mutual
theorem lowerS_den (tgt : Nat → Option Nat) : ∀ (brk : Option Nat) (s : Stmt) (n o : Nat), Placed tgt (lowerS brk s n).1 o →
    resolveWith tgt (lowerS brk s n).1 = denS tgt (brk.bind tgt) s o ∧
    LabelsAt tgt s.labels (fun pos f => InvS pos f s o)
  | brk, .atom d a, n, o, hp => by
    rw [lowerS_atom] at hp ⊢
    refine ⟨by rw [denS_atom]; exact resolveWith_lowAtom tgt brk d a, ?_⟩
    intro pos f hinv l hl
    cases a with
    | label l' =>
      simp only [Stmt.labels, List.mem_singleton] at hl
      subst hl
      simp only [InvS_atom] at hinv
      rw [hinv]
      exact (placed_lab.mp hp).1
    | _ => cases hl
  | brk, .node k b, n, o, hp => by
    cases k with
    | loop id =>
      rw [lowerS_loop] at hp ⊢
      dsimp only at hp ⊢
      rw [List.cons_append, placed_lab, Placed.append, (lowerL_ok _ b _).clen, placed_code rfl, placed_lab] at hp
      obtain ⟨h1, h2, h3, _⟩ := hp
      obtain ⟨ih, ihl⟩ := lowerL_den tgt (some (n + 1)) b (n + 2) o h2
      refine ⟨?_, fun pos f hinv => ihl pos f hinv.2⟩
      rw [List.cons_append, resolveWith_lab, resolveWith_append, ih, resolveWith_code tgt rfl, resolveWith_lab]
      simp only [Option.bind_some, h3, denS_loop, resolveWith_nil, rLeaf, rAtom, rj, h1]
    | doWhile id c =>
      rw [lowerS_doWhile] at hp ⊢
      dsimp only at hp ⊢
      rw [List.cons_append, placed_lab, Placed.append, (lowerL_ok _ b _).clen, placed_code rfl, placed_lab] at hp
      obtain ⟨h1, h2, h3, _⟩ := hp
      obtain ⟨ih, ihl⟩ := lowerL_den tgt (some (n + 1)) b (n + 2) o h2
      refine ⟨?_, fun pos f hinv => ihl pos f hinv.2⟩
      rw [List.cons_append, resolveWith_lab, resolveWith_append, ih, resolveWith_code tgt rfl, resolveWith_lab]
      simp only [Option.bind_some, h3, denS_doWhile, resolveWith_nil, rLeaf, rAtom, rj, h1, normCond_if]
    | chain =>
      rw [lowerS_chain] at hp ⊢
      dsimp only at hp ⊢
      rw [Placed.append, (lowerArms_ok _ _ b _).clen, placed_lab] at hp
      obtain ⟨h1, h2, _⟩ := hp
      obtain ⟨ih, ihl⟩ := lowerArms_den tgt brk n (o + clenArms b) b (n + 1) o h2 h1
      refine ⟨?_, ihl⟩
      rw [resolveWith_append, ih, resolveWith_lab, denS_chain]; simp
    | arm kw c =>
      rw [lowerS_arm] at hp ⊢
      obtain ⟨ih, ihl⟩ := lowerL_den tgt brk b n o hp
      exact ⟨by rw [ih, denS_arm], ihl⟩
    | els =>
      rw [lowerS_els] at hp ⊢
      obtain ⟨ih, ihl⟩ := lowerL_den tgt brk b n o hp
      exact ⟨by rw [ih, denS_els], ihl⟩
theorem lowerL_den (tgt : Nat → Option Nat) : ∀ (brk : Option Nat) (ss : List Stmt) (n o : Nat), Placed tgt (lowerL brk ss n).1 o →
    resolveWith tgt (lowerL brk ss n).1 = denL tgt (brk.bind tgt) ss o ∧
    LabelsAt tgt (labelsL ss) (fun pos f => InvL pos f ss o)
  | brk, [], n, o, _ => by
    rw [lowerL_nil]
    exact ⟨by simp, fun pos f _ l hl => by simp at hl⟩
  | brk, s :: ss, n, o, hp => by
    rw [lowerL_cons] at hp ⊢
    dsimp only at hp ⊢
    rw [Placed.append, (lowerS_ok brk s n).clen] at hp
    obtain ⟨ih1, il1⟩ := lowerS_den tgt brk s n o hp.1
    obtain ⟨ih2, il2⟩ := lowerL_den tgt brk ss _ _ hp.2
    exact ⟨by rw [resolveWith_append, ih1, ih2, denL_cons],
      fun pos f hinv l hl => (List.mem_append.mp hl).elim (il1 pos f hinv.1 l) (il2 pos f hinv.2 l)⟩
theorem lowerArms_den (tgt : Nat → Option Nat) : ∀ (brk : Option Nat) (e ee : Nat) (ss : List Stmt) (n o : Nat),
    tgt e = some ee → Placed tgt (lowerArms brk e ss n).1 o →
    resolveWith tgt (lowerArms brk e ss n).1 = denArms tgt (brk.bind tgt) ee ss o ∧
    LabelsAt tgt (labelsL ss) (fun pos f => InvArms pos f ss o)
  | brk, e, ee, [], n, o, _, _ => by
    rw [lowerArms_nil]
    exact ⟨by simp, fun pos f _ l hl => by simp at hl⟩
  | brk, e, ee, .atom d a :: rest, n, o, he, hp => by
    rw [lowerArms_atom] at hp ⊢
    dsimp only at hp ⊢
    have hp' : Placed tgt ([(d, a)] ++ (lowerArms brk e rest n).1) o := hp
    rw [Placed.append] at hp'
    have hc : (code [(d, a)]).length = clenAtom a := by
      have := (lowAtom_labs none d a).2; rwa [lowAtom_none] at this
    rw [hc] at hp'
    obtain ⟨ih, _⟩ := lowerArms_den tgt brk e ee rest n _ he hp'.2
    refine ⟨?_, fun pos f hinv => by simp at hinv⟩
    have h1 := resolveWith_lowAtom tgt none d a
    rw [lowAtom_none] at h1
    rw [show (d, a) :: (lowerArms brk e rest n).1 = [(d, a)] ++ (lowerArms brk e rest n).1 from rfl,
      resolveWith_append, h1, ih, denArms_atom]
    rfl
  | brk, e, ee, .node k b :: rest, n, o, he, hp => by
    rcases k.arm_or with ⟨kw, c, rfl⟩ | hk
    · rw [lowerArms_arm] at hp ⊢
      dsimp only at hp ⊢
      simp only [List.cons_append, List.append_assoc, List.nil_append] at hp ⊢
      rw [placed_code rfl, Placed.append, (lowerL_ok brk b _).clen, placed_jtail, placed_lab] at hp
      obtain ⟨h1, h2, h3⟩ := hp
      obtain ⟨ih1, il1⟩ := lowerL_den tgt brk b (n + 1) (o + 1) h1
      obtain ⟨ih2, il2⟩ := lowerArms_den tgt brk e ee rest _ _ he h3
      refine ⟨?_, fun pos f hinv l hl => (List.mem_append.mp hl).elim (il1 pos f hinv.1 l) (il2 pos f hinv.2 l)⟩
      rw [resolveWith_code tgt rfl, resolveWith_append, resolveWith_append, resolveWith_jtail tgt he, resolveWith_lab, ih1,
        ih2]
      simp only [denArms_arm, rLeaf, rAtom, rj, h2, List.append_assoc, List.cons_append]
    · rw [lowerArms_other _ _ _ hk] at hp ⊢
      dsimp only at hp ⊢
      rw [Placed.append, (lowerL_ok brk b _).clen] at hp
      obtain ⟨ih1, il1⟩ := lowerL_den tgt brk b n o hp.1
      obtain ⟨ih2, il2⟩ := lowerArms_den tgt brk e ee rest _ _ he hp.2
      refine ⟨by rw [resolveWith_append, ih1, ih2, denArms_other hk], ?_⟩
      intro pos f hinv l hl
      -- only an `else` block can stand here
      rcases hinv.node_cases with ⟨kw, c, rfl, _⟩ | ⟨_, h1, h2⟩
      · exact absurd rfl (hk kw c)
      · exact (List.mem_append.mp hl).elim (il1 pos f h1 l) (il2 pos f h2 l)
end

/-- the label definitions pairwise distinct and below `fresh` and standing where `pos` says; a mentioned label that is
not defined is not among the new ones and `pos` does not know it (the jump is stuck on both sides) -/
theorem resolve_lower {pos : Nat → Option Nat} {f : Nat → Nat} {t : Block} {fresh : Nat}
    (hnd : (labelsL t).Nodup) (hlt : ∀ l ∈ labelsL t, l < fresh) (hinv : InvL pos f t 0)
    (hdef : ∀ l ∈ refsL t, l ∉ labelsL t → l < fresh ∧ pos l = none) :
    resolve (lower fresh t) = denL pos none t 0 := by
  unfold lower
  have hok := lowerL_ok none t fresh
  have hpl := placed_ctgt (hok.nodup hnd hlt)
  obtain ⟨h1, h2⟩ := lowerL_den (ctgt (lowerL none t fresh).1) none t fresh 0 hpl
  show resolveWith _ _ = _
  rw [h1]
  refine denL_congr _ t 0 (fun l hl => ?_)
  by_cases hm : l ∈ labelsL t
  · exact h2 pos f hinv l hm
  · obtain ⟨hlf, hp⟩ := hdef l hl hm
    rw [hp]
    exact ctgtFrom_none 0 (fun hmem => (hok.mem l hmem).elim hm (fun h => Nat.lt_irrefl l (Nat.lt_of_lt_of_le hlf h.1)))

end TruthModel.Decomp
