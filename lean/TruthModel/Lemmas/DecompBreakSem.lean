/-
C07, semantic half: `decompile_break` and `unused_labels::run` preserve the resolved code.
A `goto d` inside loop `c` becomes `break` only when `d` stands directly behind a loop with id `c`;
the backward jump of every loop with id `c` stands at code index `f c` (`InvS`), so `d` and the end of the
enclosing loop are the same code index, `f c + 1`.
-/
import TruthModel.Lemmas.DecompDen
namespace TruthModel.Decomp
open List

theorem convAtom_clen (m cur) (a : Atom) : clenAtom (convAtom m cur a) = clenAtom a := by
  cases a <;> rfl

theorem breakL_length (m cur) : ∀ ss : List Stmt, (breakL m cur ss).length = ss.length := by
  intro ss
  rw [breakL_eq_map, List.length_map]

theorem jcount_breakL (m cur) (ss : List Stmt) : jcount (breakL m cur ss) = jcount ss := by
  cases ss <;> rfl

theorem jtail_breakL (e m cur) (ss : List Stmt) : jtail e (breakL m cur ss) = jtail e ss := by
  cases ss <;> rfl

mutual
theorem breakS_clen (m) : ∀ (cur : Option Nat) (s : Stmt), clenS (breakS m cur s) = clenS s
  | cur, .atom d a => convAtom_clen m cur a
  | cur, .node k b => by
    cases k with
    | loop id => exact congrArg (· + 1) (breakL_clen m _ b)
    | doWhile id c => exact congrArg (· + 1) (breakL_clen m _ b)
    | chain => exact breakArms_clen m cur b
    | arm kw c => exact breakL_clen m cur b
    | els => exact breakL_clen m cur b
theorem breakL_clen (m) : ∀ (cur : Option Nat) (ss : List Stmt), clenL (breakL m cur ss) = clenL ss
  | cur, [] => rfl
  | cur, s :: ss => by simp [breakS_clen m cur s, breakL_clen m cur ss]
theorem breakArms_clen (m) : ∀ (cur : Option Nat) (ss : List Stmt), clenArms (breakL m cur ss) = clenArms ss
  | cur, [] => rfl
  | cur, .atom d a :: rest => by simp [convAtom_clen, breakArms_clen m cur rest]
  | cur, .node k b :: rest => by
    rcases k.arm_or with ⟨kw, c, rfl⟩ | hk
    · simp [breakL_clen m cur b, breakArms_clen m cur rest, jcount_breakL]
    · obtain ⟨cur', hn⟩ := breakS_node m cur k b
      rw [breakL_cons, hn, clenArms_other hk, clenArms_other hk, breakL_clen m _ b, breakArms_clen m cur rest]
end

mutual
theorem breakS_inv (pos f m) : ∀ (cur : Option Nat) (s : Stmt) (o : Nat), InvS pos f s o → InvS pos f (breakS m cur s) o
  | cur, .atom d a, o, h => by
    cases a <;> exact h
  | cur, .node k b, o, h => by
    cases k with
    | loop id => simp only [breakS_loop, InvS_loop, breakL_clen] at h ⊢; exact ⟨h.1, breakL_inv pos f m _ b o h.2⟩
    | doWhile id c => simp only [breakS_doWhile, InvS_doWhile, breakL_clen] at h ⊢; exact ⟨h.1, breakL_inv pos f m _ b o h.2⟩
    | chain => exact breakArms_inv pos f m cur b o h
    | arm kw c => exact breakL_inv pos f m cur b o h
    | els => exact breakL_inv pos f m cur b o h
theorem breakL_inv (pos f m) : ∀ (cur : Option Nat) (ss : List Stmt) (o : Nat), InvL pos f ss o → InvL pos f (breakL m cur ss) o
  | cur, [], o, _ => trivial
  | cur, s :: ss, o, h => by
    simp only [breakL_cons, InvL_cons, breakS_clen] at h ⊢
    exact ⟨breakS_inv pos f m cur s o h.1, breakL_inv pos f m cur ss _ h.2⟩
theorem breakArms_inv (pos f m) : ∀ (cur : Option Nat) (ss : List Stmt) (o : Nat), InvArms pos f ss o →
    InvArms pos f (breakL m cur ss) o
  | cur, [], o, _ => trivial
  | cur, .atom d a :: rest, o, h => by simp at h
  | cur, .node k b :: rest, o, h => by
    rcases h.node_cases with ⟨kw, c, rfl, h1, h2⟩ | ⟨rfl, h1, h2⟩
    · simp only [breakL_cons, breakS_arm, InvArms_arm, breakL_clen, jcount_breakL]
      exact ⟨breakL_inv pos f m cur b _ h1, breakArms_inv pos f m cur rest _ h2⟩
    · simp only [breakL_cons, breakS_els, InvArms_els, breakL_clen]
      exact ⟨breakL_inv pos f m cur b _ h1, breakArms_inv pos f m cur rest _ h2⟩
end

/-- the map of loop-end labels is right: a label listed for loop `c` stands at the end of loop `c` -/
def BrkOK (pos : Nat → Option Nat) (f : Nat → Nat) (m : List (Nat × Nat)) : Prop :=
  ∀ d c, lookupLast m d = some c → pos d = some (f c + 1)

def CurOK (f : Nat → Nat) (cur brk : Option Nat) : Prop := ∀ c, cur = some c → brk = some (f c + 1)

theorem convJump_den {pos f m} (hm : BrkOK pos f m) {cur brk} (hc : CurOK f cur brk) (j : Jump) :
    denJ pos brk (convJump m cur j) = denJ pos brk j := by
  rcases convJump_cases m cur j with h | ⟨d, c, rfl, rfl, hl, h⟩
  · rw [h]
  · rw [h]; simp only [denJ, rj, hm d c hl, hc c rfl, brkJ]

theorem convAtom_den {pos f m} (hm : BrkOK pos f m) {cur brk} (hc : CurOK f cur brk) (d : Option String) (a : Atom) :
    denAtom pos brk d (convAtom m cur a) = denAtom pos brk d a := by
  cases a with
  | jump j => simp only [convAtom, denAtom, convJump_den hm hc]
  | condJump kw c j => simp only [convAtom, denAtom, convJump_den hm hc]
  | _ => rfl

theorem curOK_none (f : Nat → Nat) (brk : Option Nat) : CurOK f none brk := by intro c h; cases h

mutual
theorem breakS_den {pos f m} (hm : BrkOK pos f m) : ∀ (cur brk : Option Nat) (s : Stmt) (o : Nat), CurOK f cur brk →
    InvS pos f s o → denS pos brk (breakS m cur s) o = denS pos brk s o
  | cur, brk, .atom d a, o, hc, _ => convAtom_den hm hc d a
  | cur, brk, .node k b, o, hc, h => by
    cases k with
    | loop id =>
      simp only [breakS_loop, denS_loop, breakL_clen]
      rw [breakL_den hm (some id) _ b o (by intro c hc'; cases hc'; rw [h.1]) h.2]
    | doWhile id c =>
      simp only [breakS_doWhile, denS_doWhile, breakL_clen]
      rw [breakL_den hm (some id) _ b o (by intro c hc'; cases hc'; rw [h.1]) h.2]
    | chain =>
      simp only [breakS_chain, denS_chain, breakArms_clen]
      exact breakArms_den hm cur brk _ b o hc h
    | arm kw c => exact breakL_den hm cur brk b o hc h
    | els => exact breakL_den hm cur brk b o hc h
theorem breakL_den {pos f m} (hm : BrkOK pos f m) : ∀ (cur brk : Option Nat) (ss : List Stmt) (o : Nat), CurOK f cur brk →
    InvL pos f ss o → denL pos brk (breakL m cur ss) o = denL pos brk ss o
  | cur, brk, [], o, _, _ => rfl
  | cur, brk, s :: ss, o, hc, h => by
    simp only [InvL_cons] at h
    simp only [breakL_cons, denL_cons, breakS_clen]
    rw [breakS_den hm cur brk s o hc h.1, breakL_den hm cur brk ss _ hc h.2]
theorem breakArms_den {pos f m} (hm : BrkOK pos f m) : ∀ (cur brk : Option Nat) (e : Nat) (ss : List Stmt) (o : Nat),
    CurOK f cur brk → InvArms pos f ss o → denArms pos brk e (breakL m cur ss) o = denArms pos brk e ss o
  | cur, brk, e, [], o, _, _ => rfl
  | cur, brk, e, .atom d a :: rest, o, _, h => by simp at h
  | cur, brk, e, .node k b :: rest, o, hc, h => by
    rcases h.node_cases with ⟨kw, c, rfl, h1, h2⟩ | ⟨rfl, h1, h2⟩
    · simp only [breakL_cons, breakS_arm, denArms_arm, breakL_clen, jcount_breakL, jtail_breakL]
      rw [breakL_den hm cur brk b _ hc h1, breakArms_den hm cur brk e rest _ hc h2]
    · simp only [breakL_cons, breakS_els, denArms_els, breakL_clen]
      rw [breakL_den hm cur brk b _ hc h1, breakArms_den hm cur brk e rest _ hc h2]
end

theorem labelsAfter_ok {pos f} (rest : List Stmt) (o : Nat) (h : InvL pos f rest o) :
    ∀ l ∈ labelsAfter rest, pos l = some o := by
  fun_induction labelsAfter rest with
  | case1 d l' rest ih =>
    simp only [InvL_cons, InvS_atom, clenS_atom, clenAtom, Nat.add_zero] at h
    intro l hl
    rcases List.mem_cons.mp hl with rfl | hl
    · exact h.1
    · exact ih h.2 l hl
  | case2 => intro l hl; cases hl

def EndOK (pos : Nat → Option Nat) (f : Nat → Nat) (p : Nat × Nat) : Prop := pos p.1 = some (f p.2 + 1)

theorem InvS.loopId {pos f k b o id} (h : InvS pos f (.node k b) o) (hk : k.loopId = some id) :
    o + clenS (.node k b) = f id + 1 := by
  cases k with
  | loop i => cases hk; rw [InvS_loop] at h; rw [clenS_loop, ← h.1, Nat.add_assoc]
  | doWhile i c => cases hk; rw [InvS_doWhile] at h; rw [clenS_doWhile, ← h.1, Nat.add_assoc]
  | _ => cases hk

theorem localEnd_ok {pos f} (blk : List Stmt) (o : Nat) (h : InvL pos f blk o) :
    ∀ p ∈ localEndLabels blk, EndOK pos f p := by
  fun_induction localEndLabels blk generalizing o with
  | case1 => intro p hp; cases hp
  | case2 k b rest id hk ih =>
    rw [InvL_cons] at h
    intro p hp
    rcases List.mem_append.mp hp with hp | hp
    · obtain ⟨l, hl, rfl⟩ := List.mem_map.mp hp
      show pos l = some (f id + 1)
      rw [labelsAfter_ok rest _ h.2 l hl, h.1.loopId hk]
    · exact ih _ h.2 p hp
  | case3 k b rest hk ih => rw [InvL_cons] at h; exact ih _ h.2
  | case4 s rest hs ih => rw [InvL_cons] at h; exact ih _ h.2

mutual
theorem nestedEndS_ok {pos f} : ∀ (s : Stmt) (o : Nat), InvS pos f s o → ∀ p ∈ nestedEndS s, EndOK pos f p
  | .atom d a, _, _, p, hp => by simp [nestedEndS] at hp
  | .node k b, o, h, p, hp => by
    simp only [nestedEndS, List.mem_append] at hp
    cases k with
    | loop id => exact hp.elim (localEnd_ok b o h.2 p) (nestedEndL_ok b o h.2 p)
    | doWhile id c => exact hp.elim (localEnd_ok b o h.2 p) (nestedEndL_ok b o h.2 p)
    | chain => exact nestedEndArms_ok b o h p (List.mem_append.mpr hp)
    | arm kw c => exact hp.elim (localEnd_ok b o h p) (nestedEndL_ok b o h p)
    | els => exact hp.elim (localEnd_ok b o h p) (nestedEndL_ok b o h p)
theorem nestedEndL_ok {pos f} : ∀ (ss : List Stmt) (o : Nat), InvL pos f ss o → ∀ p ∈ nestedEndL ss, EndOK pos f p
  | [], _, _, p, hp => by simp [nestedEndL] at hp
  | s :: ss, o, h, p, hp => by
    simp only [InvL_cons] at h
    simp only [nestedEndL, List.mem_append] at hp
    exact hp.elim (nestedEndS_ok s o h.1 p) (nestedEndL_ok ss _ h.2 p)
theorem nestedEndArms_ok {pos f} : ∀ (ss : List Stmt) (o : Nat), InvArms pos f ss o →
    ∀ p ∈ localEndLabels ss ++ nestedEndL ss, EndOK pos f p
  | [], _, _, p, hp => by simp [localEndLabels, nestedEndL] at hp
  | .atom d a :: rest, o, h, _, _ => by simp at h
  | .node k b :: rest, o, h, p, hp => by
    -- an arm or an `else` block is not a loop: no end label stands behind it
    have hk : k.loopId = none ∧ ∃ o1 o2, InvL pos f b o1 ∧ InvArms pos f rest o2 := by
      rcases h.node_cases with ⟨kw, c, rfl, h1, h2⟩ | ⟨rfl, h1, h2⟩ <;> exact ⟨rfl, _, _, h1, h2⟩
    obtain ⟨hl, o1, o2, h1, h2⟩ := hk
    simp only [localEndLabels, hl, nestedEndL, nestedEndS, List.mem_append] at hp
    have ih := nestedEndArms_ok rest _ h2 p
    rcases hp with hp | (hp | hp) | hp
    · exact ih (List.mem_append.mpr (.inl hp))
    · exact localEnd_ok b _ h1 p hp
    · exact nestedEndL_ok b _ h1 p hp
    · exact ih (List.mem_append.mpr (.inr hp))
end

theorem lookupLast_mem {m : List (Nat × Nat)} {l c : Nat} (h : lookupLast m l = some c) : (l, c) ∈ m := by
  unfold lookupLast at h
  split at h
  · rename_i p hp
    cases h
    have h1 := List.mem_of_find?_eq_some hp
    have h2 := List.find?_some hp
    simp only [beq_iff_eq] at h2
    rw [List.mem_reverse] at h1
    rw [← h2]; exact h1
  · cases h

theorem endLabels_ok {pos f} {root : Block} (h : InvL pos f root 0) : BrkOK pos f (endLabels root) := by
  intro d c hl
  have hm := lookupLast_mem hl
  unfold endLabels at hm
  rw [List.mem_append] at hm
  exact hm.elim (localEnd_ok root 0 h (d, c)) (nestedEndL_ok root 0 h (d, c))

theorem decompileBreak_sem {pos f} {b : Block} (h : InvL pos f b 0) : Res pos f b (decompileBreak b) 0 :=
  ⟨fun brk => breakL_den (endLabels_ok h) none brk b 0 (curOK_none f brk) h, breakL_inv pos f _ none b 0 h, breakL_clen _ none b⟩

theorem jcount_unusedArms (rc : Nat → Nat) {pos f} (ss : List Stmt) (o : Nat) (h : InvArms pos f ss o) :
    jcount (unusedL rc ss) = jcount ss ∧ ∀ e, jtail e (unusedL rc ss) = jtail e ss := by
  cases ss with
  | nil => exact ⟨rfl, fun _ => rfl⟩
  | cons s rest =>
    cases s with
    | atom d a => simp at h
    | node k b => exact ⟨rfl, fun _ => rfl⟩

mutual
theorem unusedS_sem {pos f} (rc : Nat → Nat) : ∀ (s : Stmt) (o : Nat), InvS pos f s o →
    Res pos f [s] [unusedS rc s] o
  | .atom d a, o, h => Res.rfl ⟨h, trivial⟩
  | .node k b, o, h => by
    exact Res.node h (unusedL_sem rc b o) (fun hc => let ⟨d, c, i⟩ := unusedArms_sem rc b o hc; ⟨d, i, c⟩)
theorem unusedL_sem {pos f} (rc : Nat → Nat) : ∀ (ss : List Stmt) (o : Nat), InvL pos f ss o →
    Res pos f ss (unusedL rc ss) o
  | [], o, _ => Res.rfl trivial
  | s :: ss, o, h => by
    rw [InvL_cons] at h
    have ih := unusedL_sem rc ss _ h.2
    rcases unusedL_cons rc s ss with e | ⟨d, l, rfl, -, e⟩
    · rw [e]
      exact Res.append (xs := [s]) (unusedS_sem rc s o h.1) ih
    · -- a label nobody refers to goes: it takes no room in the code, the rest stands at `o` without it
      simp only [clenS_atom, clenAtom, Nat.add_zero] at ih
      rw [e]
      exact ⟨fun brk => by simp [denAtom, clenAtom, ih.den], ih.inv, by simp [clenAtom, ih.clen]⟩
theorem unusedArms_sem {pos f} (rc : Nat → Nat) : ∀ (ss : List Stmt) (o : Nat), InvArms pos f ss o →
    (∀ brk e, denArms pos brk e (unusedL rc ss) o = denArms pos brk e ss o) ∧ clenArms (unusedL rc ss) = clenArms ss ∧
    InvArms pos f (unusedL rc ss) o
  | [], o, _ => ⟨fun _ _ => rfl, rfl, trivial⟩
  | .atom d a :: rest, o, h => by simp at h
  | .node k b :: rest, o, h => by
    rw [unusedL_cons_node]
    have r := ResArms.node h (fun o hi => unusedL_sem rc b o hi)
      (fun o hi => let ⟨d, c, i⟩ := unusedArms_sem rc rest o hi; ⟨d, i, c⟩) (fun o hi => jcount_unusedArms rc rest o hi)
    exact ⟨r.den, r.clen, r.inv⟩
end

end TruthModel.Decomp
