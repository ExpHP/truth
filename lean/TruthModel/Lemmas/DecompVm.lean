/-
C07, semantic half, layer 1: the flat machine `Decomp.run` only depends on the *resolved code* of a
program: the non-label statements in order, every jump resolved to the code index its label stands
in front of, `unless (a op b)` normalised to `if (a negop b)`.  Two programs with the same resolved
code run identically (`run_congr`).
-/
import TruthModel.Model.DecompSem
namespace TruthModel.Decomp
open List

def labOf : Leaf → Option Nat
  | (_, .label l) => some l
  | _ => none

def isLab (x : Leaf) : Bool := (labOf x).isSome

def code (p : List Leaf) : List Leaf := p.filter (fun x => !isLab x)

/-- code index of the first definition of `l` (counting from `k`) -/
def ctgtFrom (l : Nat) : List Leaf → Nat → Option Nat
  | [], _ => none
  | x :: rest, k =>
    match labOf x with
    | some l' => if l = l' then some k else ctgtFrom l rest k
    | none => ctgtFrom l rest (k + 1)

def ctgt (p : List Leaf) (l : Nat) : Option Nat := ctgtFrom l p 0

def timeStep : Leaf → Int → Int
  | (_, .absTime t), _ => t
  | (_, .relTime d), c => c + d
  | _, c => c

def curAfter : List Leaf → Int → Int
  | [], c => c
  | x :: rest, c => curAfter rest (timeStep x c)

def bump (t : Int) (st : VmState) : VmState :=
  if st.time < t then { st with time := t, realTime := st.realTime + (t - st.time) } else st

def tagOff (env : VmEnv) (tag : Option String) : Bool :=
  match tag with | some s => !env.tagOn s | none => false

/-- what `step` does to a statement that is switched on, the jump action abstracted -/
def execOn (env : VmEnv) (jmp : VmState → Jump → StepResult) (pc : Nat) (a : Atom) (st : VmState) : StepResult :=
  match a with
  | .jump j => jmp st j
  | .condJump kw c j =>
    if ((evalExpr env st c).1 != 0) == (kw == .if_) then jmp (evalExpr env st c).2 j
    else .next (pc + 1) (evalExpr env st c).2
  | .ins op args =>
    .next (pc + 1) { (evalArgs env st args).2 with
      log := (evalArgs env st args).2.log ++ [((evalArgs env st args).2.realTime, op, (evalArgs env st args).1)] }
  | .set r e =>
    .next (pc + 1) { (evalExpr env st e).2 with
      regs := fun x => if x = r then (evalExpr env st e).1 else (evalExpr env st e).2.regs x }
  | _ => .next (pc + 1) st

/-- what `step` does after the time bump -/
def exec (env : VmEnv) (jmp : VmState → Jump → StepResult) (pc : Nat) (x : Leaf) (st : VmState) : StepResult :=
  if tagOff env x.1 then .next (pc + 1) st else execOn env jmp pc x.2 st

theorem step_eq (env : VmEnv) (prog : List Leaf) (times : List Int) (pc : Nat) (st : VmState) :
    step env prog times pc st =
      match prog[pc]? with
      | none => .stuck
      | some x => exec env (fun st j => doJump prog times st pc j) pc x (bump (times.getD pc 0) st) := by
  unfold step
  cases h : prog[pc]? with
  | none => rfl
  | some x =>
    obtain ⟨tag, a⟩ := x
    cases a <;> rfl

/-- a jump in resolved code: the destination is a code index -/
def doJumpR (code : List Leaf) (st : VmState) : Jump → StepResult
  | .brk => .stuck
  | .goto k t => .next k (bump (curAfter (code.take k) 0) { st with time := t.getD (curAfter (code.take k) 0) })

def stepR (env : VmEnv) (code : List Leaf) (pc : Nat) (st : VmState) : StepResult :=
  match code[pc]? with
  | none => .stuck
  | some x => exec env (doJumpR code) pc x (bump (timeStep x (curAfter (code.take pc) 0)) st)

def runR (env : VmEnv) (code : List Leaf) : Nat → Nat → VmState → Option VmState
  | 0, _, _ => none
  | fuel + 1, pc, st =>
    if pc ≥ code.length then some st else
    match stepR env code pc st with
    | .stuck => none
    | .next pc' st' => runR env code fuel pc' st'

def rj (tgt : Nat → Option Nat) : Jump → Jump
  | .goto l t => match tgt l with | some k => .goto k t | none => .brk
  | .brk => .brk

/-- `unless (a op b)` is `if (a negop b)` -/
def normCond : Kw → Expr → Kw × Expr
  | .unless, .bin op a b =>
    match op.negate with
    | some nop => (.if_, .bin nop a b)
    | none => (.unless, .bin op a b)
  | kw, c => (kw, c)

def rAtom (tgt : Nat → Option Nat) : Atom → Atom
  | .jump j => .jump (rj tgt j)
  | .condJump kw c j => .condJump (normCond kw c).1 (normCond kw c).2 (rj tgt j)
  | a => a

def rLeaf (tgt : Nat → Option Nat) (x : Leaf) : Leaf := (x.1, rAtom tgt x.2)

def resolve (p : List Leaf) : List Leaf := (code p).map (rLeaf (ctgt p))

theorem isLab_label (d : Option String) (l : Nat) : isLab (d, .label l) = true := rfl

theorem labOf_eq_none {x : Leaf} (h : isLab x = false) : labOf x = none := by
  unfold isLab at h
  cases hx : labOf x with
  | none => rfl
  | some l => rw [hx] at h; cases h

theorem timeStep_lab {x : Leaf} (h : isLab x = true) (c : Int) : timeStep x c = c := by
  obtain ⟨d, a⟩ := x
  cases a <;> first | rfl | (simp [isLab, labOf] at h)

theorem timeStep_rLeaf (tgt : Nat → Option Nat) (x : Leaf) (c : Int) : timeStep (rLeaf tgt x) c = timeStep x c := by
  obtain ⟨d, a⟩ := x
  cases a <;> rfl

theorem isLab_rLeaf (tgt : Nat → Option Nat) (x : Leaf) : isLab (rLeaf tgt x) = isLab x := by
  obtain ⟨d, a⟩ := x
  cases a <;> rfl

@[simp] theorem code_nil : code [] = [] := rfl
theorem code_append (p q : List Leaf) : code (p ++ q) = code p ++ code q := by simp [code]
theorem code_cons_lab {x : Leaf} (h : isLab x = true) (p : List Leaf) : code (x :: p) = code p := by
  simp [code, h]
theorem code_cons_code {x : Leaf} (h : isLab x = false) (p : List Leaf) : code (x :: p) = x :: code p := by
  simp [code, h]

theorem curAfter_append (p q : List Leaf) (c : Int) : curAfter (p ++ q) c = curAfter q (curAfter p c) := by
  induction p generalizing c with
  | nil => rfl
  | cons x xs ih => simp [curAfter, ih]

theorem curAfter_code (p : List Leaf) (c : Int) : curAfter (code p) c = curAfter p c := by
  induction p generalizing c with
  | nil => rfl
  | cons x xs ih =>
    cases h : isLab x with
    | true => rw [code_cons_lab h, curAfter, timeStep_lab h, ih]
    | false => rw [code_cons_code h, curAfter, curAfter, ih]

theorem curAfter_map_rLeaf (tgt : Nat → Option Nat) (p : List Leaf) (c : Int) :
    curAfter (p.map (rLeaf tgt)) c = curAfter p c := by
  induction p generalizing c with
  | nil => rfl
  | cons x xs ih => simp [curAfter, timeStep_rLeaf, ih]

theorem stmtTimes_cons (x : Leaf) (rest : List Leaf) (c : Int) :
    stmtTimes (x :: rest) c = timeStep x c :: stmtTimes rest (timeStep x c) := by
  obtain ⟨d, a⟩ := x
  cases a <;> rfl

theorem stmtTimes_getD (p : List Leaf) (c : Int) (i : Nat) (x : Leaf) (h : p[i]? = some x) :
    (stmtTimes p c).getD i 0 = timeStep x (curAfter (p.take i) c) := by
  induction p generalizing c i with
  | nil => cases h
  | cons y ys ih =>
    rw [stmtTimes_cons]
    cases i with
    | zero => cases h; rfl
    | succ i => exact ih (timeStep y c) i h

theorem code_take (p : List Leaf) (i : Nat) : (code p).take (code (p.take i)).length = code (p.take i) := by
  conv => lhs; rw [← List.take_append_drop i p, code_append]
  simp

theorem take_succ_of_getElem {α} {p : List α} {i : Nat} {x : α} (h : p[i]? = some x) : p.take (i + 1) = p.take i ++ [x] := by
  rw [List.take_add_one, h]; rfl

theorem code_getElem {p : List Leaf} {i : Nat} {x : Leaf} (h : p[i]? = some x) (hx : isLab x = false) :
    (code p)[(code (p.take i)).length]? = some x := by
  have hp : code p = code (p.take i) ++ x :: code (p.drop (i + 1)) := by
    conv => lhs; rw [← List.take_append_drop (i + 1) p, take_succ_of_getElem h, code_append, code_append, code_cons_code hx]
    simp
  rw [hp]; simp

theorem findLabel_cons (l : Nat) (x : Leaf) (rest : List Leaf) (i : Nat) :
    findLabel l (x :: rest) i =
      match labOf x with
      | some l' => if l = l' then some i else findLabel l rest (i + 1)
      | none => findLabel l rest (i + 1) := by
  obtain ⟨d, a⟩ := x
  cases a <;> rfl

/-- `findLabel` and `ctgtFrom` find the same definition: `t` statements behind the start, where
`findLabel` counts all of them and `ctgtFrom` those that are code -/
theorem findLabel_ctgt (l : Nat) (p : List Leaf) (j k : Nat) :
    (findLabel l p j = none → ctgtFrom l p k = none) ∧
    (∀ i, findLabel l p j = some i → ∃ t x, i = j + t ∧ p[t]? = some x ∧ isLab x = true ∧
        ctgtFrom l p k = some (k + (code (p.take t)).length)) := by
  fun_induction ctgtFrom l p k generalizing j with
  | case1 k => exact ⟨fun _ => rfl, fun i h => by cases h⟩
  | case2 x rest k hx =>
    have hlab : isLab x = true := by rw [isLab, hx]; rfl
    rw [findLabel_cons, hx]
    dsimp only
    rw [if_pos rfl]
    exact ⟨fun h => (by cases h), fun i h => by cases h; exact ⟨0, x, rfl, rfl, hlab, rfl⟩⟩
  | case3 x rest k l' hx hl ih =>
    have hlab : isLab x = true := by rw [isLab, hx]; rfl
    rw [findLabel_cons, hx]
    dsimp only
    rw [if_neg hl]
    obtain ⟨ih0, ih1⟩ := ih (j + 1)
    refine ⟨ih0, fun i h => ?_⟩
    obtain ⟨t, y, rfl, h2, h3, h4⟩ := ih1 i h
    exact ⟨t + 1, y, by rw [Nat.add_assoc, Nat.add_comm 1], h2, h3, by rw [h4, List.take_succ_cons, code_cons_lab hlab]⟩
  | case4 x rest k hx ih =>
    have hlab : isLab x = false := by rw [isLab, hx]; rfl
    rw [findLabel_cons, hx]
    dsimp only
    obtain ⟨ih0, ih1⟩ := ih (j + 1)
    refine ⟨ih0, fun i h => ?_⟩
    obtain ⟨t, y, rfl, h2, h3, h4⟩ := ih1 i h
    refine ⟨t + 1, y, by rw [Nat.add_assoc, Nat.add_comm 1], h2, h3, ?_⟩
    rw [h4, List.take_succ_cons, code_cons_code hlab, List.length_cons, Nat.add_assoc, Nat.add_comm 1]

theorem evalOperand_time (env : VmEnv) (st : VmState) (a : Operand) : (evalOperand env st a).2.time = st.time := by
  cases a <;> rfl

theorem evalExpr_time (env : VmEnv) (st : VmState) (e : Expr) :
    (evalExpr env st e).2.time = st.time := by
  cases e with
  | val a => exact evalOperand_time env st a
  | bin op a b =>
    simp only [evalExpr]
    rw [evalOperand_time, evalOperand_time]

theorem evalArgs_time (env : VmEnv) (st : VmState) (as : List Operand) : (evalArgs env st as).2.time = st.time := by
  induction as generalizing st with
  | nil => rfl
  | cons a as ih =>
    simp only [evalArgs]
    rw [ih, evalOperand_time]

theorem b2i_ne_zero (b : Bool) : (b2i b != 0) = b := by cases b <;> rfl

theorem negate_sound {op nop : BinOp} (h : op.negate = some nop) (x y : Int32) :
    (evalBin nop x y != 0) = !(evalBin op x y != 0) := by
  cases op <;> cases h <;> simp only [evalBin, b2i_ne_zero]
  · simp [bne]
  · simp [bne]
  · rw [← decide_not]; congr 1; simp [Int32.not_lt]
  · rw [← decide_not]; congr 1; simp [Int32.not_le]
  · rw [← decide_not]; congr 1; simp [Int32.not_lt]
  · rw [← decide_not]; congr 1; simp [Int32.not_le]

theorem normCond_if (c : Expr) : normCond .if_ c = (.if_, c) := by
  cases c <;> rfl

theorem negate_negate {op nop : BinOp} (h : op.negate = some nop) : nop.negate = some op := by
  cases op <;> cases h <;> rfl

theorem normCond_unless_neg {op nop : BinOp} (h : op.negate = some nop) (a b : Operand) :
    normCond .unless (.bin nop a b) = (.if_, .bin op a b) := by
  simp only [normCond, negate_negate h]

theorem normCond_sound (env : VmEnv) (st : VmState) (kw : Kw) (c : Expr) :
    (evalExpr env st (normCond kw c).2).2 = (evalExpr env st c).2 ∧
    (((evalExpr env st (normCond kw c).2).1 != 0) == ((normCond kw c).1 == .if_)) =
      (((evalExpr env st c).1 != 0) == (kw == .if_)) := by
  unfold normCond
  split
  · rename_i op a b
    split
    · rename_i nop hneg
      simp only [evalExpr]
      refine ⟨trivial, ?_⟩
      rw [negate_sound hneg]
      cases (evalBin op (evalOperand env st a).1 (evalOperand env (evalOperand env st a).2 b).1 != 0) <;> rfl
    · exact ⟨rfl, rfl⟩
  · exact ⟨rfl, rfl⟩

theorem bump_of_le {t : Int} {st : VmState} (h : t ≤ st.time) : bump t st = st := by
  unfold bump; rw [if_neg (Int.not_lt.mpr h)]

theorem bump_time_ge (t : Int) (st : VmState) : t ≤ (bump t st).time := by
  unfold bump; split
  · exact Int.le_refl _
  · rename_i h; exact Int.not_lt.mp h

/-- configurations of the two machines that correspond.  Third clause: the flat clock lags behind the time labels in front of
`pc` only on a label it has jumped to; `doJump` sets the clock and the flat machine catches up when it walks over the label,
`doJumpR` has caught up already. -/
def Rel (prog : List Leaf) (pc : Nat) (st : VmState) (k : Nat) (st' : VmState) : Prop :=
  k = (code (prog.take pc)).length ∧ st' = bump (curAfter (prog.take pc) 0) st ∧
  ((∃ x, prog[pc]? = some x ∧ isLab x = true) ∨ curAfter (prog.take pc) 0 ≤ st.time)

def RelRes (prog : List Leaf) : StepResult → StepResult → Prop
  | .stuck, .stuck => True
  | .next pc st, .next k st' => Rel prog pc st k st'
  | _, _ => False

theorem RelRes.cases {prog : List Leaf} {a b : StepResult} (h : RelRes prog a b) :
    (a = .stuck ∧ b = .stuck) ∨ ∃ pc st k st', a = .next pc st ∧ b = .next k st' ∧ Rel prog pc st k st' := by
  cases a <;> cases b
  · exact .inr ⟨_, _, _, _, rfl, rfl, h⟩
  · exact h.elim
  · exact h.elim
  · exact .inl ⟨rfl, rfl⟩

theorem resolve_length (p : List Leaf) : (resolve p).length = (code p).length := by simp [resolve]

theorem resolve_take (p : List Leaf) (i : Nat) :
    (resolve p).take (code (p.take i)).length = (code (p.take i)).map (rLeaf (ctgt p)) := by
  unfold resolve
  rw [← List.map_take, code_take]

theorem resolve_cur (p : List Leaf) (i : Nat) :
    curAfter ((resolve p).take (code (p.take i)).length) 0 = curAfter (p.take i) 0 := by
  rw [resolve_take, curAfter_map_rLeaf, curAfter_code]

theorem resolve_getElem {p : List Leaf} {i : Nat} {x : Leaf} (h : p[i]? = some x) (hx : isLab x = false) :
    (resolve p)[(code (p.take i)).length]? = some (rLeaf (ctgt p) x) := by
  unfold resolve
  rw [List.getElem?_map, code_getElem h hx]; rfl

theorem next_rel {prog : List Leaf} {pc : Nat} {x : Leaf} (hx : prog[pc]? = some x) (hc : isLab x = false)
    {s : VmState} (hs : timeStep x (curAfter (prog.take pc) 0) ≤ s.time) :
    Rel prog (pc + 1) s ((code (prog.take pc)).length + 1) s := by
  have ht := take_succ_of_getElem hx
  have hcur : curAfter (prog.take (pc + 1)) 0 = timeStep x (curAfter (prog.take pc) 0) := by
    rw [ht, curAfter_append]; rfl
  refine ⟨?_, ?_, .inr ?_⟩
  · rw [ht, code_append, code_cons_code hc]; simp
  · rw [hcur, bump_of_le hs]
  · rw [hcur]; exact hs

theorem jump_rel (prog : List Leaf) (pc : Nat) (s : VmState) (j : Jump) :
    RelRes prog (doJump prog (stmtTimes prog 0) s pc j) (doJumpR (resolve prog) s (rj (ctgt prog) j)) := by
  cases j with
  | brk => trivial
  | goto l t =>
    obtain ⟨h0, h1⟩ := findLabel_ctgt l prog 0 0
    cases hf : findLabel l prog 0 with
    | none =>
      have : ctgt prog l = none := h0 hf
      simp only [doJump, hf, rj, this, doJumpR]
      trivial
    | some i =>
      obtain ⟨t, y, hi, hy, hlab, hc⟩ := h1 i hf
      rw [Nat.zero_add] at hi hc
      subst hi
      have : ctgt prog l = some (code (prog.take i)).length := hc
      simp only [doJump, hf, rj, this, doJumpR, RelRes]
      have ht : (stmtTimes prog 0).getD i 0 = curAfter (prog.take i) 0 := by
        rw [stmtTimes_getD prog 0 i y hy, timeStep_lab hlab]
      rw [resolve_cur, ht]
      exact ⟨rfl, rfl, .inl ⟨y, hy, hlab⟩⟩

theorem exec_rel (env : VmEnv) (prog : List Leaf) {pc : Nat} {x : Leaf} (hx : prog[pc]? = some x)
    (hc : isLab x = false) (s : VmState) (hs : timeStep x (curAfter (prog.take pc) 0) ≤ s.time) :
    RelRes prog (exec env (fun st j => doJump prog (stmtTimes prog 0) st pc j) pc x s)
      (exec env (doJumpR (resolve prog)) (code (prog.take pc)).length (rLeaf (ctgt prog) x) s) := by
  obtain ⟨tag, a⟩ := x
  unfold exec rLeaf
  dsimp only
  by_cases ht : tagOff env tag = true
  · rw [if_pos ht, if_pos ht]; exact next_rel hx hc hs
  · rw [if_neg ht, if_neg ht]
    cases a with
    | label l => cases hc
    | jump j => exact jump_rel prog pc s j
    | condJump kw c j =>
      simp only [rAtom, execOn]
      obtain ⟨e1, e2⟩ := normCond_sound env s kw c
      rw [e1, e2]
      split
      · exact jump_rel prog pc _ j
      · exact next_rel hx hc (by rw [evalExpr_time]; exact hs)
    | ins op args => exact next_rel hx hc (by simp only [evalArgs_time]; exact hs)
    | set r e => exact next_rel hx hc (by simp only [evalExpr_time]; exact hs)
    | _ => exact next_rel hx hc hs

theorem rel_lab_step {prog : List Leaf} {pc k : Nat} {st st' : VmState} {x : Leaf} (hx : prog[pc]? = some x)
    (hl : isLab x = true) (h : Rel prog pc st k st') (env : VmEnv) :
    step env prog (stmtTimes prog 0) pc st = .next (pc + 1) (bump (curAfter (prog.take pc) 0) st) ∧
    Rel prog (pc + 1) (bump (curAfter (prog.take pc) 0) st) k st' := by
  obtain ⟨hk, hst, _⟩ := h
  have ht := take_succ_of_getElem hx
  have hcur : curAfter (prog.take (pc + 1)) 0 = curAfter (prog.take pc) 0 := by
    rw [ht, curAfter_append]; simp [curAfter, timeStep_lab hl]
  constructor
  · rw [step_eq, hx]
    dsimp only
    rw [stmtTimes_getD prog 0 pc x hx, timeStep_lab hl]
    obtain ⟨tag, a⟩ := x
    cases a with
    | label l => unfold exec; split <;> rfl
    | _ => cases hl
  · refine ⟨?_, ?_, .inr ?_⟩
    · rw [ht, code_append, code_cons_lab hl, code_nil, List.append_nil]; exact hk
    · rw [hcur, bump_of_le (bump_time_ge _ _)]; exact hst
    · rw [hcur]; exact bump_time_ge _ _

theorem rel_code_step {prog : List Leaf} {pc k : Nat} {st st' : VmState} {x : Leaf} (hx : prog[pc]? = some x)
    (hl : isLab x = false) (h : Rel prog pc st k st') (env : VmEnv) :
    st' = st ∧ k < (resolve prog).length ∧
    RelRes prog (step env prog (stmtTimes prog 0) pc st) (stepR env (resolve prog) k st') := by
  obtain ⟨hk, hst, hor⟩ := h
  have hle : curAfter (prog.take pc) 0 ≤ st.time := by
    rcases hor with ⟨y, hy, hyl⟩ | h
    · rw [hx] at hy; cases hy; rw [hl] at hyl; cases hyl
    · exact h
  have hst' : st' = st := by rw [hst, bump_of_le hle]
  have hg := resolve_getElem hx hl
  rw [← hk] at hg
  refine ⟨hst', ?_, ?_⟩
  · exact (List.getElem?_eq_some_iff.mp hg).1
  · rw [step_eq, hx, stepR, hg, hst']
    dsimp only
    rw [timeStep_rLeaf, stmtTimes_getD prog 0 pc x hx, hk, resolve_cur]
    exact exec_rel env prog hx hl _ (bump_time_ge _ _)

theorem rel_end {prog : List Leaf} {pc k : Nat} {st st' : VmState} (hpc : pc ≥ prog.length) (h : Rel prog pc st k st') :
    st' = st ∧ k ≥ (resolve prog).length := by
  obtain ⟨hk, hst, hor⟩ := h
  have hnone : prog[pc]? = none := List.getElem?_eq_none hpc
  constructor
  · rcases hor with ⟨y, hy, _⟩ | h
    · rw [hnone] at hy; cases hy
    · rw [hst, bump_of_le h]
  · rw [hk, List.take_of_length_le hpc, resolve_length]; exact Nat.le_refl _

theorem run_to_runR (env : VmEnv) (prog : List Leaf) (fuel pc : Nat) (st : VmState) (k : Nat) (st' r : VmState)
    (hrel : Rel prog pc st k st') (h : runFlat env prog (stmtTimes prog 0) fuel pc st = some r) :
    ∃ fuel', runR env (resolve prog) fuel' k st' = some r := by
  induction fuel generalizing pc st k st' with
  | zero => cases h
  | succ fuel ih =>
    unfold runFlat at h
    split at h
    · rename_i hpc
      cases h
      obtain ⟨e, hk⟩ := rel_end hpc hrel
      exact ⟨1, by unfold runR; rw [if_pos hk, e]⟩
    · rename_i hpc
      have hlt : pc < prog.length := Nat.lt_of_not_le hpc
      have hx : prog[pc]? = some prog[pc] := List.getElem?_eq_getElem hlt
      cases hl : isLab prog[pc] with
      | true =>
        obtain ⟨hs, hrel'⟩ := rel_lab_step hx hl hrel env
        rw [hs] at h
        exact ih _ _ _ _ hrel' h
      | false =>
        obtain ⟨e, hk, hres⟩ := rel_code_step hx hl hrel env
        rcases hres.cases with ⟨hs, -⟩ | ⟨pc1, st1, k1, st1', hs, hr, hrel'⟩
        · rw [hs] at h; cases h
        · rw [hs] at h
          obtain ⟨f, hf⟩ := ih _ _ _ _ hrel' h
          exact ⟨f + 1, by unfold runR; rw [if_neg (Nat.not_le_of_lt hk), hr]; exact hf⟩

/-- the flat machine needs extra steps for the labels it walks over: induction on the fuel of the
machine on resolved code and, between two of its steps, on the distance `m` to the end of the program -/
theorem runR_to_run (env : VmEnv) (prog : List Leaf) : ∀ (fuel m pc : Nat) (st : VmState) (k : Nat) (st' r : VmState),
    prog.length - pc ≤ m → Rel prog pc st k st' → runR env (resolve prog) fuel k st' = some r →
    ∃ fuel', runFlat env prog (stmtTimes prog 0) fuel' pc st = some r := by
  intro fuel
  induction fuel with
  | zero => intro m pc st k st' r _ _ h; cases h
  | succ fuel ihf =>
    have hend : ∀ (pc : Nat) (st : VmState) (k : Nat) (st' r : VmState), pc ≥ prog.length → Rel prog pc st k st' →
        runR env (resolve prog) (fuel + 1) k st' = some r →
        ∃ fuel', runFlat env prog (stmtTimes prog 0) fuel' pc st = some r := by
      intro pc st k st' r hpc hrel h
      obtain ⟨e, hk⟩ := rel_end hpc hrel
      unfold runR at h
      rw [if_pos hk] at h
      cases h
      exact ⟨1, by unfold runFlat; rw [if_pos hpc, e]⟩
    intro m
    induction m with
    | zero => intro pc st k st' r hm hrel h; exact hend pc st k st' r (Nat.le_of_sub_eq_zero (Nat.le_zero.mp hm)) hrel h
    | succ m ihm =>
      intro pc st k st' r hm hrel h
      by_cases hpc : pc ≥ prog.length
      · exact hend pc st k st' r hpc hrel h
      · have hlt : pc < prog.length := Nat.lt_of_not_le hpc
        have hx : prog[pc]? = some prog[pc] := List.getElem?_eq_getElem hlt
        cases hl : isLab prog[pc] with
        | true =>
          obtain ⟨hs, hrel'⟩ := rel_lab_step hx hl hrel env
          obtain ⟨f, hf⟩ := ihm (pc + 1) _ k st' r (by rw [Nat.sub_add_eq]; exact Nat.sub_le_of_le_add hm) hrel' h
          exact ⟨f + 1, by unfold runFlat; rw [if_neg hpc, hs]; exact hf⟩
        | false =>
          obtain ⟨e, hk, hres⟩ := rel_code_step hx hl hrel env
          unfold runR at h
          rw [if_neg (Nat.not_le_of_lt hk)] at h
          rcases hres.cases with ⟨-, hr⟩ | ⟨pc1, st1, k1, st1', hs, hr, hrel'⟩
          · rw [hr] at h; cases h
          · rw [hr] at h
            obtain ⟨f, hf⟩ := ihf prog.length pc1 st1 k1 st1' r (Nat.sub_le _ _) hrel' h
            exact ⟨f + 1, by unfold runFlat; rw [if_neg hpc, hs]; exact hf⟩

theorem rel_start (prog : List Leaf) {st : VmState} (h0 : 0 ≤ st.time) : Rel prog 0 st 0 st :=
  ⟨rfl, (bump_of_le h0).symm, .inr h0⟩

theorem run_iff_runR (env : VmEnv) (prog : List Leaf) {st : VmState} (h0 : 0 ≤ st.time) (r : VmState) :
    (∃ fuel, run env prog fuel st = some r) ↔ (∃ fuel, runR env (resolve prog) fuel 0 st = some r) := by
  constructor
  · rintro ⟨fuel, h⟩
    exact run_to_runR env prog fuel 0 st 0 st r (rel_start prog h0) h
  · rintro ⟨fuel, h⟩
    exact runR_to_run env prog fuel prog.length 0 st 0 st r (Nat.le_refl _) (rel_start prog h0) h

theorem run_congr (env : VmEnv) {p q : List Leaf} (h : resolve p = resolve q) {st : VmState} (h0 : 0 ≤ st.time)
    (r : VmState) : (∃ fuel, run env p fuel st = some r) ↔ (∃ fuel, run env q fuel st = some r) := by
  rw [run_iff_runR env p h0, run_iff_runR env q h0, h]

end TruthModel.Decomp
