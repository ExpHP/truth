/-
C07, semantic half: `decompile_loop` preserves the resolved code (`decompileLoop_sem`).  A loop step
replaces `l: body; goto l` by `l: loop { body }`; the back jump of the lowered loop goes to the code
index of the loop, which is where `l` stands.
-/
import TruthModel.Lemmas.DecompDen
import TruthModel.Lemmas.DecompLoop
namespace TruthModel.Decomp
open List

theorem denAtom_inv_label {pos : Nat → Option Nat} {f : Nat → Nat} {dl : Option String} {l o : Nat}
    (h : InvS pos f (.atom dl (.label l)) o) : pos l = some o := h

theorem BackJump.res {l i : Nat} {a : Atom} {k : Kind} (h : BackJump l i a k) {pos : Nat → Option Nat} {f : Nat → Nat}
    {o : Nat} {body : List Stmt} (hl : pos l = some o) (hf : o + clenL body = f i) (hb : InvL pos f body o)
    (hnb : NoBrkA (atomsL body)) : Res pos f (body ++ [.atom none a]) [.node k body] o := by
  refine ⟨fun brk => ?_, ?_, ?_⟩
  · rw [denL_append, denL_nobrk pos brk (some (o + clenL body + 1)) body o hnb]
    cases h with
    | loop => simp only [denL_cons, denL_nil, denS_loop, denS_atom, denAtom, denJ, rj, hl, List.append_nil]
    | doWhile c => simp only [denL_cons, denL_nil, denS_doWhile, denS_atom, denAtom, denJ, rj, hl, normCond_if, List.append_nil]
  · cases h with
    | loop => exact ⟨⟨hf, hb⟩, trivial⟩
    | doWhile c => exact ⟨⟨hf, hb⟩, trivial⟩
  · cases h with
    | loop => simp [clenL_append, clenAtom]
    | doWhile c => simp [clenL_append, clenAtom]

theorem loopStep_sem {pos : Nat → Option Nat} {f : Nat → Nat} {ss : Block} (hf : ∀ c, f c = clenL (ss.take c))
    (hinv0 : InvL pos f ss 0) (hnb : NoBrkA (atomsL ss)) {n : Nat} {st st' : ScanState} {d a}
    (hlinv : LInv ss n st) (hs : ss[n]? = some (.atom d a))
    (hsem : Res pos f (ss.take n) st.out 0 ∧ NoBrkA (atomsL st.out))
    (h : loopStep ss (interruptIndices ss) st n (.atom d a) = .ok st') :
    Res pos f (ss.take (n + 1)) st'.out 0 ∧ NoBrkA (atomsL st'.out) := by
  obtain ⟨r, rnb⟩ := hsem
  rw [take_succ_of_getElem hs]
  have hnba : NoBrkA [(d, a)] := fun p hp =>
    hnb p (mem_atomsL.mpr ⟨.atom d a, List.mem_of_getElem? hs, hp⟩)
  have hpush : Res pos f (ss.take n ++ [.atom d a]) (st.out ++ [.atom d a]) 0 :=
    Res.append r (Res.rfl ⟨inv_at hinv0 hs, trivial⟩)
  rcases loopStep_shape hlinv h with h1 | ⟨pre, dl, l, body, k, h1, rfl, hbj, h3⟩
  · rw [h1, atomsL_append, NoBrkA.append]; exact ⟨hpush, rnb, hnba⟩
  · -- a loop is folded: `pre ++ [l:] ++ body ++ [jump]` becomes `pre ++ [l:, loop { body }]`
    have hi := r.inv
    rw [h1, InvL_append, InvL_cons] at hi
    obtain ⟨hi1, hi2, hi3⟩ := hi
    rw [h1, atomsL_append, NoBrkA.append, atomsL_cons, NoBrkA.append] at rnb
    have hfn : 0 + clenL pre + clenS (.atom dl (.label l)) + clenL body = f n := by
      rw [hf n, ← r.clen, h1, clenL_append, clenL_cons, Nat.zero_add, Nat.add_assoc]
    rw [h3, atomsL_append, NoBrkA.append]
    refine ⟨hpush.trans ?_, rnb.1, ?_⟩
    · rw [h1, List.append_assoc]
      exact Res.append (Res.rfl hi1) (Res.append (xs := [.atom dl (.label l)]) (Res.rfl ⟨hi2, trivial⟩)
        (hbj.res hi2 hfn hi3 rnb.2.2))
    · rw [atomsL_cons, NoBrkA.append, atomsL_cons, atoms_node, atomsL_nil, List.append_nil]
      exact rnb.2

theorem decompileLoop_sem {pos : Nat → Option Nat} {f : Nat → Nat} {ss a : Block} (hflat : Flat ss)
    (hf : ∀ c, f c = clenL (ss.take c)) (hinv0 : InvL pos f ss 0) (hnb : NoBrkA (atomsL ss))
    (h : decompileLoop ss = .ok a) : Res pos f ss a 0 := by
  obtain ⟨st, hst, rfl⟩ := decompileLoop_ok h
  have := (loopScan_flat_ind hflat (P := fun n st => Res pos f (ss.take n) st.out 0 ∧ NoBrkA (atomsL st.out))
    ⟨Res.rfl trivial, fun p hp => nomatch hp⟩ (fun _ _ _ _ _ hsn hl ih hs => loopStep_sem hf hinv0 hnb hl hsn ih hs)
    ss.length st (Nat.le_refl _) hst).2
  rw [List.take_length] at this
  exact this.1

end TruthModel.Decomp
