import TruthModel.Props.C03
open TruthModel.C03
#print axioms write_err_iff_not_fits
#print axioms write_ok_iff_fits
#print axioms write_no_panic
#print axioms rdU8_u8
#print axioms rdU16_u16
#print axioms rdU32_u32
#print axioms rdI16_i16
#print axioms rdI32_i32
#print axioms rdI16_u16
#print axioms rdBytes_append
#print axioms stored_iff_norm
#print axioms read_write_msg
#print axioms read_write_anm07
#print axioms read_write_std06
#print axioms read_write_std10
#print axioms read_write_ecl06
#print axioms read_write_ecl07
#print axioms read_write_tl06
#print axioms read_write_tl06_terminal
#print axioms read_write_tl08
#print axioms read_write_norm
#print axioms read_write
#print axioms read_write_iff
#print axioms expectedRes_inj
#print axioms write_injective_tl06
#print axioms write_injective
#print axioms write_length
#print axioms readInstrsAux_succ
#print axioms readInstrs_writeInstrs
#print axioms readInstrs_writeInstrs_partial
-- container level (Props/C03Files.lean)
#print axioms Decides.err_iff
#print axioms Decides.no_panic
#print axioms rdU32s_u32s
#print axioms readStr_writeStr
#print axioms writeStr_err_iff
#print axioms writeMissionLines_read
#print axioms readMissionEntry_write
#print axioms mission_read_write
#print axioms mission_write_err_iff
#print axioms readQuad_writeQuad
#print axioms readObject_writeObject
#print axioms readObjectsAux_write
#print axioms readExtra_writeExtra
#print axioms readInstances_write
#print axioms std_read_write
#print axioms std_write_err_iff
#print axioms sortU_eq
#print axioms readEndAux_write_msg
#print axioms readMsgScripts_write
#print axioms readMsgTableAux_write
#print axioms msg_read_write
#print axioms msg_write_err_iff
#print axioms read_terminal_append
#print axioms readInstrs_writeInstrs_append
#print axioms readScriptsAt_write
#print axioms ecl_read_write
#print axioms ecl_write_err_iff
#print axioms ecl_write_ok_counts_fit
#print axioms ecl_write_rejects_65536_subs
-- ANM container (Props/C03Anm.lean)
#print axioms rdFields_wrFields
#print axioms readAnmHeader_write
#print axioms readCStr16Aux_nullPad
#print axioms readAnmStr_write
#print axioms readSprite_write
#print axioms readSpritesAux_write
#print axioms rdScriptTableAux_write
#print axioms readTexture_write
#print axioms minAbove_some
#print axioms minAbove_none
#print axioms readCStr16Aux_of_blockwise
#print axioms readScript_write
#print axioms readAnmScriptsAux_write
#print axioms writeAnmEntry_wrote
#print axioms readAnmHeader_entry
#print axioms readAnmEntry_write
#print axioms readAnmLoop_write
#print axioms stripEntries_raw
#print axioms anm_read_write
#print axioms anmHeaderFits_iff
#print axioms writeAnmEntries_wrote
#print axioms anm_write_err_iff
#print axioms anm_write_panics_without_metadata
#print axioms anm_thtx_dimension_rejected
#print axioms anm_image_under_at_path_unreadable
#print axioms anm_path2_rejected_new_header
#print axioms anm_specs_rejected_by_layout
#print axioms anm_write_check_order
#print axioms anm_v0_multi_entry_ambiguity
#print axioms anmLayoutHolds_iff
#print axioms texFits_iff
#print axioms writeAnmTexture_wrote
#print axioms representable_of_fits
#print axioms anm_write_diagnoses_misfit
#print axioms anm_write_diagnoses_misfit_partial
#print axioms anm_write_diagnoses_misfit_full_false
-- stack ECL, TH10 and later (Props/C03Ecl10.lean)
#print axioms write10_err_iff_not_fits
#print axioms write10_ok_iff_fits
#print axioms write10_no_panic
#print axioms write10_length
#print axioms read_write10
#print axioms write10_injective
#print axioms readInstrs10Aux_write
#print axioms readInstrs10_writeInstrs10
#print axioms writeInstrs10_decides
#print axioms readCStr1_write
#print axioms strListBody_count
#print axioms padLen_mod
#print axioms readStrsAux_write
#print axioms readStringList_write
#print axioms string_list_roundtrip
#print axioms string_list_wrong_padding_breaks
#print axioms encAll_wrote
#print axioms readStringList_strListBytes
#print axioms readInclude_write
#print axioms writeSubs10_wrote
#print axioms readSubsAux_write
#print axioms readEcl10_header
#print axioms ecl10_read_write
#print axioms writeInclude_wrote
#print axioms writeEcl10_wrote
#print axioms readEcl10_write
#print axioms ecl10_write_err_iff
#print axioms ecl10_write_no_panic
#print axioms ecl10_write_ok_no_narrowing
#print axioms encAll_nul_free
#print axioms ecl10_nul_in_name_rejected
#print axioms ecl10_write_ok_nul_free
#print axioms ecl10_read_write_full
#print axioms ecl10_read_write_needs_codec_law
