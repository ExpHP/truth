import TruthModel.Props.C08
open TruthModel.C08
#print axioms digitVal_digitChar
#print axioms natDigitsAux_fuel
#print axioms natDigits_lt
#print axioms natDigits_ge
#print axioms parseDigits_natDigits
#print axioms natDigits_mem
#print axioms fromStrRadix_natDigits
#print axioms intTok_dec
#print axioms intTok_radix
#print axioms lex_intTok
#print axioms lex_minus_intTok
#print axioms litIntUnsigned_dec
#print axioms litIntUnsigned_hex
#print axioms litIntUnsigned_bin
#print axioms int_print_parse
#print axioms printInt_head_minus_iff
#print axioms printInt_nonneg_no_minus
#print axioms lexOne_minus_minus
#print axioms unary_glue_minus
#print axioms unary_glue_minus_witness
#print axioms unary_glue_min_witness
#print axioms unary_glue_not
#print axioms unary_glue_not_witness
#print axioms unary_glue_not_negative
#print axioms unescapeLoop_escapeBody
#print axioms string_escape_roundtrip
#print axioms strBodyLen_escapeBody
#print axioms lexOne_escapeString
#print axioms string_print_lex_parse
#print axioms inl_ess
#print axioms blk_ess
#print axioms layout_tokens
#print axioms layout_width_independent
#print axioms printed_scripts_parse_back_partial
#print axioms printInt_shape
#print axioms pLevel_of_unary
#print axioms pLevel_lift
#print axioms pVar_varToks
#print axioms good
#print axioms expr_print_parse_fuel
#print axioms expr_print_parse_sup_fuel
#print axioms expr_print_parse_in_context
#print axioms cost_le
#print axioms fuel_suffices
#print axioms expr_print_parse
#print axioms expr_print_parse_sup
#print axioms toksOf_printP
#print axioms expr_print_parse_text
#print axioms print_norm
#print axioms expr_print_idempotent
#print axioms expr_print_parse_print
#print axioms xinl_ess
#print axioms xblk_ess
#print axioms expr_layout_tokens
#print axioms expr_layout_width_independent
#print axioms docs_toks
#print axioms expr_layout_printExpr
#print axioms glue_sites_fail
#print axioms negative_literal_gains_parens
#print axioms cl_bad_of_sk
#print axioms exprAt_print
#print axioms exprNCAt_print
#print axioms itemsAt_print
#print axioms lead_of_pUnary
#print axioms pKind_head
#print axioms pKind_print
#print axioms pItemsB_print
#print axioms pChain_print
#print axioms needK_le
#print axioms stmt_print_parse_in_context
#print axioms stmt_print_parse
#print axioms block_print_parse
#print axioms stmt_print_parse_text
#print axioms printKind_norm
#print axioms stmt_print_idempotent
#print axioms block_print_idempotent
#print axioms stmt_print_parse_print
#print axioms block_print_parse_print
#print axioms rKind_toks
#print axioms stmt_layout_tokens
#print axioms block_layout_tokens
#print axioms stmt_layout_width_independent
#print axioms block_layout_width_independent
#print axioms stmt_print_parse_at_width
#print axioms block_print_parse_at_width
#print axioms rel_label_plus_glue
#print axioms label_break_panics
#print axioms stmts_parse_back_full_false
#print axioms stmts_parse_back_partial
#print axioms xblkSeq_flat
#print axioms exprDocs_flat
#print axioms rKind_ok
#print axioms stmt_renders
#print axioms block_renders
#print axioms stmt_print_parse_every_width
#print axioms block_print_parse_every_width
