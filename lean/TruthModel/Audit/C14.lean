import TruthModel.Props.C14Raise
open TruthModel.C14
#print axioms label_parse
#print axioms inv_default
#print axioms defineFlag_inv
#print axioms defineFromMapfile_inv
#print axioms reachable_inv
#print axioms label_parse_reachable
#print axioms label_parse_mapfile
#print axioms dup_name_rejected
#print axioms ranges_cover
#print axioms selArg_flat
#print axioms selArg_ok
#print axioms selArg_stable
#print axioms metaArg_spec
#print axioms expand_exactly_one
#print axioms checkLens_ok
#print axioms expand_exactly_one_full
#print axioms explicitCases_spec
#print axioms assign_exactly_one
#print axioms contiguous_is_range
#print axioms gather_chain
#print axioms fold_lowers
#print axioms fold_spec
#print axioms perform_partition
#print axioms recognize_sound
#print axioms recognize_preserves_times
#print axioms recognize_no_fold_across_label
#print axioms recognize_fold_masks
#print axioms valEq_eq
#print axioms fold_fallback_lowers
#print axioms signed_zero_ladder_roundtrips
#print axioms unraisable_ladder_roundtrips
#print axioms gather_of_chain
#print axioms recognize_expand
#print axioms lowerStmt_canonical
#print axioms recognize_expand_script
#print axioms canonI_canonical
