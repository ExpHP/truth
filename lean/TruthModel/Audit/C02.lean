import TruthModel.Props.C02
open TruthModel.C02
#print axioms neg_one_mul
#print axioms neg_one_sub
#print axioms alternatives_sound
#print axioms assignAlt_viaBinOp
#print axioms lowerSet_sound
#print axioms lowerAssign_sound_partial
#print axioms temps_sound
#print axioms lowerCall_sound_partial
#print axioms lowerSetJ_eq
#print axioms TruthModel.Lower.execFrag_append
#print axioms TruthModel.Lower.execFrag_reach
#print axioms TruthModel.Lower.execJ_of_reach
#print axioms negateCmp_int
#print axioms lowerCountJmp_sound
#print axioms lowerCondJump_sound
#print axioms lowerCondJump_reach
#print axioms lowerTernary_sound
#print axioms nan_negation_witness
#print axioms loc_order_drops_time
#print axioms TruthModel.Lower.shapeAt
#print axioms TruthModel.Lower.shape_lowerStmtJ
#print axioms TruthModel.Lower.execFrag_reachT
#print axioms TruthModel.Lower.execT_of_reachT
#print axioms TruthModel.Lower.frag_at
#print axioms TruthModel.Lower.label_corr
#print axioms TruthModel.Lower.body_sim
#print axioms runStmtS_eq
#print axioms stmtSim_int
#print axioms lowerBody_sound
#print axioms lowerBody_sound_init
#print axioms TruthModel.Lower.execInstr_rename
#print axioms TruthModel.Lower.stepJ_rename
#print axioms TruthModel.Lower.scanJ_of_assign
#print axioms TruthModel.Lower.assign_preserves_execT
#print axioms TruthModel.Lower.initOK_linear
#print axioms assign_preserves_exec
#print axioms assign_preserves_exec_straight
#print axioms lowerBody_assigned_sound
#print axioms TruthModel.Lower.execFrag_reachTn
#print axioms TruthModel.Lower.sim_step
#print axioms TruthModel.Lower.body_diverges
#print axioms runJS_fuel_of_stepsS
#print axioms lowerBody_diverges
#print axioms soundT
#print axioms lowerSetT_sound
#print axioms lowerCondT_sound
#print axioms lowerAssignT_sound
#print axioms lowerCallT_sound
#print axioms stmtSim_intT
#print axioms lowerBodyT_sound
#print axioms lowerBodyT_diverges
