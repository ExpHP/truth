import TruthModel.Props.C16
open TruthModel.C16
#print axioms readInstr_shape
#print axioms readInstr_no_panic
#print axioms readInstr_err
#print axioms readInstr_consumes
#print axioms readInstr_alloc_bound
#print axioms readInstrs_fuel_suffices
#print axioms readInstrs_no_panic
#print axioms readInstrs_total
-- container level (Props/C16Files.lean)
#print axioms msg_read_no_panic
#print axioms msg_read_total
#print axioms std_read_no_panic
#print axioms std_read_total
#print axioms mission_read_no_panic
#print axioms mission_read_total
#print axioms ecl_read_no_panic
#print axioms ecl_read_formerly_panicking_input
#print axioms ecl_read_total
#print axioms readInstrs_size_bound
#print axioms readInstrsEnd_size_bound
#print axioms mission_read_alloc_bound
#print axioms std_read_alloc_bound
#print axioms std_read_alloc_bound_total
#print axioms ecl_read_alloc_bound
#print axioms msg_read_alloc_bound_partial
#print axioms std_alloc_amplification
-- ANM container (Props/C16Anm.lean, Props/C16AnmAmpl.lean)
#print axioms readAnmEntry_ok
#print axioms anm_read_panic_only_counter
#print axioms anm_read_no_panic_partial
#print axioms anm_read_err
#print axioms anm_read_total
#print axioms anm_entry_chain_terminates
#print axioms anm_entry_loop_check_dead
#print axioms anm_read_alloc_bound_partial
#print axioms anm_alloc_amplification_texture
#print axioms anm_alloc_amplification_script
#print axioms anm_shared_texture_reads
#print axioms anm_read_alloc_bound_full_false
-- stack ECL, TH10 and later (Props/C16Ecl10.lean)
#print axioms readInstr10_no_panic
#print axioms readInstr10_err
#print axioms readInstr10_consumes
#print axioms readInstr10_alloc_bound
#print axioms readInstrs10_no_panic
#print axioms readInstrs10_fuel_suffices
#print axioms readInstrs10_total
#print axioms readInstrs10_exact
#print axioms readCStr1_blockwise
#print axioms readStringList_len
#print axioms readSub10_exact
#print axioms ecl10_asserts_dead
#print axioms ecl10_read_no_panic
#print axioms ecl10_read_err
#print axioms ecl10_read_total
#print axioms insertSub_nodup
#print axioms subsCost_insertSub
#print axioms readSubsAux_tiles
#print axioms ecl10_read_alloc_bound
