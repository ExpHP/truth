-- Root of the library: everything that `lake build TruthModel` must check.

-- models (executable, core Lean only) and the line-protocol driver
import TruthModel.Model.Basic
import TruthModel.Model.Ops
import TruthModel.Model.Expr
import TruthModel.Driver.Sexp
import TruthModel.Driver.Native
import TruthModel.Driver.C11
import TruthModel.Model.InstrIO
import TruthModel.Driver.C03
import TruthModel.Model.Files
import TruthModel.Model.FilesEcl
import TruthModel.Driver.Files
import TruthModel.Driver.C17
import TruthModel.Model.Pixels
import TruthModel.Model.TimeDelta
import TruthModel.Driver.C13
import TruthModel.Driver.C13X
import TruthModel.Model.Time
import TruthModel.Driver.C14
import TruthModel.Model.Diff
import TruthModel.Model.DiffRaise
import TruthModel.Driver.C14Raise
import TruthModel.Driver.C06
import TruthModel.Model.Blocks
import TruthModel.Driver.C10
import TruthModel.Model.Scope
import TruthModel.Driver.C12
import TruthModel.Model.Abi
import TruthModel.Model.AbiParts
import TruthModel.Driver.C12Parts
import TruthModel.Driver.C15
import TruthModel.Driver.C07
import TruthModel.Model.Decomp
import TruthModel.Model.DecompSem
import TruthModel.Driver.C09
import TruthModel.Model.Types
import TruthModel.Driver.C05
import TruthModel.Model.Regs
import TruthModel.Model.Lower
import TruthModel.Model.LowerSem
import TruthModel.Driver.Lw
import TruthModel.Model.BodySem
import TruthModel.Driver.C02Body
import TruthModel.Driver.C02
import TruthModel.Driver.C20
import TruthModel.Model.Ids
import TruthModel.Driver.C18
import TruthModel.Model.Offsets
import TruthModel.Model.MsgTable
import TruthModel.Driver.C08
import TruthModel.Model.Fmt
import TruthModel.Model.LowerJumps
import TruthModel.Model.RoundTrip
import TruthModel.Driver.C01
import TruthModel.Model.FmtExpr
import TruthModel.Model.FmtStmt
import TruthModel.Model.Diag
import TruthModel.Model.Pipeline
import TruthModel.Driver.C04
import TruthModel.Model.FilesAnm
import TruthModel.Driver.FilesAnm
import TruthModel.Model.InstrIO10
import TruthModel.Model.FilesEcl10
import TruthModel.Driver.FilesEcl10
-- the model's `?` (shared by the proofs)
import TruthModel.Lemmas.Outcome
-- C02, C05: lowering, the machines, register assignment
import TruthModel.Props.C05
import TruthModel.Lemmas.LowerShape
import TruthModel.Lemmas.BodyVM
import TruthModel.Lemmas.BodySim
import TruthModel.Lemmas.RegRename
import TruthModel.Lemmas.LowerExprSound
import TruthModel.Lemmas.LowerStmtSound
import TruthModel.Props.C02
import TruthModel.Lemmas.LowerJumps
-- C03, C16: instruction streams and containers
import TruthModel.Lemmas.Readers
import TruthModel.Props.C03Instr
import TruthModel.Props.C16Instr
import TruthModel.Props.C16Files
import TruthModel.Props.C03Files
import TruthModel.Props.C03
import TruthModel.Props.C16
import TruthModel.Props.C16Anm
import TruthModel.Props.C03Anm
import TruthModel.Props.C16AnmAmpl
import TruthModel.Props.C16Ecl10
import TruthModel.Props.C03Ecl10
-- C06: blocks to labels and jumps
import TruthModel.Props.C06
import TruthModel.Lemmas.Blocks
import TruthModel.Lemmas.BlocksSim
import TruthModel.Lemmas.BlocksMain
import TruthModel.Lemmas.BlocksStruct
import TruthModel.Lemmas.BlocksRun
-- C07: recovering loops and conditionals
import TruthModel.Props.C07
import TruthModel.Lemmas.Decomp
import TruthModel.Lemmas.DecompLoop
import TruthModel.Lemmas.DecompIfElse
import TruthModel.Lemmas.DecompVm
import TruthModel.Lemmas.DecompDen
import TruthModel.Lemmas.DecompLower
import TruthModel.Lemmas.DecompLoopSem
import TruthModel.Lemmas.DecompChainSem
import TruthModel.Lemmas.DecompBreakSem
import TruthModel.Lemmas.DecompSem
-- C08: printing and parsing
import TruthModel.Lemmas.FmtLit
import TruthModel.Lemmas.FmtLayout
import TruthModel.Lemmas.FmtExprParse
import TruthModel.Lemmas.FmtStmtLayout
import TruthModel.Lemmas.FmtStmtParse
import TruthModel.Props.C08
-- C09, C04: type checker, diagnostics
import TruthModel.Props.C09
import TruthModel.Lemmas.Types
import TruthModel.Props.C04
-- C10: scopes
import TruthModel.Props.C10
import TruthModel.Lemmas.Scope
import TruthModel.Lemmas.ScopeIds
import TruthModel.Lemmas.ScopeRename
-- C12, C15: argument codec; C01: flat round trip
import TruthModel.Props.C01
import TruthModel.Props.C12
import TruthModel.Props.C12Parts
import TruthModel.Lemmas.Abi
import TruthModel.Props.C15
import TruthModel.Lemmas.RoundTrip
-- C11, C13, C14, C17, C18, C19, C20
import TruthModel.Lemmas.Digits
import TruthModel.Props.C11
import TruthModel.Props.C17
import TruthModel.Props.C13
import TruthModel.Lemmas.DiffBits
import TruthModel.Lemmas.DiffArgs
import TruthModel.Props.C14
import TruthModel.Props.C14Raise
import TruthModel.Props.C19
import TruthModel.Props.C20
import TruthModel.Props.C18
import TruthModel.Props.C18Msg
import TruthModel.Props.C18MsgFile
